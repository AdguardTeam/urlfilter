-- Root of the library: everything that must build (driver, model, specs, proofs, property theorems).
import UF.Driver.Dispatch
import UF.Props.C01
import UF.Props.C01Compose
import UF.Props.C02
import UF.Props.C02Compose
import UF.Props.C02Top
import UF.Props.C03
import UF.Props.C03Full
import UF.Props.C03Quirk
import UF.Props.C04
import UF.Props.C04Full
import UF.Props.C04Perm
import UF.Props.C04Quirk
import UF.Props.C04Text
import UF.Props.C04Wide
import UF.Props.C05
import UF.Props.C05Full
import UF.Props.C05Quirk
import UF.Props.C06
import UF.Props.C06Top
import UF.Props.C06TopMore
import UF.Props.C07
import UF.Props.C07Text
import UF.Props.C07TextExact
import UF.Props.C08
import UF.Props.C08Engine
import UF.Props.C08Order
import UF.Props.C08Text
import UF.Props.C09
import UF.Props.C09Text
import UF.Props.C10
import UF.Props.C10Full
import UF.Props.C11
import UF.Props.C11Compose
import UF.Props.C12
import UF.Props.C12Engine
import UF.Props.C12Full
import UF.Props.C13
import UF.Props.C13Engine
import UF.Props.C13Queries
import UF.Props.C14
import UF.Props.C14Engine
import UF.Props.C14Sections
import UF.Props.C15
import UF.Props.C15Compose
import UF.Props.C16
import UF.Props.C16Top
import UF.Props.C16TopRaw
import UF.Props.C17
import UF.Props.C17Top
import UF.Props.C18
import UF.Props.C18Full
import UF.Props.C19
import UF.Props.C19Composed
import UF.Props.C19Engine
import UF.Props.C20
