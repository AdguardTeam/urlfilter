import UF.Model.ParseOptions
import UF.Proofs.ParseTotal
import UF.Proofs.ParsePerm
/-
  The TEXT-LEVEL splitters of `NewNetworkRule` on text that was JOINED from pieces: `parseRuleText` finds the one
  `$`, `splitWithEscapeCharacter` gives back the separated pieces, `loadOptionsStep` cuts `name=value` at the
  first `=`.  The pieces may contain the escape character as long as it is harmless — every backslash is followed
  by a byte that is neither the separator nor a backslash (`escOK`), as in the quoted client name
  `'Frank\'s laptop'`: `splitWithEscapeCharacter` then copies the backslash and the byte after it.

  These lemmas are what lets a reference written on STRUCTURED modifier data (UF/Compose5/Grammar.lean,
  UF/Compose5/GrammarW.lean) be compared with the parser model run on the rendered text.
-/
namespace UF.L
open UF UF.E Bytes

/-! ### `splitWithEscapeCharacter` on text with harmless escapes -/

/-- Every escape character is followed by a byte that is neither the separator nor the escape character. -/
def escOK (sep esc : UInt8) : Bytes → Bool
  | [] => true
  | c :: t =>
    if c == esc then
      match t with
      | [] => false
      | d :: t' => d != sep && d != esc && escOK sep esc t'
    else escOK sep esc t

/-- The loop of `splitWithEscapeCharacter … preserveAllTokens = false` on `escOK` text: an escape character and
    the byte after it are copied. -/
def simpleSplit (sep esc : UInt8) : Bytes → Bytes → List Bytes → Bytes × List Bytes
  | [], sb, parts => (sb, parts)
  | c :: t, sb, parts =>
    if c == esc then
      match t with
      | [] => (sb, parts)
      | d :: t' => simpleSplit sep esc t' ((sb ++ [esc]) ++ [d]) parts
    else if c == sep then
      (if sb.length > 0 then simpleSplit sep esc t [] (parts ++ [sb]) else simpleSplit sep esc t sb parts)
    else simpleSplit sep esc t (sb ++ [c]) parts

theorem idxC_of_drop {str : Bytes} {i : Nat} {c : UInt8} {t : Bytes} (h : str.drop i = c :: t) :
    idxC str i = .ok c ∧ str.drop (i + 1) = t ∧ i < str.length := by
  have hlt : i < str.length := by
    by_cases hi : i < str.length
    · exact hi
    · rw [List.drop_eq_nil_of_le (Nat.le_of_not_lt hi)] at h; cases h
  have h0 : (str.drop i)[0]? = some c := by rw [h]; rfl
  rw [List.getElem?_drop] at h0
  refine ⟨?_, ?_, hlt⟩
  · unfold idxC
    rw [show str[i]? = some c by simpa using h0]
    rfl
  · rw [← List.tail_drop, h]; rfl

theorem escOK_cons_ne {sep esc c : UInt8} (t : Bytes) (h : c ≠ esc) :
    escOK sep esc (c :: t) = escOK sep esc t := by
  cases t <;> simp [escOK, h]

/-- On `escOK` text the fuel loop of the model is the structural recursion `simpleSplit`. -/
theorem splitEscLoop_simple (str : Bytes) (sep esc : UInt8) (rest sb : Bytes) (parts : List Bytes) :
    ∀ (fuel i : Nat), escOK sep esc rest = true → str.drop i = rest → rest.length ≤ fuel →
      splitEscLoop str sep esc false fuel i sb false parts = .ok (simpleSplit sep esc rest sb parts) := by
  fun_induction simpleSplit sep esc rest sb parts with
  | case1 sb parts =>
    intro fuel i _ hd _
    have hi : i ≥ str.length := List.drop_eq_nil_iff.1 hd
    cases fuel with
    | zero => rfl
    | succ f => simp only [splitEscLoop, hi, if_true]; rfl
  | case2 c sb parts hce => intro fuel i hok; simp [escOK, hce] at hok
  | case3 c sb parts hce d t' ih =>
    -- an escape character takes two iterations of the loop: the second one copies the byte after it
    intro fuel i hok hd hl
    simp only [escOK, hce, if_true, Bool.and_eq_true, bne_iff_ne, ne_eq] at hok
    obtain ⟨hc, hd', hlt⟩ := idxC_of_drop hd
    obtain ⟨hc2, hd2, hlt2⟩ := idxC_of_drop hd'
    match fuel, hl with
    | f + 2, hl =>
      have hi : ¬ i ≥ str.length := by omega
      have hi2 : ¬ i + 1 ≥ str.length := by omega
      simp only [splitEscLoop, hi, if_false, hc, bind, Except.bind, hce, if_true, hi2, hc2,
        beq_false_of_ne hok.1.2, beq_false_of_ne hok.1.1, Bool.false_eq_true]
      exact ih f (i + 1 + 1) hok.2 hd2 (by simp at hl; omega)
  | case4 c t sb parts hce hcs hsb ih | case5 c t sb parts hce hcs hsb ih =>
    intro fuel i hok hd hl
    obtain ⟨hc, hd', hlt⟩ := idxC_of_drop hd
    match fuel, hl with
    | f + 1, hl =>
      have hi : ¬ i ≥ str.length := by omega
      simp only [splitEscLoop, hi, if_false, hc, bind, Except.bind, hce, Bool.false_eq_true, hcs, if_true,
        Bool.false_or, hsb, decide_true, decide_false]
      exact ih f (i + 1) (escOK_cons_ne t (ne_of_beq_false (Bool.eq_false_iff.2 hce)) ▸ hok) hd' (by simp at hl; omega)
  | case6 c t sb parts hce hcs ih =>
    intro fuel i hok hd hl
    obtain ⟨hc, hd', hlt⟩ := idxC_of_drop hd
    match fuel, hl with
    | f + 1, hl =>
      have hi : ¬ i ≥ str.length := by omega
      simp only [splitEscLoop, hi, if_false, hc, bind, Except.bind, hce, Bool.false_eq_true, hcs]
      exact ih f (i + 1) (escOK_cons_ne t (ne_of_beq_false (Bool.eq_false_iff.2 hce)) ▸ hok) hd' (by simp at hl; omega)

theorem simpleSplit_cons_ne {sep esc c : UInt8} (t sb : Bytes) (parts : List Bytes) (h : c ≠ esc) :
    simpleSplit sep esc (c :: t) sb parts =
      (if c == sep then
        (if sb.length > 0 then simpleSplit sep esc t [] (parts ++ [sb]) else simpleSplit sep esc t sb parts)
      else simpleSplit sep esc t (sb ++ [c]) parts) := by
  cases t <;> simp [simpleSplit, h]

/-- A piece without the separator, all of whose escape characters are harmless, is copied. -/
theorem simpleSplit_run (sep esc : UInt8) (x rest sb : Bytes) (parts : List Bytes)
    (hok : escOK sep esc x = true) (hx : sep ∉ x) :
    simpleSplit sep esc (x ++ rest) sb parts = simpleSplit sep esc rest (sb ++ x) parts := by
  fun_induction escOK sep esc x generalizing sb with
  | case1 => simp
  | case2 c hce => cases hok
  | case3 c hce d t' ih =>
    simp only [Bool.and_eq_true] at hok
    rw [eq_of_beq hce] at hx ⊢
    simp only [List.cons_append, simpleSplit, beq_self_eq_true, if_true]
    rw [ih _ hok.2 (fun h => hx (List.mem_cons_of_mem _ (List.mem_cons_of_mem _ h)))]
    simp
  | case4 c t hce ih =>
    have hcs : ¬ (c == sep) = true := fun e => hx (by rw [eq_of_beq e]; exact List.mem_cons_self)
    rw [List.cons_append, simpleSplit_cons_ne _ sb parts (ne_of_beq_false (Bool.eq_false_iff.2 hce)), if_neg hcs,
      ih _ hok (fun h => hx (List.mem_cons_of_mem _ h))]
    simp

theorem escOK_append (sep esc : UInt8) (a b : Bytes) (ha : escOK sep esc a = true) (hb : escOK sep esc b = true) :
    escOK sep esc (a ++ b) = true := by
  fun_induction escOK sep esc a with
  | case1 => exact hb
  | case2 c hce => cases ha
  | case3 c hce d t' ih =>
    simp only [Bool.and_eq_true] at ha
    simp only [List.cons_append, escOK, hce, if_true, Bool.and_eq_true]
    exact ⟨ha.1, ih ha.2⟩
  | case4 c t hce ih =>
    rw [List.cons_append, escOK_cons_ne _ (ne_of_beq_false (Bool.eq_false_iff.2 hce))]
    exact ih ha

theorem escOK_of_notMem (sep esc : UInt8) (s : Bytes) (h : esc ∉ s) : escOK sep esc s = true := by
  induction s with
  | nil => rfl
  | cons c t ih =>
    rw [escOK_cons_ne t (fun e => h (by rw [← e]; exact List.mem_cons_self))]
    exact ih (fun h' => h (List.mem_cons_of_mem _ h'))

theorem escOK_joinSep (sep esc j : UInt8) (hj : j ≠ esc) (ms : List Bytes)
    (h : ∀ x ∈ ms, escOK sep esc x = true) : escOK sep esc (joinSep ms [j]) = true := by
  induction ms with
  | nil => rfl
  | cons m ms ih =>
    cases ms with
    | nil => simpa [joinSep] using h m List.mem_cons_self
    | cons n ns =>
      simp only [joinSep]
      exact escOK_append sep esc _ _ (escOK_append sep esc _ _ (h m List.mem_cons_self) (by simp [escOK, hj]))
        (ih (fun x hx => h x (List.mem_cons_of_mem _ hx)))

theorem joinSep_isEmpty_false (l : List Bytes) (sep : UInt8) (hne : l ≠ []) (h : ∀ d ∈ l, d ≠ []) :
    (joinSep l [sep]).isEmpty = false := by
  cases l with
  | nil => exact absurd rfl hne
  | cons p ps => exact List.isEmpty_eq_false_iff.2 (H.joinSep_ne_nil p ps _ (h p List.mem_cons_self))

theorem mem_joinSep {c sep : UInt8} {ms : List Bytes} (h : c ∈ joinSep ms [sep]) :
    c = sep ∨ ∃ x ∈ ms, c ∈ x := by
  induction ms with
  | nil => simp [joinSep] at h
  | cons m ms ih =>
    cases ms with
    | nil => exact .inr ⟨m, List.mem_cons_self, by simpa [joinSep] using h⟩
    | cons n ns =>
      simp only [joinSep, List.append_assoc, List.mem_append, List.mem_singleton] at h
      rcases h with h | h | h
      · exact .inr ⟨m, List.mem_cons_self, h⟩
      · exact .inl h
      · rcases ih h with h | ⟨x, hx, hc⟩
        · exact .inl h
        · exact .inr ⟨x, List.mem_cons_of_mem _ hx, hc⟩

/-- The pieces, each non-empty, free of the separator and with harmless escapes only, come back. -/
theorem simpleSplit_join (sep esc : UInt8) (hse : esc ≠ sep) (m : Bytes) (ms : List Bytes) (parts : List Bytes)
    (hne : ∀ x ∈ m :: ms, x ≠ []) (hs : sepFree sep (m :: ms)) (he : ∀ x ∈ m :: ms, escOK sep esc x = true) :
    ∃ sb parts', simpleSplit sep esc (joinSep (m :: ms) [sep]) [] parts = (sb, parts') ∧ sb ≠ [] ∧
      parts' ++ [sb] = parts ++ m :: ms := by
  induction ms generalizing m parts with
  | nil =>
    refine ⟨m, parts, ?_, hne m List.mem_cons_self, rfl⟩
    have := simpleSplit_run sep esc m [] [] parts (he m List.mem_cons_self) (hs m List.mem_cons_self)
    simpa [joinSep, simpleSplit] using this
  | cons n ns ih =>
    have hml : m.length > 0 := List.length_pos_iff.2 (hne m List.mem_cons_self)
    obtain ⟨sb, parts', h1, h2, h3⟩ := ih n (parts ++ [m])
      (fun x hx => hne x (List.mem_cons_of_mem _ hx)) (fun x hx => hs x (List.mem_cons_of_mem _ hx))
      (fun x hx => he x (List.mem_cons_of_mem _ hx))
    refine ⟨sb, parts', ?_, h2, by rw [h3]; simp⟩
    show simpleSplit sep esc (m ++ [sep] ++ joinSep (n :: ns) [sep]) [] parts = _
    rw [List.append_assoc, simpleSplit_run sep esc m _ [] parts (he m List.mem_cons_self) (hs m List.mem_cons_self),
      List.nil_append, List.singleton_append,
      simpleSplit_cons_ne _ _ _ (fun e => hse e.symm)]
    simp only [beq_self_eq_true, if_true, hml]
    exact h1

/-- `splitWithEscapeCharacter` is a left inverse of joining non-empty pieces that do not contain the separator
    and whose escape characters are all harmless. -/
theorem split_join_safe (sep esc : UInt8) (hse : esc ≠ sep) (ms : List Bytes) (hms : ms ≠ [])
    (hne : ∀ x ∈ ms, x ≠ []) (hs : sepFree sep ms) (he : ∀ x ∈ ms, escOK sep esc x = true) :
    splitWithEscapeCharacter (joinSep ms [sep]) sep esc false = .ok ms := by
  cases ms with
  | nil => exact absurd rfl hms
  | cons m ms =>
    have hj : joinSep (m :: ms) [sep] ≠ [] := H.joinSep_ne_nil m ms _ (hne m List.mem_cons_self)
    unfold splitWithEscapeCharacter
    have hie : (joinSep (m :: ms) [sep]).isEmpty = false := by
      cases h : joinSep (m :: ms) [sep] with
      | nil => exact absurd h hj
      | cons => rfl
    rw [hie]
    simp only [Bool.false_eq_true, if_false]
    rw [splitEscLoop_simple _ sep esc _ [] [] _ 0 (escOK_joinSep sep esc sep (fun e => hse e.symm) _ he) (by simp) (Nat.le_refl _)]
    obtain ⟨sb, parts', h1, h2, h3⟩ := simpleSplit_join sep esc hse m ms [] hne hs he
    rw [h1]
    have hl : sb.length > 0 := List.length_pos_iff.2 h2
    simp only [bind, Except.bind, Bool.false_or, hl, decide_true, if_true, pure, Except.pure]
    rw [h3]; rfl

/-! ### `parseRuleText` on `pattern ++ "$" ++ options` -/

theorem drop_after (a : Bytes) (c : UInt8) (b : Bytes) :
    ((a ++ c :: b).take (a ++ c :: b).length).drop (a.length + 1) = b := by
  rw [List.take_length, show a ++ c :: b = (a ++ [c]) ++ b by simp, List.drop_left' (by simp)]

theorem idxC_append_right {a b : Bytes} {j : Nat} {c : UInt8} (h : b[j]? = some c) :
    idxC (a ++ b) (a.length + j) = .ok c := by
  unfold idxC
  rw [List.getElem?_append_right (Nat.le_add_right _ _), Nat.add_sub_cancel_left, h]
  rfl

theorem idxC_append_left {a b : Bytes} {j : Nat} {c : UInt8} (h : a[j]? = some c) :
    idxC (a ++ b) j = .ok c := by
  unfold idxC
  have hj : j < a.length := by
    by_cases hj : j < a.length
    · exact hj
    · rw [List.getElem?_eq_none (Nat.le_of_not_lt hj)] at h; cases h
  rw [List.getElem?_append_left hj, h]
  rfl

/-- No `$` below position `k`: the loop runs down to 0 and returns the whole text as the pattern. -/
theorem parseSplitLoop_none (t : Bytes) (h : ch '$' ∉ t) :
    ∀ k, k ≤ t.length → parseSplitLoop t k false = .ok (t, []) := by
  intro k
  induction k with
  | zero => intro _; rfl
  | succ k ih =>
    intro hk
    have hlt : k < t.length := hk
    have hc : (t[k] != ch '$') = true := by
      rw [bne_iff_ne]
      intro e
      exact h (e ▸ List.getElem_mem hlt)
    simp only [parseSplitLoop, idxC_ok' hlt, bind, Except.bind, hc, if_true]
    exact ih (Nat.le_of_lt hlt)

/-- The loop on `a ++ "$" ++ b` with no `$` in `b` (and `a` not ending in a backslash): above the `$` it
    only skips; at the `$` it cuts. -/
theorem parseSplitLoop_cut (a b : Bytes) (hb : ch '$' ∉ b) (ha : a.getLast? ≠ some (ch '\\')) :
    ∀ j, j ≤ b.length →
      parseSplitLoop (a ++ ch '$' :: b) (a.length + 1 + j) false = .ok (a, b) := by
  intro j
  induction j with
  | zero =>
    intro _
    have hc : idxC (a ++ ch '$' :: b) a.length = .ok (ch '$') :=
      idxC_append_right (a := a) (b := ch '$' :: b) (j := 0) rfl
    have hs1 : sliceC (a ++ ch '$' :: b) 0 a.length = .ok a := by
      rw [sliceC_ok (by simp)]
      simp
    have hs2 : sliceC (a ++ ch '$' :: b) (a.length + 1) (a ++ ch '$' :: b).length = .ok b := by
      rw [sliceC_ok (by simp), drop_after]
    simp only [parseSplitLoop, hc, bind, Except.bind, bne_self_eq_false, Bool.false_eq_true,
      if_false, Bool.not_false, Bool.true_and]
    by_cases hpos : a.length > 0
    · have hlast : ∃ p, idxC (a ++ ch '$' :: b) (a.length - 1) = .ok p ∧ p ≠ ch '\\' := by
        have hlt : a.length - 1 < a.length := by omega
        refine ⟨a[a.length - 1], idxC_append_left (List.getElem?_eq_getElem hlt), ?_⟩
        intro e
        apply ha
        rw [List.getLast?_eq_getElem?, List.getElem?_eq_getElem hlt, e]
      obtain ⟨p, hp, hne⟩ := hlast
      have hpe : (p == ch '\\') = false := beq_false_of_ne hne
      simp only [hpos, decide_true, if_true, hp, pure, Except.pure, hpe, Bool.false_eq_true, if_false, hs1, hs2]
    · simp only [hpos, decide_false, Bool.false_eq_true, if_false, pure, Except.pure, hs1, hs2]
  | succ j ih =>
    intro hj
    have hlt : j < b.length := hj
    have hc : idxC (a ++ ch '$' :: b) (a.length + 1 + j) = .ok b[j] := by
      have : (ch '$' :: b)[j + 1]? = some b[j] := by simp [List.getElem?_eq_getElem hlt]
      have h2 := idxC_append_right (a := a) (b := ch '$' :: b) (j := j + 1) this
      rwa [show a.length + (j + 1) = a.length + 1 + j by omega] at h2
    have hne : (b[j] != ch '$') = true := by
      rw [bne_iff_ne]
      intro e
      exact hb (e ▸ List.getElem_mem hlt)
    rw [show a.length + 1 + (j + 1) = (a.length + 1 + j) + 1 by omega]
    simp only [parseSplitLoop, hc, bind, Except.bind, hne, if_true]
    exact ih (Nat.le_of_lt hlt)

theorem hasPrefix_cons_ne (a : UInt8) (t : Bytes) (c : UInt8) (rest : Bytes) (h : a ≠ c) :
    hasPrefix (a :: t) (c :: rest) = false := by
  show (a == c && hasPrefix t rest) = false
  rw [beq_false_of_ne h]; rfl

/-- `parseRuleText` around its loop, for a text `t` after the exception marker not of the `/regex/` shape. -/
theorem parseRuleText_of_split (wl : Bool) (t pat opts : Bytes) (hemp : t.isEmpty = false)
    (hwl : wl = false → hasPrefix t (lit "@@") = false)
    (hreg : (hasPrefix t (lit "/") && hasSuffix t (lit "/") && !hasSub t (lit "replace=")) = false)
    (hsplit : parseSplitLoop t (t.length - 1) false = .ok (pat, opts)) :
    parseRuleText ((if wl then lit "@@" else []) ++ t) = .ok (pat, opts, wl) := by
  have hat : lit "@@" = [64, 64] := by decide
  cases wl with
  | false =>
    have hp := hwl rfl
    have hne : (t == lit "@@") = false := by
      apply Bool.eq_false_iff.2
      intro h
      rw [beq_iff_eq] at h
      rw [h] at hp
      revert hp
      decide
    simp only [Bool.false_eq_true, if_false, List.nil_append]
    unfold parseRuleText
    simp only [hemp, hne, Bool.or_self, Bool.false_eq_true, if_false, hp, bind, Except.bind, pure, Except.pure,
      hreg, hsplit]
  | true =>
    simp only [if_true]
    have hl : t.length > 0 := by cases t with
      | nil => cases hemp
      | cons => simp
    have hne : ((lit "@@" ++ t) == lit "@@") = false := by
      apply Bool.eq_false_iff.2
      intro h
      rw [beq_iff_eq] at h
      have := congrArg List.length h
      rw [hat] at this
      simp only [List.length_append, List.length_cons, List.length_nil] at this
      omega
    have he : (lit "@@" ++ t).isEmpty = false := by rw [hat]; rfl
    have hp : hasPrefix (lit "@@" ++ t) (lit "@@") = true := by
      rw [hat]; simp [hasPrefix]
    have hsl : sliceC (lit "@@" ++ t) 2 (lit "@@" ++ t).length = .ok t := by
      rw [sliceC_ok ⟨by rw [hat]; simp, Nat.le_refl _⟩, List.take_length, hat]
      rfl
    unfold parseRuleText
    simp only [he, hne, Bool.or_self, Bool.false_eq_true, if_false, hp, if_true, bind, Except.bind,
      pure, Except.pure, hsl, hreg, hsplit]

/-- `parseRuleText` on `[@@] pattern [$ options]`: the pattern starts with a byte other than `@`, contains no
    `$` and no backslash; the options contain no `$`; the text after the exception marker is NOT of the form
    `/…/` (a `/regex/` rule, whose options would not be parsed). -/
theorem parseRuleText_joinedW (wl : Bool) (c : UInt8) (pat opts : Bytes)
    (hc1 : c ≠ ch '@')
    (hp : ch '$' ∉ c :: pat) (hbs : ch '\\' ∉ c :: pat) (ho : ch '$' ∉ opts)
    (hreg : (hasPrefix ((c :: pat) ++ (if opts = [] then [] else ch '$' :: opts)) (lit "/") &&
             hasSuffix ((c :: pat) ++ (if opts = [] then [] else ch '$' :: opts)) (lit "/")) = false) :
    parseRuleText ((if wl then lit "@@" else []) ++ (c :: pat) ++ (if opts = [] then [] else ch '$' :: opts)) =
      .ok (c :: pat, opts, wl) := by
  rw [List.append_assoc]
  refine parseRuleText_of_split wl _ _ _ rfl (fun _ => hasPrefix_cons_ne c _ _ _ hc1) (by rw [hreg]; rfl) ?_
  by_cases hoe : opts = []
  · rw [if_pos hoe, List.append_nil, hoe]
    exact parseSplitLoop_none _ hp _ (Nat.sub_le _ _)
  · rw [if_neg hoe]
    have hl : opts.length ≥ 1 := List.length_pos_iff.2 hoe
    rw [show ((c :: pat) ++ ch '$' :: opts).length - 1 = (c :: pat).length + 1 + (opts.length - 1) by
      simp; omega]
    exact parseSplitLoop_cut (c :: pat) opts ho (fun e => hbs (List.mem_of_getLast? e)) (opts.length - 1)
      (Nat.sub_le _ _)

/-! ### `name=value` -/

theorem indexByte_go_none (c : UInt8) (s : Bytes) (k : Nat) (h : c ∉ s) : indexByte.go c s k = none := by
  induction s generalizing k with
  | nil => rfl
  | cons a t ih =>
    have ha : (a == c) = false := beq_false_of_ne (fun e => h (e ▸ List.mem_cons_self))
    simp only [indexByte.go, ha, Bool.false_eq_true, if_false]
    exact ih _ (fun h' => h (List.mem_cons_of_mem _ h'))

theorem indexByte_go_first (c : UInt8) (n rest : Bytes) (k : Nat) (h : c ∉ n) :
    indexByte.go c (n ++ c :: rest) k = some (k + n.length) := by
  induction n generalizing k with
  | nil => simp [indexByte.go]
  | cons a t ih =>
    have ha : (a == c) = false := beq_false_of_ne (fun e => h (e ▸ List.mem_cons_self))
    simp only [List.cons_append, indexByte.go, ha, Bool.false_eq_true, if_false]
    rw [ih _ (fun h' => h (List.mem_cons_of_mem _ h'))]
    simp; omega

/-- One comma-separated piece `name=value` (name non-empty, without `=`) is handed to `loadOption` as
    `(name, value)`. -/
theorem loadOptionsStep_nv (px : ParseExt) (r : NetRule) (name value : Bytes) (hn : name ≠ [])
    (he : ch '=' ∉ name) :
    loadOptionsStep px r (name ++ ch '=' :: value) = loadOption px r name value := by
  unfold loadOptionsStep
  have hi : indexByte (name ++ ch '=' :: value) (ch '=') = some name.length := by
    unfold indexByte
    rw [indexByte_go_first _ _ _ _ he]; simp
  have hl : name.length > 0 := List.length_pos_iff.2 hn
  rw [hi]
  simp only [hl, if_true]
  have h1 : sliceC (name ++ ch '=' :: value) 0 name.length = .ok name := by
    rw [sliceC_ok (by simp)]; simp
  have h2 : sliceC (name ++ ch '=' :: value) (name.length + 1) (name ++ ch '=' :: value).length = .ok value := by
    rw [sliceC_ok (by simp), drop_after]
  rw [h1, h2]
  rfl

/-- A piece without `=` is an option name with the empty value. -/
theorem loadOptionsStep_n (px : ParseExt) (r : NetRule) (name : Bytes) (he : ch '=' ∉ name) :
    loadOptionsStep px r name = loadOption px r name [] := by
  unfold loadOptionsStep
  have hi : indexByte name (ch '=') = none := indexByte_go_none _ _ _ he
  rw [hi]

end UF.L
