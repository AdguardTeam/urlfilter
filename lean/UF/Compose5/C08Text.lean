import UF.Compose5.C08Split
import UF.Compose5.C08Match
import UF.Compose.ListID
import UF.Proofs.ParseTotal
import UF.Compose5.Fields
/-
  C08 at TEXT level: two rule texts with the same exception marker and pattern
  whose `,`-separated modifier lists differ only by one `badfilter` — at ANY position of the list — parse to
  twins: the second rule is the first one with the `$badfilter` bit set (and its own text / list id).

  Method: the parser commutes with `tw m t j` = "set text and list id, OR the mask `m` into the enabled options"
  for every mask `m` that has at most bit 3 (`m = 0`: only text and id change; `m = 8`: `$badfilter` added) —
  the same walk through `loadOption` as `parseNetRule_setID` (UF/Compose/ListID.lean).  The `badfilter` item itself turns
  `tw 0 … r` into `tw 8 … r`.
-/
namespace UF.L
open UF UF.E UF.Compose Bytes

def tw (m : Nat) (t : Bytes) (j : Int) (r : NetRule) : NetRule :=
  { r with text := t, listID := j, enabled := r.enabled ||| m }

def OnlyBit3 (m : Nat) : Prop := ∀ k, k ≠ 3 → m.testBit k = false

theorem onlyBit3_zero : OnlyBit3 0 := fun k _ => by simp
theorem onlyBit3_eight : OnlyBit3 8 := by
  intro k hk
  have : (8 : Nat) = 2 ^ 3 := rfl
  rw [this, Nat.testBit_two_pow]
  simp; omega

theorem or_right_comm' (a b c : Nat) : (a ||| b) ||| c = (a ||| c) ||| b := by
  rw [Nat.or_assoc, Nat.or_comm b c, ← Nat.or_assoc]

theorem or_xor_ext {m : Nat} (hm : OnlyBit3 m) (e : Nat) :
    (e ||| m) ^^^ Facts.OptionExtension = (e ^^^ Facts.OptionExtension) ||| m := by
  apply Nat.eq_of_testBit_eq
  intro i
  have h : Facts.OptionExtension = 2 ^ 10 := rfl
  rw [h]
  simp only [Nat.testBit_xor, Nat.testBit_or, Nat.testBit_two_pow]
  by_cases h10 : 10 = i
  · subst h10
    rw [hm 10 (by omega)]
    simp
  · simp [h10]

theorem setOptionEnabled_tw (m : Nat) (t : Bytes) (j : Int) (r : NetRule) (opt : Nat) (en : Bool) :
    setOptionEnabled (tw m t j r) opt en = mapE (tw m t j) (setOptionEnabled r opt en) := by
  unfold setOptionEnabled
  refine ite_mapE rfl (ite_mapE rfl (ite_mapE ?_ rfl))
  show Except.ok _ = Except.ok _
  simp only [tw, or_right_comm' r.enabled m opt]

theorem setIgnoringError_tw (m : Nat) (t : Bytes) (j : Int) (r : NetRule) (opt : Nat) :
    setIgnoringError (tw m t j r) opt = tw m t j (setIgnoringError r opt) := by
  unfold setIgnoringError
  rw [setOptionEnabled_tw]
  cases setOptionEnabled r opt true <;> rfl

theorem loadOption_tw {m : Nat} (hm : OnlyBit3 m) (px : ParseExt) (t : Bytes) (j : Int) (r : NetRule)
    (name value : Bytes) :
    loadOption px (tw m t j r) name value = mapE (tw m t j) (loadOption px r name value) := by
  rw [loadOption_eq, loadOption_eq]
  cases optionKind name with
  | flag opt en => exact setOptionEnabled_tw ..
  | dnsrewrite =>
    simp only [OptionKind.run]
    cases px.loadDNSRewrite value <;> rfl
  | denyallow => exact bind_mapE (fun ⟨p, rs⟩ => ite_mapE rfl rfl)
  | noExtension =>
    show Except.ok _ = Except.ok _
    simp only [tw, or_xor_ext hm r.enabled]
  | document =>
    refine bind_mapE2 (setOptionEnabled_tw ..) ?_
    intro a
    simp only [setIgnoringError_tw]
    rfl
  | reqType ty p => simp only [OptionKind.run, setRequestType]; split <;> rfl
  | unknown => rfl
  | _ => exact bind_mapE (fun ⟨p, rs⟩ => rfl)

theorem loadOptionsStep_tw {m : Nat} (hm : OnlyBit3 m) (px : ParseExt) (t : Bytes) (j : Int) (r : NetRule)
    (o : Bytes) :
    loadOptionsStep px (tw m t j r) o = mapE (tw m t j) (loadOptionsStep px r o) := by
  unfold loadOptionsStep
  cases indexByte o (ch '=') with
  | none => exact loadOption_tw hm ..
  | some eqIdx =>
    simp only
    refine ite_mapE ?_ (loadOption_tw hm ..)
    exact bind_mapE (fun name => bind_mapE (fun value => loadOption_tw hm ..))

theorem foldlM_tw {m : Nat} (hm : OnlyBit3 m) (px : ParseExt) (t : Bytes) (j : Int) (l : List Bytes)
    (r : NetRule) :
    l.foldlM (loadOptionsStep px) (tw m t j r) = mapE (tw m t j) (l.foldlM (loadOptionsStep px) r) := by
  induction l generalizing r with
  | nil => rfl
  | cons a l ih =>
    simp only [List.foldlM]
    exact bind_mapE2 (loadOptionsStep_tw hm px t j r a) (fun r1 => ih r1)

/-- The `badfilter` item: from "text and id changed" to "text and id changed, `$badfilter` set". -/
theorem badfilterStep_tw (px : ParseExt) (t : Bytes) (j : Int) (r : NetRule) :
    loadOptionsStep px (tw 0 t j r) (lit "badfilter") = .ok (tw 8 t j r) := by
  rw [loadOptionsStep_n px _ _ (by decide), loadOption_eq,
    show optionKind (lit "badfilter") = .flag Facts.OptionBadfilter true from optionKind_bare.1 .badfilter (Opt.mem_all _)]
  show setOptionEnabled _ Facts.OptionBadfilter true = _
  unfold setOptionEnabled
  have hb : (Facts.OptionBadfilter &&& Facts.OptionBlacklistOnly == Facts.OptionBadfilter) = false := by decide
  have hw : (Facts.OptionBadfilter &&& Facts.OptionWhitelistOnly == Facts.OptionBadfilter) = false := by decide
  simp only [hb, hw, Bool.and_false, Bool.false_eq_true, if_false, if_true]
  show Except.ok _ = Except.ok _
  simp only [tw, Nat.or_zero]
  rfl

/-- The loop of `loadOptions` over a list with an item inserted at any position that turns `tw 0` into `tw 8`
    (the `badfilter` item: `badfilterStep_tw`). -/
theorem foldlM_insert (px : ParseExt) (t : Bytes) (j : Int) (b : Bytes)
    (hb : ∀ r, loadOptionsStep px (tw 0 t j r) b = .ok (tw 8 t j r)) (os1 os2 : List Bytes) (r : NetRule) :
    (os1 ++ b :: os2).foldlM (loadOptionsStep px) (tw 0 t j r) =
      mapE (tw 8 t j) ((os1 ++ os2).foldlM (loadOptionsStep px) r) := by
  rw [List.foldlM_append, List.foldlM_append, foldlM_tw onlyBit3_zero]
  cases os1.foldlM (loadOptionsStep px) r with
  | error e => rfl
  | ok r1 =>
    simp only [mapE, bind, Except.bind]
    rw [List.foldlM_cons, hb]
    exact foldlM_tw onlyBit3_eight px t j os2 r1

theorem documentOnly_tw {m : Nat} (hm : OnlyBit3 m) (t : Bytes) (j : Int) (r : NetRule) :
    documentOnlyOptions.any (fun o => (tw m t j r).isEnabled o) = documentOnlyOptions.any (fun o => r.isEnabled o) := by
  -- none of the eight document-only bits is bit 3
  have h0 : docOnlyB m = false := by
    rw [docOnlyB_testBit]
    exact List.any_eq_false.2 fun k hk => by
      rw [hm k (fun e => by subst e; revert hk; decide)]; exact Bool.false_ne_true
  show docOnlyB (r.enabled ||| m) = docOnlyB r.enabled
  rw [docOnlyB_or, h0, Bool.or_false]

theorem documentOnly_fresh (r : NetRule) (h : r.enabled = 0) :
    documentOnlyOptions.any (fun o => r.isEnabled o) = false := by
  unfold documentOnlyOptions NetRule.isEnabled
  rw [h]
  decide

/-- A modifier as it can stand in a `,`-joined list: non-empty, no comma, no backslash. -/
def CleanOption (o : Bytes) : Prop := o ≠ [] ∧ CleanItem (ch ',') (ch '\\') o

theorem cleanOption_badfilter : CleanOption (lit "badfilter") := by
  refine ⟨by decide, ?_, ?_⟩ <;> decide

theorem forall_mem_insert {α} {P : α → Prop} {l1 l2 : List α} {b : α} (h : ∀ o ∈ l1 ++ l2, P o) (hb : P b) :
    ∀ o ∈ l1 ++ b :: l2, P o := by
  intro o ho
  rcases List.mem_append.1 ho with h1 | h1
  · exact h o (List.mem_append_left _ h1)
  · rcases List.mem_cons.1 h1 with rfl | h1
    · exact hb
    · exact h o (List.mem_append_right _ h1)

/-- `loadOptions` on the modifier list with `badfilter` inserted at any position (`r`: the fresh record of
    `NewNetworkRule`, no option enabled yet — needed when `badfilter` is the only modifier). -/
theorem loadOptions_insert_badfilter (px : ParseExt) (t : Bytes) (j : Int) (os1 os2 : List Bytes) (r : NetRule)
    (hc : ∀ o ∈ os1 ++ os2, CleanOption o)
    (hr : documentOnlyOptions.any (fun o => r.isEnabled o) = false) :
    loadOptions px (tw 0 t j r) (joinSep (os1 ++ lit "badfilter" :: os2) [ch ',']) =
      mapE (tw 8 t j) (loadOptions px r (joinSep (os1 ++ os2) [ch ','])) := by
  have hc' : ∀ o ∈ os1 ++ lit "badfilter" :: os2, o ≠ [] ∧ CleanItem (ch ',') (ch '\\') o :=
    forall_mem_insert hc cleanOption_badfilter
  have hne' : os1 ++ lit "badfilter" :: os2 ≠ [] := by simp
  have tailEq : ∀ r1 : NetRule,
      (if documentOnlyOptions.any (fun o => (tw 8 t j r1).isEnabled o) then
          (pure { tw 8 t j r1 with permTypes := Facts.TypeDocument } : PE NetRule) else pure (tw 8 t j r1)) =
        mapE (tw 8 t j) (if documentOnlyOptions.any (fun o => r1.isEnabled o) then
          pure { r1 with permTypes := Facts.TypeDocument } else pure r1) := by
    intro r1
    rw [documentOnly_tw onlyBit3_eight]
    exact ite_mapE rfl rfl
  unfold loadOptions
  rw [joinSep_isEmpty_false _ _ hne' (fun o ho => (hc' o ho).1)]
  simp only [Bool.false_eq_true, if_false]
  rw [splitEsc_joinSep (ch ',') (ch '\\') (by decide) _ hne' hc']
  simp only [bind, Except.bind]
  rw [foldlM_insert px t j _ (badfilterStep_tw px t j)]
  by_cases hne : os1 ++ os2 = []
  · -- `badfilter` is the only modifier: the other text has no modifier list, `loadOptions` returns `r` at once
    rw [hne]
    have := tailEq r
    rw [hr] at this
    exact this
  · rw [joinSep_isEmpty_false _ _ hne (fun o ho => (hc o ho).1)]
    simp only [Bool.false_eq_true, if_false]
    rw [splitEsc_joinSep (ch ',') (ch '\\') (by decide) _ hne hc]
    dsimp only
    cases (os1 ++ os2).foldlM (loadOptionsStep px) r with
    | error e => rfl
    | ok r1 => exact tailEq r1

/-- The part of `NewNetworkRule` after `loadOptions`: `example.org/*` becomes `example.org^`, the rule is
    validated against the pattern `parseRuleText` returned, the shortcut is set. -/
def parseTail (px : ParseExt) (pattern : Bytes) (r1 : NetRule) : PE NetRule := do
  let r ←
    if hasSuffix r1.pattern (lit "/*") then do
      let p ← sliceC r1.pattern 0 (r1.pattern.length - 2)
      pure { r1 with pattern := p ++ lit "^" }
    else pure r1
  if (pattern == lit "||" || pattern == lit "|" || pattern == lit "*" || pattern.isEmpty ||
        pattern.length < 3) &&
      r.permDomains.isEmpty && r.restrDomains.isEmpty &&
      Clients.len r.permClients == 0 && Clients.len r.restrClients == 0 &&
      r.permTags.isEmpty && r.restrTags.isEmpty && r.permDns.isEmpty && r.restrDns.isEmpty &&
      r.denyallow.isEmpty then throw PErr.err
  else do
    let sc ← shortcutCandidate px r.pattern
    if sc.length > 1 then pure { r with shortcut := toLower sc } else pure r

theorem parseNetRule_eq_tail (px : ParseExt) (t : Bytes) (i : Int) :
    parseNetRule px t i = (do
      let (pattern, options, whitelist) ← parseRuleText t
      let r ← loadOptions px { text := t, whitelist := whitelist, listID := i, pattern := pattern } options
      parseTail px pattern r) := rfl

theorem parseTail_tw (px : ParseExt) (m : Nat) (t : Bytes) (j : Int) (pattern : Bytes) (r1 : NetRule) :
    parseTail px pattern (tw m t j r1) = mapE (tw m t j) (parseTail px pattern r1) := by
  have tail : ∀ r2 : NetRule, _ = mapE (tw m t j) _ := fun r2 =>
    ite_mapE (c := ((pattern == lit "||" || pattern == lit "|" || pattern == lit "*" || pattern.isEmpty ||
        pattern.length < 3) &&
      r2.permDomains.isEmpty && r2.restrDomains.isEmpty &&
      Clients.len r2.permClients == 0 && Clients.len r2.restrClients == 0 &&
      r2.permTags.isEmpty && r2.restrTags.isEmpty && r2.permDns.isEmpty && r2.restrDns.isEmpty &&
      r2.denyallow.isEmpty) = true) (a' := throw PErr.err) (a := throw PErr.err) (f := tw m t j) rfl
      (bind_mapE (x := shortcutCandidate px r2.pattern) (fun sc =>
        ite_mapE (c := sc.length > 1) (a' := pure { tw m t j r2 with shortcut := toLower sc })
          (a := pure { r2 with shortcut := toLower sc }) (b' := pure (tw m t j r2)) (b := pure r2) rfl rfl))
  unfold parseTail
  refine ite_mapE ?_ ?_
  · exact bind_mapE (fun p => bind_mapE2 (f := tw m t j) (x := pure { r1 with pattern := p ++ lit "^" }) rfl
      (fun r2 => tail r2))
  · exact bind_mapE2 (f := tw m t j) (x := pure r1) rfl (fun r2 => tail r2)

/-- `NewNetworkRule` on two texts with the same exception marker and pattern whose modifier lists differ by one
    `badfilter` at any position: the second result is the first one with the `$badfilter` bit (and its own text
    and list id) — in particular both are accepted or both are rejected. -/
theorem parseNetRule_insert_badfilter (px : ParseExt) (t1 t2 : Bytes) (i j : Int) (pat : Bytes) (wl : Bool)
    (os1 os2 : List Bytes) (hc : ∀ o ∈ os1 ++ os2, CleanOption o)
    (h1 : parseRuleText t1 = .ok (pat, joinSep (os1 ++ os2) [ch ','], wl))
    (h2 : parseRuleText t2 = .ok (pat, joinSep (os1 ++ lit "badfilter" :: os2) [ch ','], wl)) :
    parseNetRule px t2 j = mapE (tw 8 t2 j) (parseNetRule px t1 i) := by
  rw [parseNetRule_eq_tail, parseNetRule_eq_tail, h1, h2]
  have hl := loadOptions_insert_badfilter px t2 j os1 os2
    { text := t1, whitelist := wl, listID := i, pattern := pat } hc (documentOnly_fresh _ rfl)
  have h0 : tw 0 t2 j { text := t1, whitelist := wl, listID := i, pattern := pat } =
      { text := t2, whitelist := wl, listID := j, pattern := pat } := by simp only [tw, Nat.or_zero]
  rw [h0] at hl
  exact bind_mapE2 hl (fun r1 => parseTail_tw px 8 t2 j pat r1)

/-! ### `parseRuleText` on `[@@] body $ modifiers` -/

theorem parseSplitLoop_text (body opts : Bytes) (hopts : opts ≠ []) (hd : ch '$' ∉ opts)
    (hb : body.getLast? ≠ some (ch '\\')) :
    parseSplitLoop (body ++ ch '$' :: opts) ((body ++ ch '$' :: opts).length - 1) false = .ok (body, opts) := by
  have hl : opts.length ≥ 1 := List.length_pos_iff.2 hopts
  rw [show (body ++ ch '$' :: opts).length - 1 = body.length + 1 + (opts.length - 1) by simp; omega]
  exact parseSplitLoop_cut body opts hd hb (opts.length - 1) (Nat.sub_le _ _)

/-- `parseRuleText` on `[@@] body $ opts`: the options are what follows the LAST `$` when they contain none,
    the pattern does not end with a backslash and the text is not of the `/regex/` shape. -/
theorem parseRuleText_split (wl : Bool) (body opts : Bytes)
    (hwl : wl = false → hasPrefix (body ++ ch '$' :: opts) (lit "@@") = false)
    (hopts : opts ≠ []) (hd : ch '$' ∉ opts) (hb : body.getLast? ≠ some (ch '\\'))
    (hreg : (hasPrefix (body ++ ch '$' :: opts) (lit "/") && hasSuffix (body ++ ch '$' :: opts) (lit "/") &&
      !hasSub (body ++ ch '$' :: opts) (lit "replace=")) = false) :
    parseRuleText ((if wl then lit "@@" else []) ++ (body ++ ch '$' :: opts)) = .ok (body, opts, wl) :=
  parseRuleText_of_split wl _ body opts (by cases body <;> rfl) hwl hreg (parseSplitLoop_text body opts hopts hd hb)

theorem hasPrefix_at_body (body opts : Bytes) :
    hasPrefix (body ++ ch '$' :: opts) (lit "@@") = hasPrefix body (lit "@@") := by
  have hat : lit "@@" = [64, 64] := by decide
  have h36 : (ch '$' == (64 : UInt8)) = false := by decide
  rw [hat]
  rcases body with _ | ⟨a, _ | ⟨b, rest⟩⟩
  · simp [hasPrefix, h36]
  · simp [hasPrefix, h36]
  · simp [hasPrefix]

/-- `parseRuleText` on `[@@] body $ m1,…,mk` (k ≥ 1, no `$` inside a modifier). -/
theorem parseRuleText_texts (wl : Bool) (body : Bytes) (os : List Bytes) (hne : os ≠ [])
    (hc : ∀ o ∈ os, CleanOption o ∧ ch '$' ∉ o)
    (hwl : wl = false → hasPrefix body (lit "@@") = false)
    (hb : body.getLast? ≠ some (ch '\\'))
    (hreg : ∀ opts, (hasPrefix (body ++ ch '$' :: opts) (lit "/") && hasSuffix (body ++ ch '$' :: opts) (lit "/") &&
      !hasSub (body ++ ch '$' :: opts) (lit "replace=")) = false) :
    parseRuleText ((if wl then lit "@@" else []) ++ (body ++ ch '$' :: joinSep os [ch ','])) =
      .ok (body, joinSep os [ch ','], wl) :=
  parseRuleText_split wl body _ (fun h => by rw [hasPrefix_at_body]; exact hwl h)
    (fun e => by
      have := joinSep_isEmpty_false os (ch ',') hne (fun o ho => (hc o ho).1.1)
      rw [e] at this
      cases this)
    (fun hm => by
      rcases mem_joinSep hm with e | ⟨o, ho, hd⟩
      · exact absurd e (by decide)
      · exact (hc o ho).2 hd)
    hb (hreg _)

theorem tw8_matchFields (t : Bytes) (j : Int) (x : NetRule) :
    (tw 8 t j x).matchFields = x.withBadfilter.matchFields := rfl

end UF.L
