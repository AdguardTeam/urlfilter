import UF.Compose5.TextRef
/-
  The order of the modifiers and of the values inside a modifier does not matter to the text-level reference of
  C04: it reads every family through `any` / `contains` / `isEmpty`, so it depends on the meaning only up to
  `ModSpec.sameMeaning` (same flags, same value sets), and `ModsPerm` (permuting the modifier list and the values
  inside the five value-carrying modifiers) preserves that — with no side condition, a modifier written twice
  meaning the union.  On the parser side "each value-carrying modifier at most once" IS needed (Go keeps the last
  `$domain`; witness in Props/C04Perm.lean); `modsOK_perm` makes one such hypothesis cover both texts.
-/
namespace UF.L
open UF Bytes

/-! ### same set of values -/

/-- Same elements, order and multiplicity ignored. -/
def sameSet {α} [BEq α] (a b : List α) : Bool := a.all b.contains && b.all a.contains

theorem sameSet_mem {α} [BEq α] [LawfulBEq α] {a b : List α} (h : sameSet a b = true) (x : α) : x ∈ a ↔ x ∈ b := by
  unfold sameSet at h
  simp only [Bool.and_eq_true, List.all_eq_true, List.contains_iff_mem] at h
  exact ⟨h.1 x, h.2 x⟩

theorem sameSet_any {α} [BEq α] [LawfulBEq α] {a b : List α} (h : sameSet a b = true) (p : α → Bool) :
    a.any p = b.any p := by
  rw [Bool.eq_iff_iff, List.any_eq_true, List.any_eq_true]
  constructor
  · rintro ⟨x, hx, hp⟩; exact ⟨x, (sameSet_mem h x).1 hx, hp⟩
  · rintro ⟨x, hx, hp⟩; exact ⟨x, (sameSet_mem h x).2 hx, hp⟩

theorem sameSet_contains {α} [BEq α] [LawfulBEq α] {a b : List α} (h : sameSet a b = true) (x : α) :
    a.contains x = b.contains x := by
  rw [Bool.eq_iff_iff, List.contains_iff_mem, List.contains_iff_mem]
  exact sameSet_mem h x

theorem sameSet_isEmpty {α} [BEq α] [LawfulBEq α] {a b : List α} (h : sameSet a b = true) :
    a.isEmpty = b.isEmpty := by
  cases a with
  | nil =>
    cases b with
    | nil => rfl
    | cons y b => exact absurd ((sameSet_mem h y).2 List.mem_cons_self) (by simp)
  | cons x a =>
    cases b with
    | nil => exact absurd ((sameSet_mem h x).1 List.mem_cons_self) (by simp)
    | cons y b => rfl

theorem sameSet_of_perm {α} [BEq α] [LawfulBEq α] {a b : List α} (h : a.Perm b) : sameSet a b = true := by
  unfold sameSet
  simp only [Bool.and_eq_true, List.all_eq_true, List.contains_iff_mem]
  exact ⟨fun x hx => h.mem_iff.1 hx, fun x hx => h.mem_iff.2 hx⟩

/-! ### same meaning -/

/-- Two meanings agree: the same flags, and family by family the same SET of values. -/
def ModSpec.sameMeaning (s s' : ModSpec) : Bool :=
  s.thirdParty == s'.thirdParty && s.firstParty == s'.firstParty && s.matchCase == s'.matchCase &&
  s.important == s'.important && s.badfilter == s'.badfilter && s.docOnly == s'.docOnly &&
  sameSet s.permTypes s'.permTypes && sameSet s.restrTypes s'.restrTypes &&
  sameSet s.permDomains s'.permDomains && sameSet s.restrDomains s'.restrDomains &&
  sameSet s.denyallow s'.denyallow && sameSet s.permDns s'.permDns && sameSet s.restrDns s'.restrDns &&
  sameSet s.permTags s'.permTags && sameSet s.restrTags s'.restrTags &&
  sameSet s.permClients s'.permClients && sameSet s.restrClients s'.restrClients

/-- The modifier part of the reference depends on the meaning only up to `sameMeaning`. -/
theorem specModsText_sameMeaning (ext : Ext) {s s' : ModSpec} (h : s.sameMeaning s' = true) (q : Request) :
    specModsText ext s q = specModsText ext s' q := by
  unfold ModSpec.sameMeaning at h
  simp only [Bool.and_eq_true, beq_iff_eq] at h
  obtain ⟨⟨⟨⟨⟨⟨⟨⟨⟨⟨⟨⟨⟨⟨⟨⟨h1, h2⟩, _⟩, _⟩, _⟩, h6⟩, h7⟩, h8⟩, h9⟩, h10⟩, h11⟩, h12⟩, h13⟩, h14⟩, h15⟩, h16⟩, h17⟩ := h
  unfold specModsText textThirdParty textTypes textDenyallow textDomain textDnsType textCTag textClient specInDomains
  rw [h1, h2, h6, sameSet_any h7, sameSet_isEmpty h7, sameSet_any h8, sameSet_any h9, sameSet_isEmpty h9,
    sameSet_any h10, sameSet_any h11, sameSet_isEmpty h11, sameSet_contains h12, sameSet_isEmpty h12,
    sameSet_contains h13, sameSet_any h14, sameSet_isEmpty h14, sameSet_any h15, sameSet_any h16,
    sameSet_isEmpty h16, sameSet_any h17]

/-- … and so does the whole reference (the pattern conjunct reads `matchCase` only). -/
theorem specMatchText_sameMeaning (ext : Ext) (pat : Bytes) {s s' : ModSpec} (h : s.sameMeaning s' = true)
    (q : Request) : specMatchText ext pat s q = specMatchText ext pat s' q := by
  unfold specMatchText
  rw [specModsText_sameMeaning ext h q]
  unfold ModSpec.sameMeaning at h
  simp only [Bool.and_eq_true, beq_iff_eq] at h
  rw [h.1.1.1.1.1.1.1.1.1.1.1.1.1.1.2]

/-! ### permuting modifiers and values -/

/-- The same modifier up to the order of the values written inside it. -/
def Mod.valPermB : Mod → Mod → Bool
  | .domain a, .domain b => a.isPerm b
  | .denyallow a, .denyallow b => a.isPerm b
  | .dnstype a, .dnstype b => a.isPerm b
  | .ctag a, .ctag b => a.isPerm b
  | .client a, .client b => a.isPerm b
  | m, m' => m == m'

/-- Pointwise `valPermB`: the same modifiers in the same order, values permuted inside each. -/
inductive ValsPerm : List Mod → List Mod → Prop where
  | nil : ValsPerm [] []
  | cons {m m' : Mod} {ms ms' : List Mod} : m.valPermB m' = true → ValsPerm ms ms' → ValsPerm (m :: ms) (m' :: ms')

/-- The relation "the same rule text up to the order of the modifiers and of the values inside a modifier". -/
inductive ModsPerm : List Mod → List Mod → Prop where
  | perm {ms ms' : List Mod} : ms.Perm ms' → ModsPerm ms ms'
  | vals {ms ms' : List Mod} : ValsPerm ms ms' → ModsPerm ms ms'
  | trans {a b c : List Mod} : ModsPerm a b → ModsPerm b c → ModsPerm a c

/-- An executable (greedy) check of `ModsPerm`. -/
def modsPermB : List Mod → List Mod → Bool
  | [], ms' => ms'.isEmpty
  | m :: ms, ms' =>
    match ms'.find? (Mod.valPermB m) with
    | some m' => modsPermB ms (ms'.erase m')
    | none => false

theorem Mod.valPermB_refl (m : Mod) : m.valPermB m = true := by
  cases m <;> simp [Mod.valPermB, List.isPerm_iff]

theorem ValsPerm.refl : ∀ ms : List Mod, ValsPerm ms ms
  | [] => .nil
  | m :: ms => .cons m.valPermB_refl (ValsPerm.refl ms)

theorem modsPermB_sound : ∀ (ms ms' : List Mod), modsPermB ms ms' = true → ModsPerm ms ms'
  | [], ms', h => by
    cases ms' with
    | nil => exact .perm (List.Perm.refl _)
    | cons => simp [modsPermB] at h
  | m :: ms, ms', h => by
    unfold modsPermB at h
    cases hf : ms'.find? (Mod.valPermB m) with
    | none => rw [hf] at h; cases h
    | some m' =>
      rw [hf] at h
      have hmem : m' ∈ ms' := List.mem_of_find?_eq_some hf
      have hv : m.valPermB m' = true := List.find?_some hf
      have ih := modsPermB_sound ms (ms'.erase m') h
      -- m :: ms  ~>  m' :: ms  ~>  m' :: erase  ~>  ms'
      have s1 : ModsPerm (m :: ms) (m' :: ms) := .vals (.cons hv (ValsPerm.refl ms))
      have s2 : ModsPerm (m' :: ms) (m' :: ms'.erase m') := by
        clear s1 h hf
        generalize ms'.erase m' = rest at ih
        induction ih with
        | perm p => exact .perm (p.cons m')
        | vals v => exact .vals (.cons m'.valPermB_refl v)
        | trans _ _ ih1 ih2 => exact .trans ih1 ih2
      exact .trans s1 (.trans s2 (.perm (List.perm_cons_erase hmem).symm))

theorem valPermB_cases {m m' : Mod} (h : m.valPermB m' = true) :
    m = m' ∨ (∃ a b, m = .domain a ∧ m' = .domain b ∧ a.Perm b) ∨ (∃ a b, m = .denyallow a ∧ m' = .denyallow b ∧ a.Perm b) ∨
      (∃ a b, m = .dnstype a ∧ m' = .dnstype b ∧ a.Perm b) ∨ (∃ a b, m = .ctag a ∧ m' = .ctag b ∧ a.Perm b) ∨
      (∃ a b, m = .client a ∧ m' = .client b ∧ a.Perm b) := by
  unfold Mod.valPermB at h
  split at h
  · exact .inr (.inl ⟨_, _, rfl, rfl, List.isPerm_iff.1 h⟩)
  · exact .inr (.inr (.inl ⟨_, _, rfl, rfl, List.isPerm_iff.1 h⟩))
  · exact .inr (.inr (.inr (.inl ⟨_, _, rfl, rfl, List.isPerm_iff.1 h⟩)))
  · exact .inr (.inr (.inr (.inr (.inl ⟨_, _, rfl, rfl, List.isPerm_iff.1 h⟩))))
  · exact .inr (.inr (.inr (.inr (.inr ⟨_, _, rfl, rfl, List.isPerm_iff.1 h⟩))))
  · exact .inl (eq_of_beq h)

/-! ### what is invariant under `ModsPerm` -/

/-- A function of one modifier that does not look at the order of its values. -/
def ValInv {γ} (p : Mod → γ) : Prop := ∀ m m', m.valPermB m' = true → p m = p m'

theorem any_modsPerm {p : Mod → Bool} (hp : ValInv p) {ms ms' : List Mod} (h : ModsPerm ms ms') :
    ms.any p = ms'.any p := by
  induction h with
  | perm q => exact q.any_eq
  | vals v =>
    induction v with
    | nil => rfl
    | cons hv _ ih => simp only [List.any_cons, hp _ _ hv, ih]
  | trans _ _ ih1 ih2 => exact ih1.trans ih2

theorem all_modsPerm {p : Mod → Bool} (hp : ValInv p) {ms ms' : List Mod} (h : ModsPerm ms ms') :
    ms.all p = ms'.all p := by
  induction h with
  | perm q => exact q.all_eq
  | vals v =>
    induction v with
    | nil => rfl
    | cons hv _ ih => simp only [List.all_cons, hp _ _ hv, ih]
  | trans _ _ ih1 ih2 => exact ih1.trans ih2

theorem filterLen_modsPerm {p : Mod → Bool} (hp : ValInv p) {ms ms' : List Mod} (h : ModsPerm ms ms') :
    (ms.filter p).length = (ms'.filter p).length := by
  induction h with
  | perm q => exact (q.filter p).length_eq
  | vals v =>
    induction v with
    | nil => rfl
    | @cons m m' _ _ hv _ ih =>
      simp only [List.filter_cons, hp _ _ hv]
      cases p m' <;> simp [ih]
  | trans _ _ ih1 ih2 => exact ih1.trans ih2

theorem filterMap_modsPerm {β} {g : Mod → Option β} (hg : ValInv g) {ms ms' : List Mod} (h : ModsPerm ms ms') :
    (ms.filterMap g).Perm (ms'.filterMap g) := by
  induction h with
  | perm q => exact q.filterMap g
  | vals v =>
    induction v with
    | nil => exact List.Perm.refl _
    | @cons m m' _ _ hv _ ih =>
      simp only [List.filterMap_cons, hg _ _ hv]
      cases g m' with
      | none => exact ih
      | some b => exact ih.cons b
  | trans _ _ ih1 ih2 => exact ih1.trans ih2

theorem flatMap_modsPerm {β} {f : Mod → List β} (hf : ∀ m m', m.valPermB m' = true → (f m).Perm (f m'))
    {ms ms' : List Mod} (h : ModsPerm ms ms') : (ms.flatMap f).Perm (ms'.flatMap f) := by
  induction h with
  | perm q => exact q.flatMap_right f
  | vals v =>
    induction v with
    | nil => exact List.Perm.refl _
    | cons hv _ ih =>
      simp only [List.flatMap_cons]
      exact (hf _ _ hv).append ih
  | trans _ _ ih1 ih2 => exact ih1.trans ih2

theorem posVals_perm {α} {a b : List (Bool × α)} (h : a.Perm b) : (posVals a).Perm (posVals b) :=
  (h.filter _).map _

theorem negVals_perm {α} {a b : List (Bool × α)} (h : a.Perm b) : (negVals a).Perm (negVals b) :=
  (h.filter _).map _

/-- A function that is constant on each of the five value-carrying constructors is invariant; for the selectors
    of the grammar (`Mod.isDomain`, `Mod.permType`, …) that is true by definition. -/
theorem valInv_of {γ} (p : Mod → γ) (h1 : ∀ a b, p (.domain a) = p (.domain b) := by intros; rfl)
    (h2 : ∀ a b, p (.denyallow a) = p (.denyallow b) := by intros; rfl)
    (h3 : ∀ a b, p (.dnstype a) = p (.dnstype b) := by intros; rfl)
    (h4 : ∀ a b, p (.ctag a) = p (.ctag b) := by intros; rfl)
    (h5 : ∀ a b, p (.client a) = p (.client b) := by intros; rfl) : ValInv p := by
  intro m m' h
  rcases valPermB_cases h with rfl | ⟨a, b, rfl, rfl, _⟩ | ⟨a, b, rfl, rfl, _⟩ | ⟨a, b, rfl, rfl, _⟩ |
    ⟨a, b, rfl, rfl, _⟩ | ⟨a, b, rfl, rfl, _⟩
  · rfl
  · exact h1 a b
  · exact h2 a b
  · exact h3 a b
  · exact h4 a b
  · exact h5 a b

theorem valInv_valsOK : ValInv Mod.valsOK := by
  intro m m' h
  rcases valPermB_cases h with rfl | ⟨a, b, rfl, rfl, hp⟩ | ⟨a, b, rfl, rfl, hp⟩ | ⟨a, b, rfl, rfl, hp⟩ |
    ⟨a, b, rfl, rfl, hp⟩ | ⟨a, b, rfl, rfl, hp⟩
  · rfl
  all_goals (simp only [Mod.valsOK]; rw [hp.isEmpty_eq, hp.all_eq])

/-- Value-list permutations of one modifier permute what each family collects from it. -/
theorem valPerm_lists {m m' : Mod} (h : m.valPermB m' = true) :
    (posVals m.domainVals).Perm (posVals m'.domainVals) ∧ (negVals m.domainVals).Perm (negVals m'.domainVals) ∧
    m.denyallowVals.Perm m'.denyallowVals ∧
    ((posVals m.dnstypeVals).filterMap dnsTypeNumber).Perm ((posVals m'.dnstypeVals).filterMap dnsTypeNumber) ∧
    ((negVals m.dnstypeVals).filterMap dnsTypeNumber).Perm ((negVals m'.dnstypeVals).filterMap dnsTypeNumber) ∧
    (posVals m.ctagVals).Perm (posVals m'.ctagVals) ∧ (negVals m.ctagVals).Perm (negVals m'.ctagVals) ∧
    (posVals m.clientVals).Perm (posVals m'.clientVals) ∧ (negVals m.clientVals).Perm (negVals m'.clientVals) := by
  have r {α} (l : List α) : l.Perm l := List.Perm.refl l
  rcases valPermB_cases h with rfl | ⟨a, b, rfl, rfl, hp⟩ | ⟨a, b, rfl, rfl, hp⟩ | ⟨a, b, rfl, rfl, hp⟩ |
    ⟨a, b, rfl, rfl, hp⟩ | ⟨a, b, rfl, rfl, hp⟩
  · exact ⟨r _, r _, r _, r _, r _, r _, r _, r _, r _⟩
  · exact ⟨posVals_perm hp, negVals_perm hp, r _, r _, r _, r _, r _, r _, r _⟩
  · exact ⟨r _, r _, hp, r _, r _, r _, r _, r _, r _⟩
  · exact ⟨r _, r _, r _, (posVals_perm hp).filterMap _, (negVals_perm hp).filterMap _, r _, r _, r _, r _⟩
  · exact ⟨r _, r _, r _, r _, r _, posVals_perm hp, negVals_perm hp, r _, r _⟩
  · exact ⟨r _, r _, r _, r _, r _, r _, r _, posVals_perm hp, negVals_perm hp⟩

/-- The meanings of two modifier lists related by `ModsPerm` agree (same flags; every family a permutation). -/
theorem ofMods_sameMeaning {ms ms' : List Mod} (h : ModsPerm ms ms') :
    (ModSpec.ofMods ms).sameMeaning (ModSpec.ofMods ms') = true := by
  unfold ModSpec.sameMeaning ModSpec.ofMods
  simp only [Bool.and_eq_true, beq_iff_eq]
  refine ⟨⟨⟨⟨⟨⟨⟨⟨⟨⟨⟨⟨⟨⟨⟨⟨?_, ?_⟩, ?_⟩, ?_⟩, ?_⟩, ?_⟩, ?_⟩, ?_⟩, ?_⟩, ?_⟩, ?_⟩, ?_⟩, ?_⟩, ?_⟩, ?_⟩, ?_⟩, ?_⟩
  · exact any_modsPerm (valInv_of _) h
  · exact any_modsPerm (valInv_of _) h
  · exact any_modsPerm (valInv_of _) h
  · exact any_modsPerm (valInv_of _) h
  · exact any_modsPerm (valInv_of _) h
  · exact any_modsPerm (valInv_of _) h
  · exact sameSet_of_perm (filterMap_modsPerm (valInv_of _) h)
  · exact sameSet_of_perm (filterMap_modsPerm (valInv_of _) h)
  · exact sameSet_of_perm (flatMap_modsPerm (fun _ _ hv => (valPerm_lists hv).1) h)
  · exact sameSet_of_perm (flatMap_modsPerm (fun _ _ hv => (valPerm_lists hv).2.1) h)
  · exact sameSet_of_perm (flatMap_modsPerm (fun _ _ hv => (valPerm_lists hv).2.2.1) h)
  · exact sameSet_of_perm (flatMap_modsPerm (fun _ _ hv => (valPerm_lists hv).2.2.2.1) h)
  · exact sameSet_of_perm (flatMap_modsPerm (fun _ _ hv => (valPerm_lists hv).2.2.2.2.1) h)
  · exact sameSet_of_perm (flatMap_modsPerm (fun _ _ hv => (valPerm_lists hv).2.2.2.2.2.1) h)
  · exact sameSet_of_perm (flatMap_modsPerm (fun _ _ hv => (valPerm_lists hv).2.2.2.2.2.2.1) h)
  · exact sameSet_of_perm (flatMap_modsPerm (fun _ _ hv => (valPerm_lists hv).2.2.2.2.2.2.2.1) h)
  · exact sameSet_of_perm (flatMap_modsPerm (fun _ _ hv => (valPerm_lists hv).2.2.2.2.2.2.2.2) h)

/-- THE REFERENCE IS INVARIANT under permutation of the modifier list and of the value lists inside
    `$domain`, `$denyallow`, `$dnstype`, `$ctag`, `$client` — no side condition. -/
theorem specModsText_perm (ext : Ext) {ms ms' : List Mod} (h : ModsPerm ms ms') (q : Request) :
    specModsText ext (ModSpec.ofMods ms) q = specModsText ext (ModSpec.ofMods ms') q :=
  specModsText_sameMeaning ext (ofMods_sameMeaning h) q

theorem specMatchText_perm (ext : Ext) (pat : Bytes) {ms ms' : List Mod} (h : ModsPerm ms ms') (q : Request) :
    specMatchText ext pat (ModSpec.ofMods ms) q = specMatchText ext pat (ModSpec.ofMods ms') q :=
  specMatchText_sameMeaning ext pat (ofMods_sameMeaning h) q

theorem modsOK_perm {ms ms' : List Mod} (h : ModsPerm ms ms') : modsOK ms = modsOK ms' := by
  unfold modsOK atMostOne
  rw [all_modsPerm valInv_valsOK h, filterLen_modsPerm (valInv_of _) h, filterLen_modsPerm (valInv_of _) h,
    filterLen_modsPerm (valInv_of _) h, filterLen_modsPerm (valInv_of _) h, filterLen_modsPerm (valInv_of _) h]

end UF.L
