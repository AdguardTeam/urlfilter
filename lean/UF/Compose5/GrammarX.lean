import UF.Compose5.Append
/-
  The modifier grammar extended by `~extension`, the one option of `loadOption` that TOGGLES a bit
  (`f.enabledOptions ^= OptionExtension`, rules/network.go).  `Mod` (UF/Compose5/Grammar.lean) has no constructor
  for it, since the reference of C04 (`ModSpec.ofMods`) is order-free.  `XMod = Mod + ~extension` is `ModW`
  (UF/Compose5/GrammarW.lean) without quoted client names; the parsing lemma comes through that embedding (`XMod.toW`).
  Here: its spelling, the rule text `renderX` (`render` on plain `Mod`s: `renderX_base`), the closed form of the option
  loop `applyX`, and what parsing a rendered text gives: `parse_renderX`, and for an appended modifier `append_x`.
-/
namespace UF.L
open UF UF.E Bytes UF.Compose3

/-- One modifier of the extended grammar. -/
inductive XMod where
  | base (m : Mod)
  /-- `~extension`: toggles the `extension` option bit -/
  | notExtension
  deriving DecidableEq, Repr, Inhabited

def renderXMod : XMod → Bytes
  | .base m => renderMod m
  | .notExtension => lit "~extension"

def XMod.valsOK : XMod → Bool
  | .base m => m.valsOK
  | .notExtension => true

def optsTextX (xs : List XMod) : Bytes := joinSep (xs.map renderXMod) [ch ',']

/-- The rule text `[@@] pattern [$ mod , mod , …]` over the extended grammar. -/
def renderX (exception : Bool) (pattern : Bytes) (xs : List XMod) : Bytes :=
  (if exception then lit "@@" else []) ++ pattern ++ (if optsTextX xs = [] then [] else ch '$' :: optsTextX xs)

theorem renderX_base (wl : Bool) (pat : Bytes) (ms : List Mod) :
    renderX wl pat (ms.map .base) = render wl pat ms := by
  unfold renderX render optsTextX optsText
  rw [List.map_map]
  rfl

/-- The closed form of one step of the option loop on a modifier of the extended grammar. -/
def applyX (ext : Ext) (r : NetRule) (x : XMod) : NetRule :=
  match x with
  | .base m => applyMod ext r m
  | .notExtension => { r with enabled := r.enabled ^^^ Facts.OptionExtension }

/-! ### through the wider grammar `ModW` (which has `~extension` too) -/

def XMod.toW : XMod → ModW
  | .base m => .base m
  | .notExtension => .notExtension

theorem renderModW_toW (x : XMod) : renderModW x.toW = renderXMod x := by cases x <;> rfl

theorem valsOK_toW {xs : List XMod} (h : ∀ x ∈ xs, x.valsOK = true) : ∀ m ∈ xs.map XMod.toW, m.valsOK = true := by
  intro m hm
  obtain ⟨x, hx, rfl⟩ := List.mem_map.1 hm
  cases x <;> exact h _ hx

theorem optsTextW_toW (xs : List XMod) : optsTextW (xs.map XMod.toW) = optsTextX xs := by
  unfold optsTextW optsTextX
  rw [List.map_map]
  exact congrArg (joinSep · [ch ',']) (List.map_congr_left fun x _ => renderModW_toW x)

theorem renderW_toW (wl : Bool) (pat : Bytes) (xs : List XMod) :
    renderW wl pat (xs.map XMod.toW) = renderX wl pat xs := by
  unfold renderW renderX
  rw [optsTextW_toW]

/-- PARSING A RENDERED TEXT of the extended grammar (`parse_renderW` read through `XMod.toW`). -/
theorem parse_renderX {px : ParseExt} {wl : Bool} {pat : Bytes} {xs : List XMod} {id : Int} {r : NetRule}
    (hp : patOK pat = true) (hm : ∀ x ∈ xs, x.valsOK = true)
    (h : parseNetRule px (renderX wl pat xs) id = .ok r) :
    r = { overrideDoc (xs.foldl (applyX px.ext) (initRule (renderX wl pat xs) wl id pat)) with
          pattern := r.pattern, shortcut := r.shortcut } := by
  rw [← renderW_toW] at h ⊢
  obtain ⟨hpW, hs⟩ := patOKW_of_patOK hp (xs.map XMod.toW)
  have := parse_renderW hpW hs (valsOK_toW hm) h
  rw [List.foldl_map] at this
  have hstep : (fun r x => applyModW px.ext r (XMod.toW x)) = applyX px.ext := by
    funext r x; cases x <;> rfl
  rw [hstep] at this
  exact this

/-! ### the modifier fields -/

theorem applyX_whitelist (ext : Ext) (r : NetRule) (x : XMod) : (applyX ext r x).whitelist = r.whitelist := by
  cases x with
  | base m => exact applyMod_whitelist ext r m
  | notExtension => rfl

theorem foldl_applyX_whitelist (ext : Ext) (xs : List XMod) (r : NetRule) :
    (xs.foldl (applyX ext) r).whitelist = r.whitelist := by
  induction xs generalizing r with
  | nil => rfl
  | cons x xs ih => rw [List.foldl_cons, ih, applyX_whitelist]

theorem modFields_applyX (ext : Ext) (r : NetRule) (x : XMod) :
    modFields (applyX ext r x) = applyX ext (modFields r) x := by
  cases x with
  | base m => exact modFields_applyMod ext r m
  | notExtension => rfl

theorem modFields_foldlX (ext : Ext) (xs : List XMod) (r : NetRule) :
    modFields (xs.foldl (applyX ext) r) = xs.foldl (applyX ext) (modFields r) := by
  induction xs generalizing r with
  | nil => rfl
  | cons x xs ih => rw [List.foldl_cons, List.foldl_cons, ih, modFields_applyX]

/-- The record the option loop of a rule text with exception flag `wl` starts from, text / id / pattern
    cleared. -/
def init0 (wl : Bool) : NetRule := { whitelist := wl }

/-- The state of the option loop after the modifiers `xs` (before the document-only override), on the
    modifier fields: a function of the exception flag and of the modifiers AS WRITTEN. -/
def loopRec (ext : Ext) (wl : Bool) (xs : List XMod) : NetRule := xs.foldl (applyX ext) (init0 wl)

theorem parseX_modFields {px : ParseExt} {wl : Bool} {pat : Bytes} {xs : List XMod} {id : Int} {r : NetRule}
    (hp : patOK pat = true) (hm : ∀ x ∈ xs, x.valsOK = true)
    (h : parseNetRule px (renderX wl pat xs) id = .ok r) :
    modFields r = overrideDoc (loopRec px.ext wl xs) := by
  have hr := parse_renderX hp hm h
  rw [hr]
  show modFields (overrideDoc _) = _
  rw [modFields_overrideDoc, modFields_foldlX]
  rfl

theorem loopRec_append (ext : Ext) (wl : Bool) (xs : List XMod) (x : XMod) :
    loopRec ext wl (xs ++ [x]) = applyX ext (loopRec ext wl xs) x := by
  unfold loopRec
  rw [List.foldl_append, List.foldl_cons, List.foldl_nil]

theorem loopRec_whitelist (ext : Ext) (wl : Bool) (xs : List XMod) : (loopRec ext wl xs).whitelist = wl :=
  foldl_applyX_whitelist ext xs (init0 wl)

/-- APPENDING A MODIFIER of the extended grammar to a text of the extended grammar. -/
theorem append_x {px : ParseExt} {wl : Bool} {pat : Bytes} {xs : List XMod} {x : XMod} {id id' : Int}
    {r r' : NetRule} (hp : patOK pat = true) (hm : ∀ y ∈ xs ++ [x], y.valsOK = true)
    (h : parseNetRule px (renderX wl pat xs) id = .ok r)
    (h' : parseNetRule px (renderX wl pat (xs ++ [x])) id' = .ok r') :
    ∃ R : NetRule, R.whitelist = wl ∧ modFields r = overrideDoc R ∧
      modFields r' = overrideDoc (applyX px.ext R x) := by
  refine ⟨loopRec px.ext wl xs, loopRec_whitelist _ _ _, ?_, ?_⟩
  · exact parseX_modFields hp (fun y hy => hm y (List.mem_append_left _ hy)) h
  · rw [parseX_modFields hp hm h', loopRec_append]

/-- When the appended modifier leaves "document-only or not" as it is (and is not a permitted content type on a
    document-only rule), the new rule IS the old one with the modifier applied, on the modifier fields. -/
theorem appendX_applyMod {px : ParseExt} {wl : Bool} {pat : Bytes} {xs : List XMod} {m : Mod} {id id' : Int}
    {r r' : NetRule} (hp : patOK pat = true) (hm : ∀ y ∈ xs ++ [.base m], y.valsOK = true)
    (h : parseNetRule px (renderX wl pat xs) id = .ok r)
    (h' : parseNetRule px (renderX wl pat (xs ++ [.base m])) id' = .ok r')
    (hd : m.isDocOnly = false ∨ docOnlyB r.enabled = true)
    (hc : ∀ c, m = .ctype false c → docOnlyB r.enabled = false) :
    modFields r' = applyMod px.ext (modFields r) m := by
  obtain ⟨R, _, e, e'⟩ := append_x hp hm h h'
  have e2 : modFields r' = overrideDoc (applyMod px.ext R m) := e'
  rw [enabled_of_overrideDoc e] at hd hc
  rw [e2, e, overrideDoc_applyMod _ _ _ hd hc]

/-! ### the same for texts over plain `Mod`s (`render`) -/

theorem valsOK_map_base {ms : List Mod} (hm : ∀ m ∈ ms, m.valsOK = true) :
    ∀ y ∈ ms.map XMod.base, y.valsOK = true := by
  intro y hy
  obtain ⟨m, hmem, rfl⟩ := List.mem_map.1 hy
  exact hm m hmem

theorem append_mod {px : ParseExt} {wl : Bool} {pat : Bytes} {ms : List Mod} {m : Mod} {id id' : Int}
    {r r' : NetRule} (hp : patOK pat = true) (hm : ∀ x ∈ ms ++ [m], x.valsOK = true)
    (h : parseNetRule px (render wl pat ms) id = .ok r)
    (h' : parseNetRule px (render wl pat (ms ++ [m])) id' = .ok r') :
    ∃ R : NetRule, R.whitelist = wl ∧ modFields r = overrideDoc R ∧
      modFields r' = overrideDoc (applyMod px.ext R m) := by
  have hm' := valsOK_map_base hm
  rw [← renderX_base] at h h'
  rw [List.map_append] at h' hm'
  exact append_x (x := .base m) hp hm' h h'

theorem append_applyMod {px : ParseExt} {wl : Bool} {pat : Bytes} {ms : List Mod} {m : Mod} {id id' : Int}
    {r r' : NetRule} (hp : patOK pat = true) (hm : ∀ x ∈ ms ++ [m], x.valsOK = true)
    (h : parseNetRule px (render wl pat ms) id = .ok r)
    (h' : parseNetRule px (render wl pat (ms ++ [m])) id' = .ok r')
    (hd : m.isDocOnly = false ∨ docOnlyB r.enabled = true)
    (hc : ∀ c, m = .ctype false c → docOnlyB r.enabled = false) :
    modFields r' = applyMod px.ext (modFields r) m := by
  have hm' := valsOK_map_base hm
  rw [← renderX_base] at h h'
  rw [List.map_append] at h' hm'
  exact appendX_applyMod (m := m) hp hm' h h' hd hc

end UF.L
