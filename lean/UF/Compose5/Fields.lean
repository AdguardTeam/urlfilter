import UF.Compose5.ParseText
import UF.Proofs.Bits
/-
  THE GRAMMAR-LEVEL LEMMA: every modifier field of a rule parsed from a rendered text, as a function of the
  structured data (`ModSpec.ofModsW ms`, `ModSpec.ofMods ms`) — `ParsedAs`.

  The fold of `applyModW` differs from the fold of `applyMod` over the narrow counterpart only in the `enabled`
  bits (`~extension` toggles bit 10); bits 0‥3 (third-party, match-case, important, badfilter) and the seven other
  document-only bits are the OR of what each modifier contributes, bit 10 follows the left-to-right reading
  `extensionOn`.
-/
namespace UF.L
open UF UF.E Bytes UF.Compose3

/-! ### bit-valued fields: OR of what each modifier contributes -/

def enBits : Mod → Nat
  | .opt o => o.bit | .thirdParty _ => Facts.OptionThirdParty | .document => docBits | _ => 0
def disBits : Mod → Nat
  | .firstParty _ => Facts.OptionThirdParty | .notMatchCase => Facts.OptionMatchCase | _ => 0
def permBits : Mod → Nat | .ctype false c => c.bit | _ => 0
def restrBits : Mod → Nat | .ctype true c => c.bit | _ => 0

/-- The request-type mask of a list of content types. -/
def bitsOf (l : List CType) : Nat := l.foldl (fun a c => a ||| c.bit) 0

theorem applyMod_enabled (ext : Ext) (r : NetRule) (m : Mod) :
    (applyMod ext r m).enabled = r.enabled ||| enBits m := by
  cases m with
  | ctype neg c => cases neg <;> simp [applyMod, enBits]
  | _ => simp [applyMod, enBits]

theorem applyMod_disabled (ext : Ext) (r : NetRule) (m : Mod) :
    (applyMod ext r m).disabled = r.disabled ||| disBits m := by
  cases m with
  | ctype neg c => cases neg <;> simp [applyMod, disBits]
  | _ => simp [applyMod, disBits]

theorem applyMod_permTypes (ext : Ext) (r : NetRule) (m : Mod) :
    (applyMod ext r m).permTypes = r.permTypes ||| permBits m := by
  cases m with
  | ctype neg c => cases neg <;> simp [applyMod, permBits]
  | _ => simp [applyMod, permBits]

theorem applyMod_restrTypes (ext : Ext) (r : NetRule) (m : Mod) :
    (applyMod ext r m).restrTypes = r.restrTypes ||| restrBits m := by
  cases m with
  | ctype neg c => cases neg <;> simp [applyMod, restrBits]
  | _ => simp [applyMod, restrBits]

theorem applyMod_whitelist (ext : Ext) (r : NetRule) (m : Mod) :
    (applyMod ext r m).whitelist = r.whitelist := by
  cases m with
  | ctype neg c => cases neg <;> rfl
  | _ => rfl

theorem applyMod_rewrite (ext : Ext) (r : NetRule) (m : Mod) :
    (applyMod ext r m).rewrite = r.rewrite := by
  cases m with
  | ctype neg c => cases neg <;> rfl
  | _ => rfl

/-- A field that every step ORs something into. -/
theorem foldl_or (ext : Ext) (f : NetRule → Nat) (b : Mod → Nat)
    (hf : ∀ r m, f (applyMod ext r m) = f r ||| b m) (ms : List Mod) (r : NetRule) :
    f (ms.foldl (applyMod ext) r) = ms.foldl (fun a m => a ||| b m) (f r) := by
  induction ms generalizing r with
  | nil => rfl
  | cons m ms ih => simp only [List.foldl_cons]; rw [ih, hf]

theorem foldl_or_filterMap (b : Mod → Nat) (g : Mod → Option CType)
    (hb : ∀ m, b m = match g m with | some c => c.bit | none => 0) (ms : List Mod) (a : Nat) :
    ms.foldl (fun a m => a ||| b m) a = (ms.filterMap g).foldl (fun a c => a ||| c.bit) a := by
  induction ms generalizing a with
  | nil => rfl
  | cons m ms ih =>
    simp only [List.foldl_cons, List.filterMap_cons]
    rw [hb m]
    cases g m with
    | none => simp only [Nat.or_zero]; exact ih a
    | some c => simp only [List.foldl_cons]; exact ih _

theorem foldl_keeps {γ} (ext : Ext) (f : NetRule → γ) (hf : ∀ r m, f (applyMod ext r m) = f r) (ms : List Mod)
    (r : NetRule) : f (ms.foldl (applyMod ext) r) = f r := by
  induction ms generalizing r with
  | nil => rfl
  | cons m ms ih => rw [List.foldl_cons, ih, hf]

/-! ### the document-only test reads eight bits -/

theorem any_testBit_or (l : List Nat) (a b : Nat) :
    l.any (a ||| b).testBit = (l.any a.testBit || l.any b.testBit) := by
  rw [any_or']
  congr 1
  funext k
  exact Nat.testBit_or a b k

theorem docOnlyB_testBit (n : Nat) : docOnlyB n = [7, 4, 9, 8, 6, 5, 10, 14].any n.testBit := by
  unfold docOnlyB documentOnlyOptions
  simp only [List.any_cons, List.any_nil]
  rw [show ((n &&& Facts.OptionJsinject) == Facts.OptionJsinject) = n.testBit 7 from and_two_pow_beq n 7,
    show ((n &&& Facts.OptionElemhide) == Facts.OptionElemhide) = n.testBit 4 from and_two_pow_beq n 4,
    show ((n &&& Facts.OptionContent) == Facts.OptionContent) = n.testBit 9 from and_two_pow_beq n 9,
    show ((n &&& Facts.OptionUrlblock) == Facts.OptionUrlblock) = n.testBit 8 from and_two_pow_beq n 8,
    show ((n &&& Facts.OptionGenericblock) == Facts.OptionGenericblock) = n.testBit 6 from and_two_pow_beq n 6,
    show ((n &&& Facts.OptionGenerichide) == Facts.OptionGenerichide) = n.testBit 5 from and_two_pow_beq n 5,
    show ((n &&& Facts.OptionExtension) == Facts.OptionExtension) = n.testBit 10 from and_two_pow_beq n 10,
    show ((n &&& Facts.OptionPopup) == Facts.OptionPopup) = n.testBit 14 from and_two_pow_beq n 14]

theorem docOnlyB_or (a b : Nat) : docOnlyB (a ||| b) = (docOnlyB a || docOnlyB b) := by
  simp only [docOnlyB_testBit, any_testBit_or]

theorem docOnlyB_enBits (m : Mod) : docOnlyB (enBits m) = m.isDocOnly := by
  cases m with
  | opt o => cases o <;> decide
  | thirdParty alt => cases alt <;> decide
  | document => decide
  | _ => show docOnlyB 0 = false; decide

/-! ### value fields: written by at most one modifier -/

/-- A field that one family of modifiers overwrites (with `g` of the values it carries) and all other
    modifiers leave alone: when the family occurs at most once, the field is `g` of all the values written for it. -/
theorem foldl_written {α γ} (ext : Ext) (f : NetRule → γ) (is : Mod → Bool) (val : Mod → List α) (g : List α → γ)
    (hstep : ∀ r m, f (applyMod ext r m) = if is m then g (val m) else f r)
    (hv : ∀ m, is m = false → val m = []) :
    ∀ (ms : List Mod) (r : NetRule), atMostOne is ms = true → f r = g [] →
      f (ms.foldl (applyMod ext) r) = g (ms.flatMap val) := by
  have hw : ∀ r m, is m = true → f (applyMod ext r m) = g (val m) := fun r m hm => by rw [hstep, if_pos hm]
  have hk : ∀ r m, is m = false → f (applyMod ext r m) = f r := fun r m hm => by
    rw [hstep, if_neg (by rw [hm]; exact Bool.false_ne_true)]
  have keep : ∀ (ms : List Mod) (r : NetRule), (∀ m ∈ ms, is m = false) →
      f (ms.foldl (applyMod ext) r) = f r ∧ ms.flatMap val = [] := by
    intro ms
    induction ms with
    | nil => intro r _; exact ⟨rfl, rfl⟩
    | cons m ms ih =>
      intro r h
      have hm := h m List.mem_cons_self
      obtain ⟨h1, h2⟩ := ih (applyMod ext r m) (fun x hx => h x (List.mem_cons_of_mem _ hx))
      refine ⟨by rw [List.foldl_cons, h1, hk r m hm], ?_⟩
      rw [List.flatMap_cons, hv m hm, h2]; rfl
  intro ms
  induction ms with
  | nil => intro r _ h0; exact h0
  | cons m ms ih =>
    intro r hone h0
    unfold atMostOne at hone
    simp only [decide_eq_true_eq] at hone
    cases hm : is m with
    | true =>
      rw [List.filter_cons_of_pos hm, List.length_cons] at hone
      have hnone : ∀ x ∈ ms, is x = false := by
        intro x hx
        cases hx' : is x with
        | false => rfl
        | true =>
          have : x ∈ ms.filter is := List.mem_filter.2 ⟨hx, hx'⟩
          have := List.length_pos_of_mem this
          omega
      obtain ⟨h1, h2⟩ := keep ms (applyMod ext r m) hnone
      rw [List.foldl_cons, h1, hw r m hm, List.flatMap_cons, h2, List.append_nil]
    | false =>
      rw [List.filter_cons_of_neg (by simp [hm])] at hone
      rw [List.foldl_cons, List.flatMap_cons, hv m hm, List.nil_append]
      exact ih (applyMod ext r m) (by unfold atMostOne; simpa using hone) (by rw [hk r m hm]; exact h0)

/-! ### the parsed record, family by family -/

theorem clientsOf_nil (ext : Ext) : clientsOf ext [] = none := rfl

/-- What the parser model stores for a rendered rule text, in terms of the MEANING of the modifiers. -/
structure ParsedAs (ext : Ext) (wl : Bool) (s : ModSpec) (r : NetRule) : Prop where
  whitelist : r.whitelist = wl
  thirdParty : r.isEnabled Facts.OptionThirdParty = s.thirdParty
  firstParty : r.isDisabled Facts.OptionThirdParty = s.firstParty
  matchCase : r.isEnabled Facts.OptionMatchCase = s.matchCase
  important : r.isEnabled Facts.OptionImportant = s.important
  badfilter : r.isEnabled Facts.OptionBadfilter = s.badfilter
  docOnly : docOnlyB r.enabled = s.docOnly
  permTypes : r.permTypes = if s.docOnly then Facts.TypeDocument else bitsOf s.permTypes
  restrTypes : r.restrTypes = bitsOf s.restrTypes
  permDomains : r.permDomains = s.permDomains
  restrDomains : r.restrDomains = s.restrDomains
  denyallow : r.denyallow = s.denyallow
  permDns : r.permDns = s.permDns
  restrDns : r.restrDns = s.restrDns
  permTags : r.permTags = sortB s.permTags
  restrTags : r.restrTags = sortB s.restrTags
  permClients : r.permClients = clientsOf ext s.permClients
  restrClients : r.restrClients = clientsOf ext s.restrClients
  rewrite : r.rewrite = none

/-- Which modifiers set bits 0‥3 of the enabled options, and bit 0 of the disabled ones. -/
theorem enBits_flags :
    (fun m => (enBits m).testBit 0) = Mod.isThirdParty ∧
    (fun m => (enBits m).testBit 1) = Mod.isOpt .matchCase ∧
    (fun m => (enBits m).testBit 2) = Mod.isOpt .important ∧
    (fun m => (enBits m).testBit 3) = Mod.isOpt .badfilter ∧
    (fun m => (disBits m).testBit 0) = Mod.isFirstParty := by
  refine ⟨?_, ?_, ?_, ?_, ?_⟩ <;> funext m <;> cases m with
  | opt o => cases o <;> decide
  | thirdParty alt => cases alt <;> decide
  | firstParty alt => cases alt <;> decide
  | notMatchCase => decide
  | document => decide
  | _ => exact Nat.zero_testBit _

theorem overrideDoc_eq (r : NetRule) :
    overrideDoc r = { r with permTypes := if docOnlyB r.enabled then Facts.TypeDocument else r.permTypes } := by
  unfold overrideDoc
  split <;> rfl

/-! ### the `enabled` bits of the wide fold -/

def enStepW (a : Nat) : ModW → Nat
  | .base m => a ||| enBits m
  | .clientQ _ => a
  | .notExtension => a ^^^ Facts.OptionExtension

def enW (ms : List ModW) (a : Nat) : Nat := ms.foldl enStepW a

theorem applyMod_setEnabled (ext : Ext) (r : NetRule) (e : Nat) (m : Mod) :
    applyMod ext { r with enabled := e } m = { applyMod ext r m with enabled := e ||| enBits m } := by
  cases m with
  | ctype neg c => cases neg <;> simp [applyMod, enBits]
  | _ => simp [applyMod, enBits]

theorem foldl_applyMod_setEnabled (ext : Ext) (ms : List Mod) (r : NetRule) (e : Nat) :
    ms.foldl (applyMod ext) { r with enabled := e } =
      { ms.foldl (applyMod ext) r with enabled := ms.foldl (fun a m => a ||| enBits m) e } := by
  induction ms generalizing r e with
  | nil => rfl
  | cons m ms ih =>
    simp only [List.foldl_cons]
    rw [applyMod_setEnabled, ih]

/-- The wide fold is the narrow fold, except for the `enabled` bits. -/
theorem foldl_applyModW (ext : Ext) (ms : List ModW) (r : NetRule) :
    ms.foldl (applyModW ext) r = { (narrow ms).foldl (applyMod ext) r with enabled := enW ms r.enabled } := by
  induction ms generalizing r with
  | nil => rfl
  | cons m ms ih =>
    simp only [List.foldl_cons]
    rw [ih]
    cases m with
    | base m =>
      show _ = { (m :: narrow ms).foldl (applyMod ext) r with enabled := enW ms (r.enabled ||| enBits m) }
      rw [show applyModW ext r (.base m) = applyMod ext r m from rfl, applyMod_enabled]
      rfl
    | clientQ vs =>
      show _ = { (Mod.client _ :: narrow ms).foldl (applyMod ext) r with enabled := enW ms r.enabled }
      rw [show applyModW ext r (.clientQ vs) = applyMod ext r (.client (vs.map (fun v => (v.1, v.2.value)))) from rfl,
        applyMod_enabled]
      show _ = { (narrow ms).foldl (applyMod ext) (applyMod ext r (.client _)) with enabled := enW ms r.enabled }
      simp [enBits]
    | notExtension =>
      show _ = { (narrow ms).foldl (applyMod ext) r with enabled := enW ms (r.enabled ^^^ Facts.OptionExtension) }
      rw [show applyModW ext r .notExtension = { r with enabled := r.enabled ^^^ Facts.OptionExtension } from rfl,
        foldl_applyMod_setEnabled]

theorem ext_testBit (k : Nat) : Facts.OptionExtension.testBit k = decide (k = 10) := by
  rw [show Facts.OptionExtension = 2 ^ 10 from rfl, Nat.testBit_two_pow]
  by_cases h : k = 10
  · subst h; rfl
  · have : ¬ 10 = k := fun e => h e.symm
    simp [h, this]

/-- Bits other than bit 10: the OR of what the narrow counterparts contribute. -/
theorem enW_testBit (k : Nat) (hk : k ≠ 10) (ms : List ModW) (a : Nat) :
    (enW ms a).testBit k = ((narrow ms).foldl (fun a m => a ||| enBits m) a).testBit k := by
  induction ms generalizing a with
  | nil => rfl
  | cons m ms ih =>
    unfold enW at ih ⊢
    simp only [List.foldl_cons]
    rw [ih]
    cases m with
    | base m => rfl
    | clientQ vs =>
      show ((narrow ms).foldl (fun a m => a ||| enBits m) a).testBit k =
        ((narrow ms).foldl (fun a m => a ||| enBits m) (a ||| 0)).testBit k
      rw [Nat.or_zero]
    | notExtension =>
      show ((narrow ms).foldl (fun a m => a ||| enBits m) (a ^^^ Facts.OptionExtension)).testBit k =
        ((narrow ms).foldl (fun a m => a ||| enBits m) a).testBit k
      rw [testBit_foldl_or, testBit_foldl_or, Nat.testBit_xor, ext_testBit]
      simp [hk]

/-- Bit 10: the left-to-right reading. -/
theorem enW_bit10 (ms : List ModW) (a : Nat) : (enW ms a).testBit 10 = ms.foldl extStep (a.testBit 10) := by
  induction ms generalizing a with
  | nil => rfl
  | cons m ms ih =>
    unfold enW at ih ⊢
    simp only [List.foldl_cons]
    rw [ih]
    congr 1
    cases m with
    | base m =>
      show (a ||| enBits m).testBit 10 = extStep (a.testBit 10) (.base m)
      rw [Nat.testBit_or]
      cases m with
      | opt o => cases o <;> cases a.testBit 10 <;> decide
      | thirdParty alt => cases alt <;> cases a.testBit 10 <;> decide
      | document => cases a.testBit 10 <;> decide
      | ctype neg c => cases a.testBit 10 <;> simp [enBits, extStep]
      | _ => cases a.testBit 10 <;> simp [enBits, extStep]
    | clientQ vs => rfl
    | notExtension =>
      show (a ^^^ Facts.OptionExtension).testBit 10 = !a.testBit 10
      rw [Nat.testBit_xor, ext_testBit]
      cases a.testBit 10 <;> rfl

/-- The seven document-only bits other than `extension`. -/
def otherDocBits (n : Nat) : Bool := [7, 4, 9, 8, 6, 5, 14].any n.testBit

theorem docOnlyB_split (n : Nat) : docOnlyB n = (otherDocBits n || n.testBit 10) := by
  rw [docOnlyB_testBit]
  unfold otherDocBits
  simp only [List.any_cons, List.any_nil, Bool.or_false]
  cases n.testBit 10 <;> simp

theorem otherDocBits_enBits (m : Mod) : otherDocBits (enBits m) = (ModW.base m).isDocOnlyOther := by
  cases m with
  | opt o => cases o <;> decide
  | thirdParty alt => cases alt <;> decide
  | firstParty alt => cases alt <;> decide
  | ctype neg c => cases neg <;> cases c <;> decide
  | notMatchCase => decide
  | document => decide
  | _ => show otherDocBits 0 = false; decide

theorem otherDocBits_enW (ms : List ModW) (a : Nat) :
    otherDocBits (enW ms a) = (otherDocBits a || ms.any ModW.isDocOnlyOther) := by
  induction ms generalizing a with
  | nil => simp [enW]
  | cons m ms ih =>
    unfold enW at ih ⊢
    simp only [List.foldl_cons, List.any_cons]
    rw [ih]
    cases m with
    | base m =>
      show (otherDocBits (a ||| enBits m) || _) = _
      rw [← otherDocBits_enBits, ← Bool.or_assoc]
      unfold otherDocBits
      rw [any_testBit_or]
    | clientQ vs => rfl
    | notExtension =>
      show (otherDocBits (a ^^^ Facts.OptionExtension) || _) = _
      have : otherDocBits (a ^^^ Facts.OptionExtension) = otherDocBits a := by
        unfold otherDocBits
        simp only [List.any_cons, Nat.testBit_xor, ext_testBit]
        simp
      rw [this]
      rfl

theorem docOnlyB_enW (ms : List ModW) :
    docOnlyB (enW ms 0) = (ms.any ModW.isDocOnlyOther || extensionOn ms) := by
  rw [docOnlyB_split, otherDocBits_enW, enW_bit10]
  rfl

/-! ### the parsed record -/

theorem onceOK_parts {ms : List Mod} (h : onceOK ms = true) :
    atMostOne Mod.isDomain ms = true ∧ atMostOne Mod.isDenyallow ms = true ∧ atMostOne Mod.isDnstype ms = true ∧
      atMostOne Mod.isCtag ms = true ∧ atMostOne Mod.isClient ms = true := by
  unfold onceOK at h
  simp only [Bool.and_eq_true] at h
  exact ⟨h.1.1.1.1, h.1.1.1.2, h.1.1.2, h.1.2, h.2⟩

/-- What one step does to the value fields: a modifier of a family overwrites the lists of its family, every other
    modifier leaves them alone. -/
structure ValueStep (ext : Ext) (r : NetRule) (m : Mod) : Prop where
  permDomains : (applyMod ext r m).permDomains = if m.isDomain then posVals m.domainVals else r.permDomains
  restrDomains : (applyMod ext r m).restrDomains = if m.isDomain then negVals m.domainVals else r.restrDomains
  denyallow : (applyMod ext r m).denyallow = if m.isDenyallow then m.denyallowVals else r.denyallow
  permDns : (applyMod ext r m).permDns =
    if m.isDnstype then (posVals m.dnstypeVals).filterMap dnsTypeNumber else r.permDns
  restrDns : (applyMod ext r m).restrDns =
    if m.isDnstype then (negVals m.dnstypeVals).filterMap dnsTypeNumber else r.restrDns
  permTags : (applyMod ext r m).permTags = if m.isCtag then sortB (posVals m.ctagVals) else r.permTags
  restrTags : (applyMod ext r m).restrTags = if m.isCtag then sortB (negVals m.ctagVals) else r.restrTags
  permClients : (applyMod ext r m).permClients =
    if m.isClient then clientsOf ext (posVals m.clientVals) else r.permClients
  restrClients : (applyMod ext r m).restrClients =
    if m.isClient then clientsOf ext (negVals m.clientVals) else r.restrClients

theorem applyMod_values (ext : Ext) (r : NetRule) (m : Mod) : ValueStep ext r m := by
  cases m with
  | ctype neg c => cases neg <;> constructor <;> rfl
  | _ => constructor <;> rfl

theorem Mod.domainVals_eq_nil {m : Mod} (h : m.isDomain = false) : m.domainVals = [] := by
  cases m <;> first | rfl | cases h
theorem Mod.denyallowVals_eq_nil {m : Mod} (h : m.isDenyallow = false) : m.denyallowVals = [] := by
  cases m <;> first | rfl | cases h
theorem Mod.dnstypeVals_eq_nil {m : Mod} (h : m.isDnstype = false) : m.dnstypeVals = [] := by
  cases m <;> first | rfl | cases h
theorem Mod.ctagVals_eq_nil {m : Mod} (h : m.isCtag = false) : m.ctagVals = [] := by
  cases m <;> first | rfl | cases h
theorem Mod.clientVals_eq_nil {m : Mod} (h : m.isClient = false) : m.clientVals = [] := by
  cases m <;> first | rfl | cases h

/-- The one modifier of a family that occurs at most once contributes all the values of the family. -/
theorem flatMap_of_atMostOne {β} {is : Mod → Bool} {val : Mod → List β} (hv : ∀ m, is m = false → val m = [])
    {pre post : List Mod} {m : Mod} (hm : is m = true) (hone : atMostOne is (pre ++ m :: post) = true) :
    (pre ++ m :: post).flatMap val = val m := by
  have hnil : ∀ l : List Mod, (l.filter is).length = 0 → l.flatMap val = [] := by
    intro l hl
    refine List.flatMap_eq_nil_iff.2 (fun x hx => hv x ?_)
    cases hx' : is x with
    | false => rfl
    | true => exact absurd (List.length_pos_of_mem (List.mem_filter.2 ⟨hx, hx'⟩)) (by omega)
  unfold atMostOne at hone
  simp only [decide_eq_true_eq, List.filter_append, List.length_append, List.filter_cons_of_pos hm,
    List.length_cons] at hone
  rw [List.flatMap_append, List.flatMap_cons, hnil pre (by omega), hnil post (by omega), List.nil_append,
    List.append_nil]

/-- The core of the grammar-level lemma, stated on the FOLD: the record obtained from the fold of `applyMod` over
    `ms` by replacing the `enabled` bits with `E` (whose bits 0‥3 are those of the fold) and applying the
    document-only override stores what `ModSpec.ofMods ms` says, with "document-only" = `docOnlyB E`. -/
theorem parsedAs_core {ext : Ext} {wl : Bool} {t pat : Bytes} {id : Int} {ms : List Mod} {E : Nat} {r : NetRule}
    (honce : onceOK ms = true)
    (hr : r = { overrideDoc { ms.foldl (applyMod ext) (initRule t wl id pat) with enabled := E } with
                pattern := r.pattern, shortcut := r.shortcut })
    (hbits : ∀ k, k ≤ 3 → E.testBit k = (ms.foldl (fun a m => a ||| enBits m) 0).testBit k) :
    ParsedAs ext wl { ModSpec.ofMods ms with docOnly := docOnlyB E } r := by
  rw [overrideDoc_eq] at hr
  let r2 := ms.foldl (applyMod ext) (initRule t wl id pat)
  obtain ⟨o1, o2, o3, o4, o5⟩ := onceOK_parts honce
  have e_dis : r2.disabled = ms.foldl (fun a m => a ||| disBits m) 0 := by
    rw [foldl_or ext NetRule.disabled disBits (applyMod_disabled ext)]; rfl
  have e_pt : r2.permTypes = bitsOf (ms.filterMap Mod.permType) := by
    rw [foldl_or ext NetRule.permTypes permBits (applyMod_permTypes ext)]
    exact foldl_or_filterMap permBits Mod.permType (fun m => by
      cases m with
      | ctype neg c => cases neg <;> rfl
      | _ => rfl) ms 0
  have e_rt : r2.restrTypes = bitsOf (ms.filterMap Mod.restrType) := by
    rw [foldl_or ext NetRule.restrTypes restrBits (applyMod_restrTypes ext)]
    exact foldl_or_filterMap restrBits Mod.restrType (fun m => by
      cases m with
      | ctype neg c => cases neg <;> rfl
      | _ => rfl) ms 0
  have bit : ∀ k, k ≤ 3 → E.testBit k = ms.any (fun m => (enBits m).testBit k) := by
    intro k hk
    rw [hbits k hk, testBit_foldl_or, Nat.zero_testBit, Bool.false_or]
  have hwl : r2.whitelist = wl := by
    rw [foldl_keeps ext NetRule.whitelist (applyMod_whitelist ext)]; rfl
  have hrw : r2.rewrite = none := by
    rw [foldl_keeps ext NetRule.rewrite (applyMod_rewrite ext)]; rfl
  have w_pd : r2.permDomains = (ModSpec.ofMods ms).permDomains :=
    foldl_written ext NetRule.permDomains Mod.isDomain (fun m => posVals m.domainVals) (fun x => x)
      (fun r m => (applyMod_values ext r m).permDomains)
      (fun m hm => by rw [Mod.domainVals_eq_nil hm]; rfl) ms _ o1 rfl
  have w_rd : r2.restrDomains = (ModSpec.ofMods ms).restrDomains :=
    foldl_written ext NetRule.restrDomains Mod.isDomain (fun m => negVals m.domainVals) (fun x => x)
      (fun r m => (applyMod_values ext r m).restrDomains)
      (fun m hm => by rw [Mod.domainVals_eq_nil hm]; rfl) ms _ o1 rfl
  have w_da : r2.denyallow = (ModSpec.ofMods ms).denyallow :=
    foldl_written ext NetRule.denyallow Mod.isDenyallow Mod.denyallowVals (fun x => x)
      (fun r m => (applyMod_values ext r m).denyallow)
      (fun _ => Mod.denyallowVals_eq_nil) ms _ o2 rfl
  have w_pn : r2.permDns = (ModSpec.ofMods ms).permDns :=
    foldl_written ext NetRule.permDns Mod.isDnstype
      (fun m => (posVals m.dnstypeVals).filterMap dnsTypeNumber) (fun x => x)
      (fun r m => (applyMod_values ext r m).permDns)
      (fun m hm => by rw [Mod.dnstypeVals_eq_nil hm]; rfl) ms _ o3 rfl
  have w_rn : r2.restrDns = (ModSpec.ofMods ms).restrDns :=
    foldl_written ext NetRule.restrDns Mod.isDnstype
      (fun m => (negVals m.dnstypeVals).filterMap dnsTypeNumber) (fun x => x)
      (fun r m => (applyMod_values ext r m).restrDns)
      (fun m hm => by rw [Mod.dnstypeVals_eq_nil hm]; rfl) ms _ o3 rfl
  have w_pt : r2.permTags = sortB (ModSpec.ofMods ms).permTags :=
    foldl_written ext NetRule.permTags Mod.isCtag (fun m => posVals m.ctagVals) sortB
      (fun r m => (applyMod_values ext r m).permTags)
      (fun m hm => by rw [Mod.ctagVals_eq_nil hm]; rfl) ms _ o4 rfl
  have w_rt : r2.restrTags = sortB (ModSpec.ofMods ms).restrTags :=
    foldl_written ext NetRule.restrTags Mod.isCtag (fun m => negVals m.ctagVals) sortB
      (fun r m => (applyMod_values ext r m).restrTags)
      (fun m hm => by rw [Mod.ctagVals_eq_nil hm]; rfl) ms _ o4 rfl
  have w_pc : r2.permClients = clientsOf ext (ModSpec.ofMods ms).permClients :=
    foldl_written ext NetRule.permClients Mod.isClient (fun m => posVals m.clientVals) (clientsOf ext)
      (fun r m => (applyMod_values ext r m).permClients)
      (fun m hm => by rw [Mod.clientVals_eq_nil hm]; rfl) ms _ o5 rfl
  have w_rc : r2.restrClients = clientsOf ext (ModSpec.ofMods ms).restrClients :=
    foldl_written ext NetRule.restrClients Mod.isClient (fun m => negVals m.clientVals) (clientsOf ext)
      (fun r m => (applyMod_values ext r m).restrClients)
      (fun m hm => by rw [Mod.clientVals_eq_nil hm]; rfl) ms _ o5 rfl
  have f_en : r.enabled = E := by
    have := congrArg NetRule.enabled hr
    exact this
  have f_dis : r.disabled = r2.disabled := by
    have := congrArg NetRule.disabled hr
    exact this
  exact {
    whitelist := (congrArg NetRule.whitelist hr).trans hwl
    thirdParty := by
      rw [show r.isEnabled Facts.OptionThirdParty = r.enabled.testBit 0 from and_two_pow_beq r.enabled 0, f_en,
        bit 0 (by decide), enBits_flags.1]; rfl
    firstParty := by
      rw [show r.isDisabled Facts.OptionThirdParty = r.disabled.testBit 0 from and_two_pow_beq r.disabled 0, f_dis,
        e_dis, testBit_foldl_or, Nat.zero_testBit, Bool.false_or, enBits_flags.2.2.2.2]; rfl
    matchCase := by
      rw [show r.isEnabled Facts.OptionMatchCase = r.enabled.testBit 1 from and_two_pow_beq r.enabled 1, f_en,
        bit 1 (by decide), enBits_flags.2.1]; rfl
    important := by
      rw [show r.isEnabled Facts.OptionImportant = r.enabled.testBit 2 from and_two_pow_beq r.enabled 2, f_en,
        bit 2 (by decide), enBits_flags.2.2.1]; rfl
    badfilter := by
      rw [show r.isEnabled Facts.OptionBadfilter = r.enabled.testBit 3 from and_two_pow_beq r.enabled 3, f_en,
        bit 3 (by decide), enBits_flags.2.2.2.1]; rfl
    docOnly := by rw [f_en]
    permTypes := by
      have : r.permTypes = if docOnlyB E then Facts.TypeDocument else r2.permTypes := by
        have := congrArg NetRule.permTypes hr
        exact this
      rw [this, e_pt]; rfl
    restrTypes := (congrArg NetRule.restrTypes hr).trans e_rt
    permDomains := (congrArg NetRule.permDomains hr).trans w_pd
    restrDomains := (congrArg NetRule.restrDomains hr).trans w_rd
    denyallow := (congrArg NetRule.denyallow hr).trans w_da
    permDns := (congrArg NetRule.permDns hr).trans w_pn
    restrDns := (congrArg NetRule.restrDns hr).trans w_rn
    permTags := (congrArg NetRule.permTags hr).trans w_pt
    restrTags := (congrArg NetRule.restrTags hr).trans w_rt
    permClients := (congrArg NetRule.permClients hr).trans w_pc
    restrClients := (congrArg NetRule.restrClients hr).trans w_rc
    rewrite := (congrArg NetRule.rewrite hr).trans hrw }

theorem modsOKW_vals {ms : List ModW} (h : modsOKW ms = true) : ∀ m ∈ ms, m.valsOK = true := by
  unfold modsOKW at h
  simp only [Bool.and_eq_true, List.all_eq_true] at h
  exact h.1

/-- THE GRAMMAR-LEVEL LEMMA OF THE WIDER GRAMMAR: a rule text rendered from structured wide modifiers, if the
    parser model accepts it, is stored as the meaning `ModSpec.ofModsW ms` says. -/
theorem parsedAs_of_parseW {px : ParseExt} {wl : Bool} {pat : Bytes} {ms : List ModW} {id : Int} {r : NetRule}
    (hp : patOKW pat = true) (hs : slashOK pat ms = true) (hm : modsOKW ms = true)
    (h : parseNetRule px (renderW wl pat ms) id = .ok r) :
    ParsedAs px.ext wl (ModSpec.ofModsW ms) r := by
  have hr := parse_renderW hp hs (modsOKW_vals hm) h
  rw [foldl_applyModW] at hr
  have honce : onceOK (narrow ms) = true := by
    unfold modsOKW at hm
    simp only [Bool.and_eq_true] at hm
    exact hm.2
  have := parsedAs_core (ext := px.ext) (E := enW ms 0) honce hr (fun k hk => by
    rw [enW_testBit k (by omega) ms 0])
  rw [docOnlyB_enW] at this
  exact this

/-! ### the grammar without quoted names, `~extension` and `/`-patterns -/

theorem modsOKW_base {ms : List Mod} (h : modsOK ms = true) : modsOKW (ms.map .base) = true := by
  unfold modsOKW onceOK
  rw [narrow_base, List.all_map]
  simpa [modsOK, Function.comp_def, ModW.valsOK, Bool.and_assoc] using h

theorem modsOK_vals {ms : List Mod} (h : modsOK ms = true) : ∀ m ∈ ms, m.valsOK = true := by
  unfold modsOK at h
  simp only [Bool.and_eq_true, List.all_eq_true] at h
  exact h.1.1.1.1.1

/-- A rule text rendered from structured modifiers, if the parser model accepts it, is stored as the meaning of
    the modifiers says. -/
theorem parsedAs_of_parse {px : ParseExt} {wl : Bool} {pat : Bytes} {ms : List Mod} {id : Int} {r : NetRule}
    (hp : patOK pat = true) (hm : modsOK ms = true)
    (h : parseNetRule px (render wl pat ms) id = .ok r) :
    ParsedAs px.ext wl (ModSpec.ofMods ms) r := by
  rw [← renderW_base] at h
  rw [← ofModsW_base]
  obtain ⟨hpW, hs⟩ := patOKW_of_patOK hp (ms.map .base)
  exact parsedAs_of_parseW hpW hs (modsOKW_base hm) h

end UF.L
