import UF.Compose5.C08Split
import UF.Compose5.C08Order
/-
  C08, `$client`: `clients.finalize` sorts host names and subnets.  `comparePrefix` is a total
  preorder whose ties are prefixes equal up to the IPv6 zone; on zone-free prefixes (the only ones
  `clients.add` can produce: `IsProbablyIP` admits no `%`, `ParsePrefix` rejects zones) it is
  antisymmetric, so two `$client` values that are permutations of each other give equal client sets.
-/
namespace UF.L
open UF UF.E Bytes

theorem prefixLe_total (a b : Prefix) : prefixLe a b = true ∨ prefixLe b a = true := by
  rcases a with ⟨⟨a4, av, az⟩, ab⟩
  rcases b with ⟨⟨b4, bv, bz⟩, bb⟩
  cases a4 <;> cases b4 <;> simp [prefixLe] <;> omega

theorem prefixLe_trans {a b c : Prefix} (h1 : prefixLe a b = true) (h2 : prefixLe b c = true) :
    prefixLe a c = true := by
  rcases a with ⟨⟨a4, av, az⟩, ab⟩
  rcases b with ⟨⟨b4, bv, bz⟩, bb⟩
  rcases c with ⟨⟨c4, cv, cz⟩, cb⟩
  cases a4 <;> cases b4 <;> cases c4 <;> simp [prefixLe] at h1 h2 ⊢ <;> omega

theorem prefixLe_antisymm {a b : Prefix} (ha : a.addr.zone = []) (hb : b.addr.zone = [])
    (h1 : prefixLe a b = true) (h2 : prefixLe b a = true) : a = b := by
  rcases a with ⟨⟨a4, av, az⟩, ab⟩
  rcases b with ⟨⟨b4, bv, bz⟩, bb⟩
  simp only at ha hb
  subst ha hb
  cases a4 <;> cases b4 <;> simp [prefixLe] at h1 h2 ⊢ <;> omega

def SortedP (l : List Prefix) : Prop := l.Pairwise (fun a b => prefixLe a b = true)

theorem insertPrefix_sorted (x : Prefix) (l : List Prefix) (h : SortedP l) : SortedP (insertPrefix x l) := by
  induction l with
  | nil => simp [insertPrefix, SortedP]
  | cons y ys ih =>
    simp only [insertPrefix]
    have hy := List.pairwise_cons.mp h
    split
    · rename_i hle
      refine List.pairwise_cons.mpr ⟨?_, h⟩
      intro z hz
      rcases List.mem_cons.mp hz with rfl | hz
      · exact hle
      · exact prefixLe_trans hle (hy.1 z hz)
    · rename_i hle
      have hyx : prefixLe y x = true := by
        rcases prefixLe_total x y with h' | h'
        · exact absurd h' hle
        · exact h'
      refine List.pairwise_cons.mpr ⟨?_, ih hy.2⟩
      intro z hz
      have := (insertPrefix_perm x ys).mem_iff.mp hz
      rcases List.mem_cons.mp this with rfl | hz
      · exact hyx
      · exact hy.1 z hz

theorem sortPrefixes_sorted (l : List Prefix) : SortedP (sortPrefixes l) := by
  induction l with
  | nil => simp [sortPrefixes, SortedP]
  | cons x l ih =>
    show SortedP (insertPrefix x (sortPrefixes l))
    exact insertPrefix_sorted x _ ih

/-- The finalized client sets of two accumulators with the same members are EQUAL when the subnets carry no
    zone. -/
theorem finalize_eq_of_permEquiv {a b : Option Clients}
    (h : Clients.PermEquiv (Clients.finalize a) (Clients.finalize b))
    (hz : ∀ c, Clients.finalize a = some c → ∀ p ∈ c.nets, p.addr.zone = []) :
    Clients.finalize a = Clients.finalize b := by
  cases a with
  | none =>
    cases b with
    | none => rfl
    | some b => exact h.elim
  | some a =>
    cases b with
    | none => exact h.elim
    | some b =>
      simp only [Clients.finalize, Clients.PermEquiv] at h ⊢
      -- sorted permutations of each other are equal: `prefixLe` is antisymmetric on zone-free prefixes
      have hn : sortPrefixes a.nets = sortPrefixes b.nets := List.Perm.eq_of_pairwise
        (fun p q hp hq => prefixLe_antisymm (hz _ rfl p hp) (hz _ rfl q (h.2.mem_iff.mpr hq)))
        (sortPrefixes_sorted _) (sortPrefixes_sorted _) h.2
      rw [h.1, hn]

/-- `loadClients` on a `|`-joined list of clean values (non-empty, no `|`, no backslash). -/
theorem loadClients_joinSep (ext : Ext) (l : List Bytes) (hne : l ≠ [])
    (hc : ∀ x ∈ l, x ≠ [] ∧ CleanItem (ch '|') (ch '\\') x) :
    loadClients ext (joinSep l [ch '|']) = (do
      let (p, r) ← l.foldlM (loadClientsStep ext) (none, none)
      pure (Clients.finalize p, Clients.finalize r)) := by
  unfold loadClients
  rw [joinSep_isEmpty_false l _ hne (fun d hd => (hc d hd).1),
    splitEsc_joinSep (ch '|') (ch '\\') (by decide) l hne hc]
  rfl

/-- `$client` values written in another order: the finalized pairs are related by `PermEquiv`. -/
theorem loadClients_perm (ext : Ext) {l l' : List Bytes} (hperm : l.Perm l') (hne : l ≠ [])
    (hc : ∀ x ∈ l, x ≠ [] ∧ CleanItem (ch '|') (ch '\\') x) {p rs p' rs' : Option Clients}
    (h : loadClients ext (joinSep l [ch '|']) = .ok (p, rs))
    (h' : loadClients ext (joinSep l' [ch '|']) = .ok (p', rs')) :
    Clients.PermEquiv p p' ∧ Clients.PermEquiv rs rs' ∧
      (∃ a, p = Clients.finalize a) ∧ (∃ a, rs = Clients.finalize a) ∧
      (∃ a, p' = Clients.finalize a) ∧ (∃ a, rs' = Clients.finalize a) := by
  have hne' : l' ≠ [] := ne_nil_perm hperm hne
  have hc' : ∀ x ∈ l', x ≠ [] ∧ CleanItem (ch '|') (ch '\\') x := fun x hx => hc x (hperm.mem_iff.2 hx)
  rw [loadClients_joinSep ext l hne hc] at h
  rw [loadClients_joinSep ext l' hne' hc'] at h'
  obtain ⟨⟨a1, a2⟩, e, h⟩ := bind_ok_elim h
  obtain ⟨⟨b1, b2⟩, e', h'⟩ := bind_ok_elim h'
  have hrel := loadClients_items_perm ext hperm
  rw [e, e'] at hrel
  simp only [PE.Rel] at hrel
  have h := pure_ok_elim h
  have h' := pure_ok_elim h'
  simp only [Prod.mk.injEq] at h h'
  rw [← h.1, ← h.2, ← h'.1, ← h'.2]
  exact ⟨hrel.1, hrel.2, ⟨a1, rfl⟩, ⟨a2, rfl⟩, ⟨b1, rfl⟩, ⟨b2, rfl⟩⟩

end UF.L
