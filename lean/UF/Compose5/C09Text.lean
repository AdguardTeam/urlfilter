import UF.Spec.DnsRewrite
import UF.Spec.DnsRewriteShape
import UF.Proofs.DnsRewrite
import UF.Proofs.DnsRewriteParse
/-
  C09, the relation "exception `e` disables rewrite `r`" written from the property text ("an
  exception with an empty value disables all non-important rewrites …, an exception with a value
  disables rewrites with the same new CNAME, or the same response code and, for successful
  responses, the same record type and value"), as a Boolean combination of named clauses, in three
  readings of the "or": `disablesText` (= `disables` for all records), `disablesTextKind` (= `disables`
  when the rewrite's new CNAME stands alone, the C10 shape) and the literal `disablesTextNaive`
  (not `disables`, even on parsed values: a CNAME exception would disable the bare NOERROR rewrite
  and every other CNAME rewrite).
-/
namespace UF.L
open UF

/-! ### the clauses of the text -/

/-- "an exception with an empty value": every field of the value is the zero value. -/
def emptyValue (w : DnsRewrite) : Bool :=
  w.rcode == 0 && w.rrType == 0 && w.newCNAME == [] && w.value == RRVal.none

def hasNewCNAME (w : DnsRewrite) : Bool := w.newCNAME != []

/-- "rewrites with the same new CNAME" (as the one the exception names). -/
def sameNewCNAME (ew rw : DnsRewrite) : Bool := hasNewCNAME ew && rw.newCNAME == ew.newCNAME

/-- "the same response code and, for successful responses, the same record type and value". -/
def sameResponse (ew rw : DnsRewrite) : Bool :=
  rw.rcode == ew.rcode && (ew.rcode != 0 || (rw.rrType == ew.rrType && rw.value == ew.value))

/-- "Non-important exceptions never disable important rewrites". -/
def importanceOK (e r : NetRule) : Bool := e.important || !r.important

/-! ### three readings -/

/-- The text, reading "an exception with a value" as EITHER a CNAME exception OR a response
    exception.  Equal to `disables` for all records (`disablesText_eq_disables`). -/
def disablesText (e r : NetRule) : Bool :=
  match e.rewrite, r.rewrite with
  | some ew, some rw =>
    importanceOK e r &&
      (emptyValue ew || sameNewCNAME ew rw || (!hasNewCNAME ew && sameResponse ew rw))
  | _, _ => false

/-- The text, comparing like with like: CNAME rewrites with CNAME exceptions, responses with
    responses.  Equal to `disables` when the rewrite has the C10 shape (`cnameAlone`). -/
def disablesTextKind (e r : NetRule) : Bool :=
  match e.rewrite, r.rewrite with
  | some ew, some rw =>
    importanceOK e r &&
      (emptyValue ew || sameNewCNAME ew rw ||
        (!hasNewCNAME ew && !hasNewCNAME rw && sameResponse ew rw))
  | _, _ => false

/-- The NAIVE reading: the literal "same new CNAME, or same response …".  Not the code's relation. -/
def disablesTextNaive (e r : NetRule) : Bool :=
  match e.rewrite, r.rewrite with
  | some ew, some rw =>
    importanceOK e r && (emptyValue ew || sameNewCNAME ew rw || sameResponse ew rw)
  | _, _ => false

/-- The part of the C10 shape (`UF.H.shapeOK`) the readings depend on: a new CNAME stands alone. -/
def cnameAlone (w : DnsRewrite) : Bool :=
  w.newCNAME == [] || (w.rcode == 0 && w.rrType == 0 && w.value == RRVal.none)

/-! ### the reference filter, for any relation -/

/-- `specRewrites` with the relation as a parameter: after `$badfilter` (C08), the non-exception
    rules that no exception disables; order kept. -/
def specRewritesWith (d : NetRule → NetRule → Bool) (all : List NetRule) : List NetRule :=
  (specRemoveBad all).filter (fun r =>
    !r.whitelist && !(specRemoveBad all).any (fun e => e.whitelist && d e r))

/-- The text-level reference for C09 (mirrors `UF.specRewrites`, with `disablesText`). -/
def specRewritesText (all : List NetRule) : List NetRule :=
  (specRemoveBad all).filter (fun r =>
    !r.whitelist && !(specRemoveBad all).any (fun e => e.whitelist && disablesText e r))

def specRewritesTextKind (all : List NetRule) : List NetRule := specRewritesWith disablesTextKind all
def specRewritesTextNaive (all : List NetRule) : List NetRule := specRewritesWith disablesTextNaive all

/-- Two relations that agree on (effective exception, effective non-exception) pairs of the list give
    the same reference. -/
theorem specRewritesWith_congr (d1 d2 : NetRule → NetRule → Bool) (all : List NetRule)
    (h : ∀ e ∈ specRemoveBad all, ∀ r ∈ specRemoveBad all,
      e.whitelist = true → r.whitelist = false → d1 e r = d2 e r) :
    specRewritesWith d1 all = specRewritesWith d2 all := by
  unfold specRewritesWith
  apply List.filter_congr
  intro r hr
  cases hw : r.whitelist with
  | true => simp
  | false =>
    simp only [Bool.not_false, Bool.true_and]
    congr 1
    apply any_congr_mem
    intro e he
    cases hew : e.whitelist with
    | false => simp
    | true => simp [h e he r hr hew hw]

/-! ### the clauses against the records -/

theorem emptyValue_eq (w : DnsRewrite) : emptyValue w = (w == emptyRewrite) := by
  obtain ⟨rc, rr, cn, v⟩ := w
  rw [Bool.eq_iff_iff]
  simp [emptyValue, emptyRewrite, and_assoc]

theorem cnameAlone_iff {w : DnsRewrite} :
    cnameAlone w = true ↔ (w.newCNAME ≠ [] → w.rcode = 0 ∧ w.rrType = 0 ∧ w.value = RRVal.none) := by
  simp only [cnameAlone, Bool.or_eq_true, Bool.and_eq_true, beq_iff_eq, and_assoc]
  exact Decidable.or_iff_not_imp_left

theorem cnameAlone_of_shapeOK (w : DnsRewrite) (h : H.shapeOK w = true) : cnameAlone w = true :=
  cnameAlone_iff.2 (H.shapeOK_cname_alone h)

/-- The relation on values behind `disables`. -/
theorem disables_some (e r : NetRule) (ew rw : DnsRewrite) (he : e.rewrite = some ew)
    (hr : r.rewrite = some rw) :
    disables e r = (importanceOK e r && (emptyValue ew ||
      (if ew.newCNAME != [] then rw.newCNAME == ew.newCNAME else sameResponse ew rw))) := by
  unfold disables
  simp only [he, hr, emptyValue_eq, importanceOK, sameResponse]

/-- READING 1 needs no hypothesis. -/
theorem disablesText_eq_disables (e r : NetRule) : disablesText e r = disables e r := by
  cases he : e.rewrite with
  | none => simp [disablesText, disables, he]
  | some ew =>
    cases hr : r.rewrite with
    | none => simp [disablesText, disables, he, hr]
    | some rw =>
      rw [disables_some e r ew rw he hr]
      simp only [disablesText, he, hr, sameNewCNAME, hasNewCNAME]
      cases (ew.newCNAME != []) <;> simp

/-- Exactly where the naive reading leaves the code: the exception names a new CNAME, the rewrite
    has another (or none), and yet the "same response" clause holds. -/
theorem disablesTextNaive_ne_iff (e r : NetRule) :
    disablesTextNaive e r ≠ disables e r ↔
      ∃ ew rw, e.rewrite = some ew ∧ r.rewrite = some rw ∧ importanceOK e r = true ∧
        ew.newCNAME ≠ [] ∧ rw.newCNAME ≠ ew.newCNAME ∧ sameResponse ew rw = true := by
  cases he : e.rewrite with
  | none => simp [disablesTextNaive, disables, he]
  | some ew =>
    cases hr : r.rewrite with
    | none => simp [disablesTextNaive, disables, he, hr]
    | some rw =>
      rw [disables_some e r ew rw he hr]
      simp only [disablesTextNaive, he, hr, sameNewCNAME, hasNewCNAME, Option.some.injEq, exists_and_left,
        exists_eq_left']
      by_cases hc : ew.newCNAME = []
      · simp [hc]
      · -- a CNAME exception is not the empty value
        have hemp : emptyValue ew = false := by
          simp [emptyValue, hc]
        cases importanceOK e r <;> cases hE : (rw.newCNAME == ew.newCNAME) <;> cases sameResponse ew rw <;>
          simp_all

/-- For a C10-shaped CNAME exception "same response" says: the rewrite is a bare NOERROR. -/
theorem sameResponse_of_cnameAlone (ew rw : DnsRewrite) (hc : ew.newCNAME ≠ [])
    (hs : cnameAlone ew = true) :
    sameResponse ew rw = (rw.rcode == 0 && rw.rrType == 0 && rw.value == RRVal.none) := by
  obtain ⟨h1, h2, h3⟩ := cnameAlone_iff.1 hs hc
  simp [sameResponse, h1, h2, h3, Bool.and_assoc]

/-- A C10-shaped rewrite is "bare NOERROR" iff it is a CNAME rewrite or the empty value. -/
theorem bareNoerror_iff (rw : DnsRewrite) (hs : cnameAlone rw = true) :
    (rw.rcode = 0 ∧ rw.rrType = 0 ∧ rw.value = RRVal.none) ↔ (rw.newCNAME ≠ [] ∨ rw = emptyRewrite) := by
  have hs := cnameAlone_iff.1 hs
  obtain ⟨rc, rr, cn, v⟩ := rw
  simp only [emptyRewrite, DnsRewrite.mk.injEq]
  constructor
  · rintro ⟨h1, h2, h3⟩
    by_cases hc : cn = []
    · exact Or.inr ⟨h1, h2, hc, h3⟩
    · exact Or.inl hc
  · rintro (hc | ⟨h1, h2, _, h3⟩)
    · exact hs hc
    · exact ⟨h1, h2, h3⟩

/-- READING 2 needs the shape of the REWRITE's value (not of the exception's). -/
theorem disablesTextKind_eq_disables (e r : NetRule)
    (hr : ∀ rw, r.rewrite = some rw → cnameAlone rw = true) : disablesTextKind e r = disables e r := by
  cases he : e.rewrite with
  | none => simp [disablesTextKind, disables, he]
  | some ew =>
    cases hrr : r.rewrite with
    | none => simp [disablesTextKind, disables, he, hrr]
    | some rw =>
      rw [disables_some e r ew rw he hrr]
      simp only [disablesTextKind, he, hrr, sameNewCNAME, hasNewCNAME]
      cases ha : (ew.newCNAME != []) with
      | true => simp
      | false =>
        cases hemp : emptyValue ew with
        | true => simp
        | false =>
          cases hb : (rw.newCNAME != []) with
          | false => simp
          | true =>
            -- the only pairs on which the two could differ: a response exception (not empty) against a
            -- CNAME rewrite; by the shape of the rewrite "same response" would make the exception empty
            obtain ⟨h1, h2, h3⟩ := cnameAlone_iff.1 (hr rw hrr) (by simpa using hb)
            have hsr : sameResponse ew rw = false := by
              rw [← Bool.not_eq_true] at hemp ⊢
              intro hsr
              simp only [sameResponse, h1, h2, h3, Bool.and_eq_true, Bool.or_eq_true, beq_iff_eq,
                bne_iff_ne] at hsr
              obtain ⟨hrc, hne | ⟨ht, hv⟩⟩ := hsr
              · exact hne hrc.symm
              · exact hemp (by simp [emptyValue, ← hrc, ← ht, ← hv, (by simpa using ha : ew.newCNAME = [])])
            simp [hsr]

/-! ### from the reference list back to the input -/

/-- `DNSRewrites()` is the reference filter for EVERY relation that agrees with `disables` on the
    (exception, non-exception) pairs of the input. -/
theorem dnsRewrites_eq_with (d : NetRule → NetRule → Bool) (res : List NetRule)
    (h : ∀ e ∈ res, ∀ r ∈ res, e.whitelist = true → r.whitelist = false → d e r = disables e r) :
    dnsRewrites res = some (specRewritesWith d (dnsRewritesAll res)) := by
  -- the effective rules are among the input
  have hmem : ∀ r ∈ specRemoveBad (dnsRewritesAll res), r ∈ res := by
    intro r hr
    have h1 := (List.mem_filter.mp hr).1
    rw [dnsRewritesAll_eq] at h1
    exact (List.mem_filter.mp h1).1
  rw [dnsRewrites_eq_spec]
  show some (specRewritesWith disables _) = _
  congr 1
  apply specRewritesWith_congr
  intro e he r hr hew hrw
  exact (h e (hmem e he) r (hmem r hr) hew hrw).symm

/-! ### example rules for UF/Props/C09Text.lean: `whitelist` and `rewrite` as `rules.NewNetworkRule` sets them,
    every other field at its default -/

/-- `||e^$dnsrewrite=NOERROR`: rcode 0, no type, no value, no CNAME. -/
def xNoerror : NetRule := { text := lit "||e^$dnsrewrite=NOERROR", rewrite := some {} }
def xExcX : NetRule :=
  { text := lit "@@||e^$dnsrewrite=x.net", whitelist := true, rewrite := some { newCNAME := lit "x.net" } }
def xCnameX : NetRule := { text := lit "||e^$dnsrewrite=x.net", rewrite := some { newCNAME := lit "x.net" } }
def xCnameY : NetRule := { text := lit "||e^$dnsrewrite=y.net", rewrite := some { newCNAME := lit "y.net" } }
def xA : NetRule :=
  { text := lit "||e^$dnsrewrite=1.2.3.4", rewrite := some { rrType := 1, value := .addr { is4 := true, val := 0x01020304 } } }
def xNx : NetRule := { text := lit "||e^$dnsrewrite=NXDOMAIN", rewrite := some { rcode := 3 } }
def xExcNx : NetRule :=
  { text := lit "@@||e^$dnsrewrite=NXDOMAIN", whitelist := true, rewrite := some { rcode := 3 } }
def xExcA : NetRule :=
  { text := lit "@@||e^$dnsrewrite=1.2.3.4", whitelist := true,
    rewrite := some { rrType := 1, value := .addr { is4 := true, val := 0x01020304 } } }
/-- NOT a value the parser produces (violates C10): a new CNAME together with rcode 3. -/
def xIllShaped : NetRule := { text := lit "ill-shaped", rewrite := some { rcode := 3, newCNAME := lit "y.net" } }

end UF.L
