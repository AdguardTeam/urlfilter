import UF.Compose5.Split
/-
  `splitWithEscapeCharacter` on a separator-joined list of "clean" items (non-empty, without the separator and
  without the escape character) gives the items back.  Used for the `,`-joined modifier list of a rule and for
  the `|`-joined `$client` values.
-/
namespace UF.L
open UF UF.E Bytes

def CleanItem (sep esc : UInt8) (x : Bytes) : Prop := sep ∉ x ∧ esc ∉ x

theorem splitEsc_joinSep (sep esc : UInt8) (hse : sep ≠ esc) (l : List Bytes) (hne : l ≠ [])
    (hc : ∀ x ∈ l, x ≠ [] ∧ CleanItem sep esc x) :
    splitWithEscapeCharacter (joinSep l [sep]) sep esc false = .ok l :=
  split_join_safe sep esc (Ne.symm hse) l hne (fun x hx => (hc x hx).1) (fun x hx => (hc x hx).2.1)
    (fun x hx => escOK_of_notMem sep esc x (hc x hx).2.2)

end UF.L
