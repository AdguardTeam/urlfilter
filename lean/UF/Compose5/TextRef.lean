import UF.Compose5.Fields
import UF.Compose2.MatchFull
import UF.Proofs.MatchSpec
import UF.Proofs.MergeSorted
/-
  The record-level reference of C04 (`specMatch`'s modifier conjuncts), evaluated on a rule that was PARSED FROM A
  RENDERED TEXT, is the text-level reference `specModsText` evaluated on the structured modifiers.
-/
namespace UF.L
open UF UF.E Bytes UF.Compose3 UF.I2

/-! ### content types -/

theorem ctype_bit_pow (c : CType) : ∃ i, c.bit = 2 ^ i := ⟨c.bit.log2, by cases c <;> decide⟩

theorem two_pow_beq (i k : Nat) : ((2 : Nat) ^ i == 2 ^ k) = decide (i = k) := by
  by_cases h : i = k
  · subst h; simp
  · have : (2 : Nat) ^ i ≠ 2 ^ k := fun e => h ((Nat.pow_right_inj (by decide)).1 e)
    simp [h, this]

theorem ctype_testBit (c : CType) (k : Nat) : c.bit.testBit k = (c.bit == 2 ^ k) := by
  obtain ⟨i, hi⟩ := ctype_bit_pow c
  rw [hi, Nat.testBit_two_pow, two_pow_beq]

theorem bitsOf_testBit (l : List CType) (k : Nat) : (bitsOf l).testBit k = l.any (fun c => c.bit == 2 ^ k) := by
  unfold bitsOf
  rw [testBit_foldl_or, Nat.zero_testBit, Bool.false_or]
  congr 1
  funext c
  exact ctype_testBit c k

theorem bitsOf_fold_zero (l : List CType) (a : Nat) :
    (l.foldl (fun a c => a ||| c.bit) a = 0) ↔ (a = 0 ∧ l = []) := by
  induction l generalizing a with
  | nil => simp
  | cons c l ih =>
    simp only [List.foldl_cons]
    rw [ih]
    constructor
    · rintro ⟨h, _⟩
      obtain ⟨i, hi⟩ := ctype_bit_pow c
      have := (Nat.or_eq_zero_iff.1 h).2
      rw [hi] at this
      exact absurd this (Nat.ne_of_gt (Nat.two_pow_pos i))
    · rintro ⟨_, h⟩; cases h

theorem bitsOf_beq_zero (l : List CType) : (bitsOf l == 0) = l.isEmpty := by
  unfold bitsOf
  cases l with
  | nil => rfl
  | cons c l =>
    have hne : ¬ ((c :: l).foldl (fun a c => a ||| c.bit) 0 = 0) := fun h => by
      have := ((bitsOf_fold_zero (c :: l) 0).1 h).2; cases this
    show ((c :: l).foldl (fun a c => a ||| c.bit) 0 == 0) = false
    exact beq_false_of_ne hne

theorem and_pow_bne (n k : Nat) : ((n &&& 2 ^ k) != 0) = n.testBit k := by
  have := Nat.two_pow_pos k
  rw [← and_two_pow_beq]
  rcases E.and_two_pow_cases n k with e | e <;> rw [e] <;> simp <;> omega

theorem and_pow_beq_zero (n k : Nat) : ((n &&& 2 ^ k) == 0) = !n.testBit k := by
  rw [← and_pow_bne]
  cases h : (n &&& 2 ^ k) == 0 <;> simp [bne, h]

theorem types_eq {ext : Ext} {wl : Bool} {s : ModSpec} {r : NetRule} (hp : ParsedAs ext wl s r) (q : Request)
    (hq : ∃ k, q.reqType = 2 ^ k) : specReqType r q.reqType = textTypes s q := by
  obtain ⟨k, hk⟩ := hq
  unfold specReqType textTypes
  rw [hp.permTypes, hp.restrTypes, hk, and_pow_beq_zero, bitsOf_testBit]
  cases hd : s.docOnly with
  | true =>
    simp only [if_true]
    rw [and_pow_bne, show Facts.TypeDocument = 2 ^ 0 from rfl, Nat.testBit_two_pow, two_pow_beq]
    have : ((2 : Nat) ^ 0 == 0) = false := by decide
    rw [this, Bool.false_or]
    congr 1
    by_cases h : k = 0
    · subst h; simp
    · have : ¬ 0 = k := fun e => h e.symm
      simp [h, this]
  | false =>
    simp only [Bool.false_eq_true, if_false]
    rw [and_pow_bne, bitsOf_testBit, bitsOf_beq_zero]

/-! ### tags -/

theorem any_sortB (l : List Bytes) (p : Bytes → Bool) : (sortB l).any p = l.any p :=
  (E.sortB_perm l).any_eq

theorem isEmpty_sortB (l : List Bytes) : (sortB l).isEmpty = l.isEmpty := (E.sortB_perm l).isEmpty_eq

theorem ctag_eq {ext : Ext} {wl : Bool} {s : ModSpec} {r : NetRule} (hp : ParsedAs ext wl s r) (q : Request) :
    specCTag r q = textCTag s q := by
  unfold specCTag textCTag
  rw [hp.permTags, hp.restrTags, any_sortB, any_sortB, isEmpty_sortB]

/-! ### clients -/

def clientHosts (ext : Ext) (l : List Bytes) : List Bytes := l.flatMap (fun v => (clientDelta ext v).1)
def clientNets (ext : Ext) (l : List Bytes) : List Prefix := l.flatMap (fun v => (clientDelta ext v).2)

theorem foldl_addClient_some (ext : Ext) (l : List Bytes) (c : Clients) :
    l.foldl (addClient ext) (some c) =
      some { hosts := c.hosts ++ clientHosts ext l, nets := c.nets ++ clientNets ext l } := by
  induction l generalizing c with
  | nil => simp [clientHosts, clientNets]
  | cons x l ih =>
    simp only [List.foldl_cons]
    show List.foldl (addClient ext) (some (Clients.add ext c x)) l = _
    rw [ih, Clients.add_eq]
    simp [clientHosts, clientNets, List.flatMap_cons]

theorem clientsOf_cons (ext : Ext) (x : Bytes) (l : List Bytes) :
    clientsOf ext (x :: l) =
      some { hosts := sortB (clientHosts ext (x :: l)), nets := sortPrefixes (clientNets ext (x :: l)) } := by
  unfold clientsOf
  simp only [List.foldl_cons]
  show Clients.finalize (List.foldl (addClient ext) (some (Clients.add ext { hosts := [], nets := [] } x)) l) = _
  rw [foldl_addClient_some, Clients.add_eq]
  simp [Clients.finalize, clientHosts, clientNets, List.flatMap_cons]

theorem clientDelta_net (ext : Ext) (v : Bytes) :
    clientDelta ext v = match clientNet ext v with | some p => ([], [p]) | none => ([v], []) := by
  unfold clientDelta clientNet
  split
  · cases ext.parseAddr v <;> rfl
  · split
    · cases ext.parsePrefix v <;> rfl
    · rfl

theorem clientIn_eq (ext : Ext) (name : Bytes) (ip : Option Addr) (l : List Bytes) :
    ((!name.isEmpty && (clientHosts ext l).contains name) ||
      (match ip with | none => false | some a => (clientNets ext l).any (fun n => n.containsAddr a))) =
    l.any (clientValMatches ext name ip) := by
  induction l with
  | nil => cases ip <;> simp [clientHosts, clientNets]
  | cons v l ih =>
    rw [List.any_cons, ← ih]
    unfold clientHosts clientNets clientValMatches
    rw [List.flatMap_cons, List.flatMap_cons, clientDelta_net]
    cases hn : clientNet ext v with
    | some p =>
      cases ip with
      | none => simp
      | some a =>
        simp only [List.nil_append, List.singleton_append, List.any_cons]
        cases (!name.isEmpty && (List.flatMap (fun v => (clientDelta ext v).fst) l).contains name) <;>
          cases p.containsAddr a <;> simp
    | none =>
      simp only [List.singleton_append, List.nil_append]
      rw [List.contains_cons]
      cases name.isEmpty <;> cases (name == v) <;> simp

theorem specClientIn_clientsOf (ext : Ext) (name : Bytes) (ip : Option Addr) (l : List Bytes) :
    specClientIn (clientsOf ext l) name ip = l.any (clientValMatches ext name ip) := by
  cases l with
  | nil => rfl
  | cons x l =>
    rw [clientsOf_cons, ← clientIn_eq]
    cases ip with
    | none =>
      show (!name.isEmpty && (sortB (clientHosts ext (x :: l))).contains name || false) = _
      rw [(E.sortB_perm _).contains_eq]
    | some a =>
      show (!name.isEmpty && (sortB (clientHosts ext (x :: l))).contains name ||
        (sortPrefixes (clientNets ext (x :: l))).any (fun n => n.containsAddr a)) = _
      rw [(E.sortB_perm _).contains_eq, (sortPrefixes_perm _).any_eq]

theorem clientDelta_len (ext : Ext) (v : Bytes) :
    (clientDelta ext v).1.length + (clientDelta ext v).2.length = 1 := by
  rw [clientDelta_net]
  cases clientNet ext v <;> rfl

theorem clients_len (ext : Ext) (l : List Bytes) :
    (clientHosts ext l).length + (clientNets ext l).length = l.length := by
  induction l with
  | nil => rfl
  | cons v l ih =>
    simp only [clientHosts, clientNets, List.flatMap_cons, List.length_append, List.length_cons] at ih ⊢
    have := clientDelta_len ext v
    omega

theorem clientsOf_len (ext : Ext) (l : List Bytes) : Clients.len (clientsOf ext l) = l.length := by
  cases l with
  | nil => rfl
  | cons x l =>
    rw [clientsOf_cons]
    unfold Clients.len
    simp only
    rw [(E.sortB_perm _).length_eq, (sortPrefixes_perm _).length_eq, clients_len]

theorem len_clientsOf (ext : Ext) (l : List Bytes) : (Clients.len (clientsOf ext l) == 0) = l.isEmpty := by
  rw [clientsOf_len]
  cases l <;> rfl

theorem client_eq {ext : Ext} {wl : Bool} {s : ModSpec} {r : NetRule} (hp : ParsedAs ext wl s r) (q : Request) :
    specClient r q = textClient ext s q := by
  unfold specClient textClient
  rw [hp.permClients, hp.restrClients, specClientIn_clientsOf, specClientIn_clientsOf, len_clientsOf]

/-! ### all modifier families -/

theorem mods_eq_text {ext : Ext} {wl : Bool} {s : ModSpec} {r : NetRule} (hp : ParsedAs ext wl s r) (q : Request)
    (hq : ∃ k, q.reqType = 2 ^ k) :
    (specThirdParty r q && specReqType r q.reqType && specDenyallow ext r q && specSourceDomain ext r q &&
      specDnsType r q && specCTag r q && specClient r q) = specModsText ext s q := by
  unfold specModsText
  rw [types_eq hp q hq, ctag_eq hp q, client_eq hp q]
  have h1 : specThirdParty r q = textThirdParty s q := by
    unfold specThirdParty textThirdParty; rw [hp.thirdParty, hp.firstParty]
  have h2 : specDenyallow ext r q = textDenyallow ext s q := by
    unfold specDenyallow textDenyallow; rw [hp.denyallow]
  have h3 : specSourceDomain ext r q = textDomain ext s q := by
    unfold specSourceDomain textDomain; rw [hp.permDomains, hp.restrDomains]
  have h4 : specDnsType r q = textDnsType s q := by
    unfold specDnsType textDnsType; rw [hp.permDns, hp.restrDns]
  rw [h1, h2, h3, h4]

/-! ### the whole reference, pattern included -/

/-- The target the pattern is applied to: the bare hostname for hostname requests unless the pattern (as
    stored: `example.org/*` is `example.org^`) is anchored to a URL or is a `/hostname.` fragment; else the URL. -/
def textTarget (pat : Bytes) (q : Request) : Bytes :=
  specTarget ({ pattern := MaskSpec.normalize pat } : NetRule) q

/-- THE TEXT-LEVEL REFERENCE of C04: every modifier family of the structured modifiers holds and the
    documented mask language of the pattern AS WRITTEN accepts the target (case-sensitively iff `match-case`
    is written).  No parser, no rule record. -/
def specMatchText (ext : Ext) (pat : Bytes) (s : ModSpec) (q : Request) : Bool :=
  specModsText ext s q && MaskSpec.ruleAccepts pat s.matchCase (textTarget pat q)

theorem specTarget_pattern (r : NetRule) (q : Request) :
    specTarget r q = specTarget ({ pattern := r.pattern } : NetRule) q := rfl

/-- The record-level reference without the shortcut, on a rule parsed from a rendered text, is the text-level
    reference on the meaning of the modifiers. -/
theorem noShortcut_eq_textW {px : ParseExt} {wl : Bool} {pat : Bytes} {ms : List ModW} {id : Int} {r : NetRule}
    (hp : patOKW pat = true) (hs : slashOK pat ms = true) (hm : modsOKW ms = true)
    (h : parseNetRule px (renderW wl pat ms) id = .ok r) (q : Request) (hq : ∃ k, q.reqType = 2 ^ k) :
    specMatchNoShortcut px.ext r q = specMatchText px.ext pat (ModSpec.ofModsW ms) q := by
  have hpa := parsedAs_of_parseW hp hs hm h
  obtain ⟨pat', opts, wl', hprt, hpat, _, _⟩ := parseNetRule_pattern h
  rw [parseRuleText_renderW hp hs (modsOKW_vals hm)] at hprt
  cases hprt
  unfold specMatchNoShortcut specMatchText
  rw [mods_eq_text hpa q hq]
  congr 1
  unfold specPatternMask MaskSpec.ruleAccepts textTarget
  rw [specTarget_pattern r q, hpat, hpa.matchCase]

theorem noShortcut_eq_text {px : ParseExt} {wl : Bool} {pat : Bytes} {ms : List Mod} {id : Int} {r : NetRule}
    (hp : patOK pat = true) (hm : modsOK ms = true)
    (h : parseNetRule px (render wl pat ms) id = .ok r) (q : Request) (hq : ∃ k, q.reqType = 2 ^ k) :
    specMatchNoShortcut px.ext r q = specMatchText px.ext pat (ModSpec.ofMods ms) q := by
  rw [← renderW_base] at h
  rw [← ofModsW_base]
  obtain ⟨hpW, hs⟩ := patOKW_of_patOK hp (ms.map .base)
  exact noShortcut_eq_textW hpW hs (modsOKW_base hm) h q hq

end UF.L
