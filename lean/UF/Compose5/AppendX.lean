import UF.Compose5.TextKey
/-
  How one more modifier changes what the priority order reads, for the cases in which the new rule is not simply
  higher: `document`, `~extension`, a modifier the rule already carries, a list-valued modifier written again,
  one more value in a list-valued modifier.  The property theorems are in UF/Props/C07Text.lean and
  UF/Props/C07TextExact.lean.
-/
namespace UF.L
open UF UF.E Bytes UF.Compose3

/-! ### bit counting -/

theorem popCount_or_and (a b : Nat) : popCount (a ||| b) + popCount (a &&& b) = popCount a + popCount b := by
  induction a using Nat.strongRecOn generalizing b with
  | _ a ih =>
    by_cases ha : a = 0
    · subst ha
      simp [popCount_zero]
    · rw [popCount_step (a ||| b), popCount_step (a &&& b), popCount_step a, popCount_step b,
        Nat.or_div_two, Nat.and_div_two]
      have h2 := ih (a / 2) (Nat.div_lt_self (Nat.pos_of_ne_zero ha) (by decide)) (b / 2)
      have hm : (a ||| b) % 2 + (a &&& b) % 2 = a % 2 + b % 2 := by
        have e1 := @Nat.or_mod_two_pow a b 1
        have e2 := @Nat.and_mod_two_pow a b 1
        rw [Nat.pow_one] at e1 e2
        rw [e1, e2]
        rcases Nat.mod_two_eq_zero_or_one a with h | h <;> rcases Nat.mod_two_eq_zero_or_one b with h' | h' <;>
          rw [h, h'] <;> decide
      omega

theorem popCount_and_le (a b : Nat) : popCount (a &&& b) ≤ popCount b := by
  induction b using Nat.strongRecOn generalizing a with
  | _ b ih =>
    by_cases hb : b = 0
    · subst hb
      simp [popCount_zero]
    · rw [popCount_step (a &&& b), popCount_step b, Nat.and_div_two]
      have h2 := ih (b / 2) (Nat.div_lt_self (Nat.pos_of_ne_zero hb) (by decide)) (a / 2)
      have hm : (a &&& b) % 2 ≤ b % 2 := by
        have e2 := @Nat.and_mod_two_pow a b 1
        rw [Nat.pow_one] at e2
        rw [e2]
        rcases Nat.mod_two_eq_zero_or_one a with h | h <;> rcases Nat.mod_two_eq_zero_or_one b with h' | h' <;>
          rw [h, h'] <;> decide
      omega

theorem or_eq_of_and_eq {e b : Nat} (h : e &&& b = b) : e ||| b = e := by
  apply Nat.eq_of_testBit_eq
  intro i
  have := congrArg (fun n => n.testBit i) h
  simp only [Nat.testBit_and] at this
  rw [Nat.testBit_or]
  cases he : e.testBit i <;> cases hb : b.testBit i <;> simp_all

theorem xor_pow_of_clear {e k : Nat} (h : e.testBit k = false) : e ^^^ 2 ^ k = e ||| 2 ^ k := by
  apply Nat.eq_of_testBit_eq
  intro i
  rw [Nat.testBit_xor, Nat.testBit_or, Nat.testBit_two_pow]
  by_cases hi : k = i
  · subst hi; simp [h]
  · simp [hi]

theorem xor_pow_of_set {e k : Nat} (h : e.testBit k = true) :
    (e ^^^ 2 ^ k).testBit k = false ∧ (e ^^^ 2 ^ k) ||| 2 ^ k = e := by
  constructor
  · rw [Nat.testBit_xor, Nat.testBit_two_pow, h]; simp
  · apply Nat.eq_of_testBit_eq
    intro i
    rw [Nat.testBit_or, Nat.testBit_xor, Nat.testBit_two_pow]
    by_cases hi : k = i
    · subst hi; simp [h]
    · simp [hi]

/-! ### document-only bits -/

theorem docOnlyB_of_bit {n k : Nat} (hk : docOnlyB (2 ^ k) = true) (hb : n.testBit k = true) :
    docOnlyB n = true := by
  have : n ||| 2 ^ k = n := or_eq_of_and_eq (eq_of_beq ((and_two_pow_beq n k).trans hb))
  rw [← this, docOnlyB_or, hk, Bool.or_true]

theorem docOnlyB_false_bit {n k : Nat} (h : docOnlyB n = false) (hk : docOnlyB (2 ^ k) = true) :
    n.testBit k = false := by
  cases hb : n.testBit k with
  | false => rfl
  | true => rw [docOnlyB_of_bit hk hb] at h; cases h

theorem docOnly_mem : ∀ o ∈ documentOnlyOptions, o = 2 ^ o.log2 ∧ docOnlyB o = true := by decide

/-- A document-only option is one bit, neither `important` (bit 2) nor `$redirect` (bit 18). -/
theorem docOnly_bit (o : Opt) (h : o.docOnly = true) :
    ∃ k, o.bit = 2 ^ k ∧ k ≠ 2 ∧ k ≠ 18 ∧ docOnlyB (2 ^ k) = true := by
  refine ⟨o.bit.log2, ?_⟩
  cases o <;> first | decide | cases h

theorem and_docBits_of_not_docOnly {e : Nat} (h : docOnlyB e = false) : e &&& docBits = 0 := by
  have hb : ∀ k, docOnlyB (2 ^ k) = true → e &&& 2 ^ k = 0 := fun k hk =>
    eq_of_beq ((and_pow_beq_zero e k).trans (by rw [docOnlyB_false_bit h hk]; rfl))
  show e &&& (2 ^ 4 ||| 2 ^ 7 ||| 2 ^ 8 ||| 2 ^ 9 ||| 2 ^ 10) = 0
  simp only [Nat.and_or_distrib_left, hb 4 (by decide), hb 7 (by decide), hb 8 (by decide), hb 9 (by decide),
    hb 10 (by decide), Nat.or_zero]

/-! ### comparing two rules whose class and `$redirect` bit agree -/

/-- With class and `$redirect` equal, two keys compare by the one remaining component in which they differ. -/
theorem _root_.UF.PKey.gt_iff_count {a b : PKey} (hc : a.cls = b.cls) (hr : a.redirect = b.redirect)
    (hs : a.specific = b.specific) : a.gt b ↔ a.count > b.count := by
  unfold PKey.gt
  omega

theorem _root_.UF.PKey.gt_iff_specific {a b : PKey} (hc : a.cls = b.cls) (hr : a.redirect = b.redirect)
    (hn : a.count = b.count) : a.gt b ↔ a.specific > b.specific := by
  unfold PKey.gt
  omega

/-- `r'` and `r` agree in class, `$redirect` and generic/specific, and their counts are related by
    `count r' + a = count r + b`. -/
def CountShift (r' r : NetRule) (a b : Nat) : Prop :=
  classRank r' = classRank r ∧ r'.redirect = r.redirect ∧ r'.isGeneric = r.isGeneric ∧
    modifierCount r' + a = modifierCount r + b

/-- … then `r'` is higher iff `a < b` and lower iff `a > b`. -/
theorem higher_of_counts {r' r : NetRule} {a b : Nat} (h : CountShift r' r a b) :
    isHigherPriority r' r = decide (a < b) ∧ isHigherPriority r r' = decide (a > b) := by
  obtain ⟨hc, hr, hg, h⟩ := h
  have kr : (pkey r').redirect = (pkey r).redirect := congrArg (fun x => if x = true then 1 else 0) hr
  have ks : (pkey r').specific = (pkey r).specific := congrArg (fun x => if x = true then 0 else 1) hg
  constructor
  · rw [Bool.eq_iff_iff, higher_iff_key, decide_eq_true_eq, PKey.gt_iff_count hc kr ks]
    show modifierCount r' > modifierCount r ↔ a < b
    omega
  · rw [Bool.eq_iff_iff, higher_iff_key, decide_eq_true_eq, PKey.gt_iff_count hc.symm kr.symm ks.symm]
    show modifierCount r > modifierCount r' ↔ a > b
    omega

/-- Class, `$redirect` and count equal: the specific rule is higher. -/
theorem higher_of_generic (r' r : NetRule) (hc : classRank r' = classRank r)
    (hr : r'.redirect = r.redirect) (hm : modifierCount r' = modifierCount r) :
    isHigherPriority r' r = (r.isGeneric && !r'.isGeneric) := by
  have kr : (pkey r').redirect = (pkey r).redirect := congrArg (fun x => if x = true then 1 else 0) hr
  rw [Bool.eq_iff_iff, higher_iff_key, PKey.gt_iff_specific hc kr hm]
  show (if r'.isGeneric = true then 0 else 1) > (if r.isGeneric = true then 0 else 1) ↔ _
  cases r.isGeneric <;> cases r'.isGeneric <;> decide

theorem isEnabled_or_mask (e d : Nat) (k : Nat) (hd : d.testBit k = false) :
    (((e ||| d) &&& 2 ^ k) == 2 ^ k) = ((e &&& 2 ^ k) == 2 ^ k) := by
  rw [and_two_pow_beq, and_two_pow_beq, Nat.testBit_or, hd, Bool.or_false]

/-- OR-ing a mask `d` that contains a document-only bit (and neither `important` = bit 2 nor `$redirect` =
    bit 18) into the options: the bits of `d` not yet set are counted, and the permitted content types become
    `document`. -/
theorem docmask_counts (R : NetRule) (d : Nat) (hd : docOnlyB d = true) (h2 : d.testBit 2 = false)
    (h18 : d.testBit 18 = false) :
    CountShift (overrideDoc { R with enabled := R.enabled ||| d }) (overrideDoc R)
      (popCount (overrideDoc R).permTypes + popCount ((overrideDoc R).enabled &&& d)) (popCount d + 1) := by
  unfold CountShift
  have hB : overrideDoc { R with enabled := R.enabled ||| d } =
      { R with enabled := R.enabled ||| d, permTypes := Facts.TypeDocument } := by
    unfold overrideDoc
    show (if docOnlyB (R.enabled ||| d) = true then _ else _) = _
    rw [docOnlyB_or, hd, Bool.or_true]; rfl
  rw [hB, overrideDoc_eq]
  have himp : ({ R with enabled := R.enabled ||| d, permTypes := Facts.TypeDocument } : NetRule).important =
      R.important := isEnabled_or_mask R.enabled d 2 h2
  have hred : ({ R with enabled := R.enabled ||| d, permTypes := Facts.TypeDocument } : NetRule).redirect =
      R.redirect := isEnabled_or_mask R.enabled d 18 h18
  refine ⟨?_, hred, rfl, ?_⟩
  · unfold classRank
    rw [himp]
    rfl
  · unfold modifierCount
    simp only
    have h1 := popCount_or_and R.enabled d
    have h3 : popCount Facts.TypeDocument = 1 := by decide
    rw [h3]
    omega

/-- `document` appended: five option bits (those not yet set), and the permitted content types become
    `document`. -/
theorem document_counts (R : NetRule) :
    CountShift (overrideDoc { R with enabled := R.enabled ||| docBits }) (overrideDoc R)
      (popCount (overrideDoc R).permTypes + popCount ((overrideDoc R).enabled &&& docBits)) 6 :=
  docmask_counts R docBits (by decide) (by decide) (by decide)

/-- One document-only option bit that is not yet set (`k` is none of `important` = 2, `$redirect` = 18). -/
theorem doconly_bit_counts (R : NetRule) (k : Nat) (hk2 : k ≠ 2) (hk18 : k ≠ 18)
    (hdoc : docOnlyB (2 ^ k) = true) (hbit : R.enabled.testBit k = false) :
    CountShift (overrideDoc { R with enabled := R.enabled ||| 2 ^ k }) (overrideDoc R)
      (popCount (overrideDoc R).permTypes) 2 := by
  have key := docmask_counts R (2 ^ k) hdoc (by rw [Nat.testBit_two_pow]; simp [hk2])
    (by rw [Nat.testBit_two_pow]; simp [hk18])
  have h0 : (overrideDoc R).enabled &&& 2 ^ k = 0 :=
    eq_of_beq ((and_pow_beq_zero _ k).trans (by rw [overrideDoc_enabled, hbit]; rfl))
  have h1 : popCount (2 ^ k) = 1 := by
    have := popCount_or_two_pow k 0 (Nat.zero_testBit k)
    rwa [Nat.zero_or, popCount_zero] at this
  rw [h0, popCount_zero, h1] at key
  exact key

/-! ### a modifier the rule already carries -/

/-- Does the parsed rule `r` already carry what the modifier `m` would set?  (List-valued modifiers: see
    `c07_text_domain_again_iff`, `c07_text_list_again_tie`.) -/
def Mod.carriedBy (r : NetRule) : Mod → Bool
  | .opt o => r.isEnabled o.bit
  | .thirdParty _ => r.isEnabled Facts.OptionThirdParty
  | .firstParty _ => r.isDisabled Facts.OptionThirdParty
  | .notMatchCase => r.isDisabled Facts.OptionMatchCase
  | .document => r.isEnabled docBits
  | .ctype false c => E.documentOnlyOptions.any (fun x => r.isEnabled x) || (r.permTypes &&& c.bit) == c.bit
  | .ctype true c => (r.restrTypes &&& c.bit) == c.bit
  | _ => false

/-- Applying a modifier that is already carried changes nothing after the override. -/
theorem applyMod_carried (ext : Ext) (R : NetRule) (m : Mod) (h : Mod.carriedBy (overrideDoc R) m = true) :
    overrideDoc (applyMod ext R m) = overrideDoc R := by
  -- the mask a bare modifier sets is already contained in the field it is OR-ed into
  have set : ∀ {e b : Nat}, ((e &&& b) == b) = true → e ||| b = e := fun hb => or_eq_of_and_eq (eq_of_beq hb)
  rw [overrideDoc_eq R] at h
  cases m with
  | opt o => exact congrArg (fun n => overrideDoc { R with enabled := n }) (set (e := R.enabled) (b := o.bit) h)
  | thirdParty alt =>
    exact congrArg (fun n => overrideDoc { R with enabled := n }) (set (e := R.enabled) (b := Facts.OptionThirdParty) h)
  | firstParty alt =>
    exact congrArg (fun n => overrideDoc { R with disabled := n }) (set (e := R.disabled) (b := Facts.OptionThirdParty) h)
  | notMatchCase =>
    exact congrArg (fun n => overrideDoc { R with disabled := n }) (set (e := R.disabled) (b := Facts.OptionMatchCase) h)
  | document => exact congrArg (fun n => overrideDoc { R with enabled := n }) (set (e := R.enabled) (b := docBits) h)
  | ctype neg c =>
    cases neg with
    | true => exact congrArg (fun n => overrideDoc { R with restrTypes := n }) (set (e := R.restrTypes) (b := c.bit) h)
    | false =>
      cases hd : docOnlyB R.enabled with
      | true => exact overrideDoc_permTypes_doc R _ hd
      | false =>
        have h' : (docOnlyB R.enabled || ((if docOnlyB R.enabled then Facts.TypeDocument else R.permTypes) &&& c.bit) == c.bit) = true := h
        rw [hd] at h'
        exact congrArg (fun n => overrideDoc { R with permTypes := n }) (set (e := R.permTypes) (b := c.bit) h')
  | domain vs => cases h
  | denyallow vs => cases h
  | dnstype vs => cases h
  | ctag vs => cases h
  | client vs => cases h

/-! ### list-valued modifiers by kind -/

/-- The five list-valued modifiers. -/
inductive ListKind where
  | domain | denyallow | dnstype | ctag | client
  deriving DecidableEq, Repr, Inhabited

/-- The modifier of kind `k` with the values `vs` (`$denyallow` values carry no negation: the flag is dropped). -/
def ListKind.mod : ListKind → List (Bool × Bytes) → Mod
  | .domain, vs => .domain vs
  | .denyallow, vs => .denyallow (vs.map (·.2))
  | .dnstype, vs => .dnstype vs
  | .ctag, vs => .ctag vs
  | .client, vs => .client vs

theorem ne_of_flag2 {α} {p q : List α} (h : (p.length != 0 || q.length != 0) = true) : p ≠ [] ∨ q ≠ [] := by
  rcases Bool.or_eq_true_iff.1 h with h | h
  · left; intro e; rw [e] at h; simp at h
  · right; intro e; rw [e] at h; simp at h

theorem posVals_insert_isEmpty {α} (a b : List (Bool × α)) (v : Bool × α) :
    (posVals (a ++ v :: b)).isEmpty = ((posVals (a ++ b)).isEmpty && v.1) := by
  obtain ⟨neg, d⟩ := v
  unfold posVals
  simp only [List.filter_append, List.filter_cons, List.map_append]
  cases neg <;> simp

/-- The `$dnstype` modifier is counted iff one of its names is a known record type. -/
theorem dnsFlag_eq_any (vs : List (Bool × Bytes)) :
    (((posVals vs).filterMap dnsTypeNumber).length != 0 || ((negVals vs).filterMap dnsTypeNumber).length != 0) =
      vs.any (fun w => (dnsTypeNumber w.2).isSome) := by
  induction vs with
  | nil => rfl
  | cons w vs ih =>
    obtain ⟨neg, d⟩ := w
    rw [List.any_cons, ← ih]
    cases neg <;> cases h : dnsTypeNumber d <;> simp [posVals, negVals, h]

/-- One more value in a list-valued modifier: the state after the modifier changes at most in `specific`
    (a permitted `$domain` value).  `hdns`: some `$dnstype` name of the shorter list is known. -/
theorem stepP_add_value (s : PState) (k : ListKind) (a b : List (Bool × Bytes)) (v : Bool × Bytes)
    (hne : a ++ b ≠ [])
    (hdns : k = .dnstype → (((posVals (a ++ b)).filterMap dnsTypeNumber).length != 0 ||
      ((negVals (a ++ b)).filterMap dnsTypeNumber).length != 0) = true) :
    stepP s (.base (k.mod (a ++ v :: b))) =
      { stepP s (.base (k.mod (a ++ b))) with
        specific := (decide (k = .domain) && !v.1) || (stepP s (.base (k.mod (a ++ b)))).specific } := by
  have hne' : a ++ v :: b ≠ [] := by simp
  have hf := posNeg_ne_zero _ hne
  have hf' := posNeg_ne_zero _ hne'
  cases k with
  | domain =>
    show ({ s with specific := !(posVals (a ++ v :: b)).isEmpty,
                   dom := (posVals (a ++ v :: b)).length != 0 || (negVals (a ++ v :: b)).length != 0 } : PState) =
      { s with specific := (true && !v.1) || !(posVals (a ++ b)).isEmpty,
               dom := (posVals (a ++ b)).length != 0 || (negVals (a ++ b)).length != 0 }
    rw [hf, hf', posVals_insert_isEmpty, Bool.not_and, Bool.true_and, Bool.or_comm]
  | denyallow =>
    show ({ s with deny := ((a ++ v :: b).map (·.2)).length != 0 } : PState) =
      { s with deny := ((a ++ b).map (·.2)).length != 0 }
    rw [length_bne_zero_of_ne_nil (map_ne_nil _ hne), length_bne_zero_of_ne_nil (map_ne_nil _ hne')]
  | dnstype =>
    have h0 := hdns rfl
    have h1 := h0
    rw [dnsFlag_eq_any, List.any_append] at h1
    show ({ s with dns := ((posVals (a ++ v :: b)).filterMap dnsTypeNumber).length != 0 ||
        ((negVals (a ++ v :: b)).filterMap dnsTypeNumber).length != 0 } : PState) =
      { s with dns := ((posVals (a ++ b)).filterMap dnsTypeNumber).length != 0 ||
        ((negVals (a ++ b)).filterMap dnsTypeNumber).length != 0 }
    rw [h0, dnsFlag_eq_any, List.any_append, List.any_cons, Bool.or_left_comm, h1, Bool.or_true]
  | ctag =>
    show ({ s with tag := (posVals (a ++ v :: b)).length != 0 || (negVals (a ++ v :: b)).length != 0 } : PState) =
      { s with tag := (posVals (a ++ b)).length != 0 || (negVals (a ++ b)).length != 0 }
    rw [hf, hf']
  | client =>
    show ({ s with cli := (posVals (a ++ v :: b)).length != 0 || (negVals (a ++ v :: b)).length != 0 } : PState) =
      { s with cli := (posVals (a ++ b)).length != 0 || (negVals (a ++ b)).length != 0 }
    rw [hf, hf']

/-- Changing `specific` alone: higher iff it goes from `false` to `true`. -/
theorem keyP_set_specific (wl : Bool) (s : PState) (c : Bool) :
    decide ((keyP wl { s with specific := c }).gt (keyP wl s)) = (c && !s.specific) ∧
    decide ((keyP wl s).gt (keyP wl { s with specific := c })) = (s.specific && !c) := by
  rw [decide_eq_decide.2 (PKey.gt_iff_specific (a := keyP wl { s with specific := c }) (b := keyP wl s) rfl rfl rfl),
    decide_eq_decide.2 (PKey.gt_iff_specific (a := keyP wl s) (b := keyP wl { s with specific := c }) rfl rfl rfl)]
  show decide ((if c then 1 else 0) > (if s.specific then 1 else 0)) = _ ∧
    decide ((if s.specific then 1 else 0) > (if c then 1 else 0)) = _
  cases c <;> cases s.specific <;> exact ⟨rfl, rfl⟩

theorem pstate_eta_specific (s : PState) : { s with specific := s.specific } = s := rfl

/-! ### replacing a counted list by another non-empty one -/

theorem tie_of_pkey {a b : NetRule} (h : pkey a = pkey b) :
    isHigherPriority a b = false ∧ isHigherPriority b a = false := by
  constructor
  · rw [higher_false_iff, h]; exact PKey.gt_irrefl _
  · rw [higher_false_iff, h]; exact PKey.gt_irrefl _

theorem pkey_denyallow (A : NetRule) (l : List Bytes) (h1 : A.denyallow ≠ []) (h2 : l ≠ []) :
    pkey { A with denyallow := l } = pkey A := by
  unfold pkey classRank modifierCount NetRule.redirect NetRule.important NetRule.isEnabled NetRule.isGeneric
  simp only [length_bne_zero_of_ne_nil h1, length_bne_zero_of_ne_nil h2]

theorem pkey_dns (A : NetRule) (p q : List Nat) (h1 : A.permDns ≠ [] ∨ A.restrDns ≠ []) (h2 : p ≠ [] ∨ q ≠ []) :
    pkey { A with permDns := p, restrDns := q } = pkey A := by
  unfold pkey classRank modifierCount NetRule.redirect NetRule.important NetRule.isEnabled NetRule.isGeneric
  simp only [length_bne_zero_or h1, length_bne_zero_or h2]

theorem pkey_tags (A : NetRule) (p q : List Bytes) (h1 : A.permTags ≠ [] ∨ A.restrTags ≠ [])
    (h2 : p ≠ [] ∨ q ≠ []) : pkey { A with permTags := p, restrTags := q } = pkey A := by
  unfold pkey classRank modifierCount NetRule.redirect NetRule.important NetRule.isEnabled NetRule.isGeneric
  simp only [length_bne_zero_or h1, length_bne_zero_or h2]

theorem pkey_clients (A : NetRule) (p q : Option Clients)
    (h1 : (Clients.len A.permClients != 0 || Clients.len A.restrClients != 0) = true)
    (h2 : (Clients.len p != 0 || Clients.len q != 0) = true) :
    pkey { A with permClients := p, restrClients := q } = pkey A := by
  unfold pkey classRank modifierCount NetRule.redirect NetRule.important NetRule.isEnabled NetRule.isGeneric
  simp only [h1, h2]

theorem ListKind.mod_ne {k : ListKind} {vs : List (Bool × Bytes)} (h : (k.mod vs).valsOK = true) : vs ≠ [] := by
  intro e
  subst e
  cases k <;> simp [ListKind.mod, Mod.valsOK] at h

end UF.L
