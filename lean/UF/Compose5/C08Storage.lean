import UF.Compose5.C08Match
import UF.Compose.Inert
import UF.Compose3.WebTop
import UF.Compose3.DnsTop
import UF.Props.C08
import UF.Props.C06
/-
  C08 at engine level, helper lemmas: adding a rule and its `$badfilter` twin, each on its own line,
  anywhere in the lists, changes no verdict.  `withPair`: the matching lines of the extended storage
  are those of the base storage plus both members of the pair or neither; the reference verdicts do
  not see the pair; `LineInserted`: one line inserted at an arbitrary position of one list.
-/
namespace UF.L
open UF UF.B UF.Storage UF.Compose UF.Compose3

/-! ### lists with the pair added -/

def withPair (b : Bool) (x xb : NetRule) (l : List NetRule) : List NetRule := if b then l ++ [x, xb] else l

theorem mem_withPair {b : Bool} {x xb r : NetRule} {l : List NetRule} :
    r ∈ withPair b x xb l ↔ r ∈ l ∨ (b = true ∧ (r = x ∨ r = xb)) := by
  unfold withPair
  cases b <;> simp

/-- Filtering a rule set extended by `x` and `xb` with a test that does not distinguish the two. -/
theorem filter_ins_agree {N N' : List NetRule} {x xb : NetRule}
    (hins : ∀ r, r ∈ N' ↔ r ∈ N ∨ r = x ∨ r = xb) (p : NetRule → Bool) (hp : p xb = p x) :
    ListsAgree (N'.filter p) (withPair (p x) x xb (N.filter p)) := by
  apply listsAgree_of_mem
  intro r
  rw [mem_withPair, List.mem_filter, List.mem_filter, hins r]
  constructor
  · rintro ⟨h | h | h, hpr⟩
    · exact .inl ⟨h, hpr⟩
    · subst h; exact .inr ⟨hpr, .inl rfl⟩
    · subst h; exact .inr ⟨by rw [← hp]; exact hpr, .inr rfl⟩
  · rintro (⟨h, hpr⟩ | ⟨hpx, h | h⟩)
    · exact ⟨.inl h, hpr⟩
    · subst h; exact ⟨.inr (.inl rfl), hpx⟩
    · subst h; exact ⟨.inr (.inr rfl), by rw [hp]; exact hpx⟩

theorem removeBad_withPair (b : Bool) (x xb : NetRule) (l : List NetRule) (hx : x.badfilter = false)
    (hxb : xb.matchFields = x.withBadfilter.matchFields) (hdist : ∀ r ∈ l, r.matchFields ≠ x.matchFields) :
    removeBadfilterRules (withPair b x xb l) = removeBadfilterRules l := by
  cases b
  · rfl
  · have := (C08.c08_twin l [] [] x xb hx hxb (by simpa using hdist)).1
    simpa [withPair] using this

theorem noReplace_withPair {b : Bool} {x xb : NetRule} {l : List NetRule}
    (hl : ∀ r ∈ l, r.isEnabled Facts.OptionReplace = false) (hxr : x.isEnabled Facts.OptionReplace = false)
    (hbr : xb.isEnabled Facts.OptionReplace = false) :
    ∀ r ∈ withPair b x xb l, r.isEnabled Facts.OptionReplace = false := by
  intro r hr
  rcases mem_withPair.1 hr with h | ⟨_, h | h⟩
  · exact hl r h
  · rw [h]; exact hxr
  · rw [h]; exact hbr

/-- The reference class of a web request does not see a twin pair added to the matching rules and/or to the
    rules matching the referrer. -/
theorem classWeb_withPair (b b' : Bool) (x xb : NetRule) (l s : List NetRule) (hx : x.badfilter = false)
    (hxb : xb.matchFields = x.withBadfilter.matchFields)
    (hl : ∀ r ∈ l, r.matchFields ≠ x.matchFields) (hs : ∀ r ∈ s, r.matchFields ≠ x.matchFields)
    (hrep : ∀ r ∈ l, r.isEnabled Facts.OptionReplace = false) (hxr : x.isEnabled Facts.OptionReplace = false)
    (hbr : xb.isEnabled Facts.OptionReplace = false) :
    classWeb (withPair b x xb l) (withPair b' x xb s) = classWeb l s := by
  rw [← C06.c06_web _ _ (noReplace_withPair hrep hxr hbr), ← C06.c06_web l s hrep,
    C08.c08_verdict_web _ _ _ _ (removeBad_withPair b x xb l hx hxb hl) (removeBad_withPair b' x xb s hx hxb hs)]

/-- The same for the reference class of a DNS request. -/
theorem classDns_withPair (b : Bool) (x xb : NetRule) (l : List NetRule) (hx : x.badfilter = false)
    (hxb : xb.matchFields = x.withBadfilter.matchFields)
    (hl : ∀ r ∈ l, r.matchFields ≠ x.matchFields)
    (hrep : ∀ r ∈ l, r.isEnabled Facts.OptionReplace = false) (hxr : x.isEnabled Facts.OptionReplace = false)
    (hbr : xb.isEnabled Facts.OptionReplace = false) :
    classDns (withPair b x xb l) = classDns l := by
  rw [← C06.c06_dns _ (noReplace_withPair hrep hxr hbr), ← C06.c06_dns l hrep,
    C08.c08_verdict_dns _ _ (removeBad_withPair b x xb l hx hxb hl)]

/-- … and for the reference of the effective `$dnsrewrite` rules (C09). -/
theorem specRewrites_withPair (b : Bool) (x xb : NetRule) (l : List NetRule) (hx : x.badfilter = false)
    (hxb : xb.matchFields = x.withBadfilter.matchFields) (hl : ∀ r ∈ l, r.matchFields ≠ x.matchFields) :
    specRewrites (dnsRewritesAll (withPair b x xb l)) = specRewrites (dnsRewritesAll l) := by
  have h1 := C08.c08_rewrites_filtered (withPair b x xb l)
  have h2 := C08.c08_rewrites_filtered l
  rw [removeBad_withPair b x xb l hx hxb hl, ← h2, dnsRewrites_eq_spec, dnsRewrites_eq_spec] at h1
  exact Option.some.inj h1

/-! ### `dnsApplicable` does not read the `$badfilter` bit -/

theorem dnsApplicable_withBadfilter (x : NetRule) : dnsApplicable x.withBadfilter = dnsApplicable x := by
  unfold dnsApplicable NetRule.withBadfilter
  simp only
  have : (x.enabled ||| Facts.OptionBadfilter ||| (Facts.OptionImportant ||| Facts.OptionBadfilter)) =
      (x.enabled ||| (Facts.OptionImportant ||| Facts.OptionBadfilter)) := by
    rw [Nat.or_assoc]
    rfl
  rw [this]

theorem dnsApplicable_matchFields (x y : NetRule) (h : x.matchFields = y.matchFields) :
    dnsApplicable x = dnsApplicable y := by
  obtain ⟨_, _, h3, h4, _, _, _, _, _, _, _, h12, h13, h14, h15, _⟩ := (matchFields_eq_iff x y).1 h
  unfold dnsApplicable
  rw [h3, h4, h12, h13, h14, h15]

/-! ### the rules of the extended storage -/

/-- `x` and `xb` are rules of the extended storage, hence parsed from their texts. -/
theorem ins_parsed {px : E.ParseExt} {lists lists' : List RList} {x xb : NetRule}
    (hins : ∀ r, r ∈ netRulesOf (specRules px lists') ↔ r ∈ netRulesOf (specRules px lists) ∨ r = x ∨ r = xb) :
    x ∈ allNet px lists' ∧ xb ∈ allNet px lists' :=
  ⟨(hins x).2 (.inr (.inl rfl)), (hins xb).2 (.inr (.inr rfl))⟩

/-- A rule and its twin, both rules of one storage, match the same requests. -/
theorem ins_twin_matches {px : E.ParseExt} {lists' : List RList} {x xb : NetRule}
    (hxm : x ∈ allNet px lists') (hbm : xb ∈ allNet px lists')
    (hxb : xb.matchFields = x.withBadfilter.matchFields) (q : Request) :
    xb.matches px.ext q = x.matches px.ext q :=
  parsed_twin_matches (allNet_parse hxm) (allNet_parse hbm) hxb q

theorem matchingLines_ins {px : E.ParseExt} {lists lists' : List RList} {x xb : NetRule}
    (hins : ∀ r, r ∈ netRulesOf (specRules px lists') ↔ r ∈ netRulesOf (specRules px lists) ∨ r = x ∨ r = xb)
    (hxb : xb.matchFields = x.withBadfilter.matchFields) (q : Request) :
    ListsAgree (matchingLines px lists' q) (withPair (x.matches px.ext q) x xb (matchingLines px lists q)) := by
  obtain ⟨hxm, hbm⟩ := ins_parsed hins
  exact filter_ins_agree hins (fun r => r.matches px.ext q) (ins_twin_matches hxm hbm hxb q)

theorem sourceMatchingLines_ins {px : E.ParseExt} {lists lists' : List RList} {x xb : NetRule}
    (hins : ∀ r, r ∈ netRulesOf (specRules px lists') ↔ r ∈ netRulesOf (specRules px lists) ∨ r = x ∨ r = xb)
    (hxb : xb.matchFields = x.withBadfilter.matchFields) (q : Request) :
    ListsAgree (sourceMatchingLines px lists' q)
      (withPair (q.sourceURL != [] && x.matches px.ext (sourceRequestOf px.ext q)) x xb
        (sourceMatchingLines px lists q)) := by
  unfold sourceMatchingLines
  cases hsrc : (q.sourceURL != [])
  · simp only [Bool.false_eq_true, if_false, Bool.false_and]
    exact listsAgree_refl []
  · simp only [if_true, Bool.true_and]
    exact matchingLines_ins hins hxb _

theorem dnsMatchingLines_ins {px : E.ParseExt} {lists lists' : List RList} {x xb : NetRule}
    (hins : ∀ r, r ∈ netRulesOf (specRules px lists') ↔ r ∈ netRulesOf (specRules px lists) ∨ r = x ∨ r = xb)
    (hxb : xb.matchFields = x.withBadfilter.matchFields) (d : DReq) :
    ListsAgree (dnsMatchingLines px lists' d)
      (withPair (dnsApplicable x && x.matches px.ext (dnsRequestOf px.ext default d)) x xb
        (dnsMatchingLines px lists d)) := by
  obtain ⟨hxm, hbm⟩ := ins_parsed hins
  unfold dnsMatchingLines
  exact filter_ins_agree hins (fun r => dnsApplicable r && r.matches px.ext (dnsRequestOf px.ext default d))
    (by rw [dnsApplicable_matchFields xb _ hxb, dnsApplicable_withBadfilter, ins_twin_matches hxm hbm hxb])

theorem matchingLines_sub {px : E.ParseExt} {lists : List RList} {q : Request} {r : NetRule}
    (h : r ∈ matchingLines px lists q) : r ∈ allNet px lists :=
  (List.mem_filter.1 h).1

theorem sourceMatchingLines_sub {px : E.ParseExt} {lists : List RList} {q : Request} {r : NetRule}
    (h : r ∈ sourceMatchingLines px lists q) : r ∈ allNet px lists := by
  unfold sourceMatchingLines at h
  split at h
  · exact matchingLines_sub h
  · cases h

theorem dnsMatchingLines_sub {px : E.ParseExt} {lists : List RList} {d : DReq} {r : NetRule}
    (h : r ∈ dnsMatchingLines px lists d) : r ∈ allNet px lists :=
  (List.mem_filter.1 h).1

/-! ### inserting one line -/

/-- `lists'` is `lists` with the line `t` inserted at an arbitrary position of the list with id `id`: the
    pieces between newlines of that list's content are the old pieces with `t` put between two of them (or
    before the first / after the last); every other list, the id and the `IgnoreCosmetic` flag are unchanged
    (the backing — string or file — may change). -/
def LineInserted (t : Bytes) (id : Int) (lists lists' : List RList) : Prop :=
  ∃ (A B : List RList) (l l' : RList) (p s : List Bytes),
    lists = A ++ l :: B ∧ lists' = A ++ l' :: B ∧ l.id = id ∧ l'.id = id ∧
    l'.ignoreCosmetic = l.ignoreCosmetic ∧
    splitLines l.content = p ++ s ∧ splitLines l'.content = p ++ t :: s

/-- Content surgery, in the middle: `a ⏎ b` becomes `a ⏎ t ⏎ b` (`t` without a newline). -/
theorem lineInserted_middle (A B : List RList) (id : Int) (ic f f' : Bool) (a b t : Bytes) (ht : 10 ∉ t) :
    LineInserted t id (A ++ ⟨id, ic, a ++ 10 :: b, f⟩ :: B) (A ++ ⟨id, ic, a ++ 10 :: (t ++ 10 :: b), f'⟩ :: B) :=
  ⟨A, B, _, _, splitLines a, splitLines b, rfl, rfl, rfl, rfl, rfl, splitLines_append_nl a b, by
    simp only [splitLines_append_nl, splitLines_of_not_mem ht]; rfl⟩

/-- … at the beginning: `b` becomes `t ⏎ b`. -/
theorem lineInserted_front (A B : List RList) (id : Int) (ic f f' : Bool) (b t : Bytes) (ht : 10 ∉ t) :
    LineInserted t id (A ++ ⟨id, ic, b, f⟩ :: B) (A ++ ⟨id, ic, t ++ 10 :: b, f'⟩ :: B) :=
  ⟨A, B, _, _, [], splitLines b, rfl, rfl, rfl, rfl, rfl, rfl, by
    simp only [splitLines_append_nl, splitLines_of_not_mem ht]; rfl⟩

/-- … at the end: `a` becomes `a ⏎ t`. -/
theorem lineInserted_back (A B : List RList) (id : Int) (ic f f' : Bool) (a t : Bytes) (ht : 10 ∉ t) :
    LineInserted t id (A ++ ⟨id, ic, a, f⟩ :: B) (A ++ ⟨id, ic, a ++ 10 :: t, f'⟩ :: B) :=
  ⟨A, B, _, _, splitLines a, [], rfl, rfl, rfl, rfl, rfl, by simp, by
    simp only [splitLines_append_nl, splitLines_of_not_mem ht]⟩

/-- The line-by-line parsed network rules after inserting a line that `NewRule` turns into the network
    rule `x`: the old ones plus `x`. -/
theorem netRules_lineInserted {px : E.ParseExt} {t : Bytes} {id : Int} {lists lists' : List RList} {x : NetRule}
    (h : LineInserted t id lists lists') (hx : E.newRule (realRx px) t id = .ok (some (.net x))) :
    ∀ r, r ∈ netRulesOf (specRules px lists') ↔ r ∈ netRulesOf (specRules px lists) ∨ r = x := by
  obtain ⟨A, B, l, l', p, s, rfl, rfl, hid, hid', hic, hp, hp'⟩ := h
  -- the rules of the changed list: the new line yields `x`, which is no cosmetic rule
  have hline : E.acceptedOf (realRx px) id t = some (.net x) := by rw [E.acceptedOf, hx]
  have hl : ∀ r, r ∈ specRulesOf (realRx px) l' ↔ r ∈ specRulesOf (realRx px) l ∨ r = .net x := by
    intro r
    simp only [specRulesOf, hp, hp', hid, hid', hic, List.filterMap_append, List.filterMap_cons, hline, isCos,
      Bool.and_false, Bool.false_eq_true, if_false, List.mem_append, List.mem_cons]
    constructor
    · rintro (h | h | h)
      · exact .inl (.inl h)
      · exact .inr h
      · exact .inl (.inr h)
    · rintro ((h | h) | h)
      · exact .inl h
      · exact .inr (.inr h)
      · exact .inr (.inl h)
  intro r
  simp only [mem_netRulesOf, specRules, List.flatMap_append, List.flatMap_cons, List.mem_append, hl,
    Rule.net.injEq]
  constructor
  · rintro (h | (h | h) | h)
    · exact .inl (.inl h)
    · exact .inl (.inr (.inl h))
    · exact .inr h
    · exact .inl (.inr (.inr h))
  · rintro ((h | h | h) | h)
    · exact .inl h
    · exact .inr (.inl (.inl h))
    · exact .inr (.inr h)
    · exact .inr (.inl (.inr h))

/-- Two insertions, one after the other (the second one sees the first line, so every relative position of the
    two lines — same list or different lists, either order — is covered). -/
theorem netRules_twoLinesInserted {px : E.ParseExt} {tx tb : Bytes} {i j : Int} {lists lists1 lists' : List RList}
    {x xb : NetRule} (h1 : LineInserted tx i lists lists1) (h2 : LineInserted tb j lists1 lists')
    (hx : E.newRule (realRx px) tx i = .ok (some (.net x)))
    (hb : E.newRule (realRx px) tb j = .ok (some (.net xb))) :
    ∀ r, r ∈ netRulesOf (specRules px lists') ↔ r ∈ netRulesOf (specRules px lists) ∨ r = x ∨ r = xb := by
  intro r
  rw [netRules_lineInserted h2 hb r, netRules_lineInserted h1 hx r, or_assoc]

end UF.L
