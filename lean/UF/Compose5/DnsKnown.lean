import UF.Compose5.AppendX
/-
  A rule text that parses has only known `$dnstype` names (`loadDNSTypes` rejects unknown ones), so the
  `$dnstype` modifier of a parsed text is always counted by the priority order.
-/
namespace UF.L
open UF UF.E Bytes UF.Compose3

/-- The step of the option loop on `dnstype=…` succeeds only if every name is a known record type. -/
theorem dnstype_step_known {px : ParseExt} {r r' : NetRule} {vs : List (Bool × Bytes)}
    (hok : (Mod.dnstype vs).valsOK = true) (h : loadOptionsStep px r (renderMod (.dnstype vs)) = .ok r') :
    ∀ v ∈ vs, (dnsTypeNumber v.2).isSome = true := by
  simp only [Mod.valsOK, Bool.and_eq_true, List.all_eq_true, Bool.not_eq_true', List.isEmpty_eq_false_iff] at hok
  rw [show renderMod (.dnstype vs) = lit "dnstype" ++ ch '=' :: joinVals (vs.map renderVal) from rfl,
    loadOptionsStep_nv px r _ _ (by decide) (by decide), loadOption_dnstype] at h
  obtain ⟨⟨p, rs⟩, hl, _⟩ := bind_ok_elim h
  exact (loadDNSTypes_render vs hok.1 hok.2 hl).2

theorem foldlM_mid {α β} (f : β → α → PE β) (pre post : List α) (x : α) (b0 b2 : β)
    (h : (pre ++ x :: post).foldlM f b0 = .ok b2) : ∃ b1 b1', f b1 x = .ok b1' := by
  rw [List.foldlM_append] at h
  obtain ⟨b1, _, h⟩ := bind_ok_elim h
  simp only [List.foldlM] at h
  obtain ⟨b1', h1, _⟩ := bind_ok_elim h
  exact ⟨b1, b1', h1⟩

theorem parseX_step_ok {px : ParseExt} {wl : Bool} {pat : Bytes} {pre post : List XMod} {x : XMod} {id : Int}
    {r : NetRule} (hp : patOK pat = true) (hm : ∀ y ∈ pre ++ x :: post, y.valsOK = true)
    (h : parseNetRule px (renderX wl pat (pre ++ x :: post)) id = .ok r) :
    ∃ r1 r1', loadOptionsStep px r1 (renderXMod x) = .ok r1' := by
  have hmW := valsOK_toW hm
  rw [← renderW_toW] at h
  obtain ⟨pat', opts, wl', r1, hprt, hl, _⟩ := parseNetRule_parts h
  obtain ⟨hpW, hs⟩ := patOKW_of_patOK hp ((pre ++ x :: post).map XMod.toW)
  rw [parseRuleText_renderW hpW hs hmW] at hprt
  cases hprt
  obtain ⟨r2, hf, _⟩ := loadOptions_partsS (by simp)
    (fun y hy => by obtain ⟨m, _, rfl⟩ := List.mem_map.1 hy; exact renderModW_ne_nil m)
    (fun y hy => by obtain ⟨m, hm', rfl⟩ := List.mem_map.1 hy; exact renderModW_notMem m (hmW m hm') _ (.inl rfl))
    (fun y hy => by obtain ⟨m, hm', rfl⟩ := List.mem_map.1 hy; exact escOK_renderModW m (hmW m hm')) hl
  rw [List.map_append, List.map_cons, List.map_append, List.map_cons, renderModW_toW] at hf
  exact foldlM_mid _ _ _ _ _ _ hf

/-- A parsed rendered text has only known `$dnstype` names. -/
theorem parseX_dnstype_known {px : ParseExt} {wl : Bool} {pat : Bytes} {pre post : List XMod}
    {vs : List (Bool × Bytes)} {id : Int} {r : NetRule} (hp : patOK pat = true)
    (hm : ∀ y ∈ pre ++ .base (.dnstype vs) :: post, y.valsOK = true)
    (h : parseNetRule px (renderX wl pat (pre ++ .base (.dnstype vs) :: post)) id = .ok r) :
    ∀ v ∈ vs, (dnsTypeNumber v.2).isSome = true := by
  obtain ⟨r1, r1', hs⟩ := parseX_step_ok hp hm h
  exact dnstype_step_known (hm (.base (.dnstype vs)) (List.mem_append_right _ List.mem_cons_self)) hs

theorem dns_flag_of_known (vs : List (Bool × Bytes)) (hne : vs ≠ [])
    (hk : ∀ v ∈ vs, (dnsTypeNumber v.2).isSome = true) :
    (((posVals vs).filterMap dnsTypeNumber).length != 0 ||
      ((negVals vs).filterMap dnsTypeNumber).length != 0) = true := by
  rw [dnsFlag_eq_any]
  cases vs with
  | nil => exact absurd rfl hne
  | cons v rest => rw [List.any_cons, hk v List.mem_cons_self, Bool.true_or]

end UF.L
