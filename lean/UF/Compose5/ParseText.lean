import UF.Compose5.Effect2
/-
  `NewNetworkRule` on a rendered rule text: whatever the parser model accepts for `renderW exception pattern ms`
  is, on every modifier field, the fold of `applyModW` over `ms` from the empty record followed by the
  document-only override of the permitted content types (`parse_renderW`).
-/
namespace UF.L
open UF UF.E Bytes UF.Compose3

/-! ### the rendered modifiers are comma-free, `$`-free, non-empty and have harmless backslashes only -/

def optByte (c : UInt8) : Bool := c != ch ',' && c != ch '\\' && c != ch '$'

theorem all_joinSep (p : UInt8 → Bool) (l : List Bytes) (sep : Bytes) (hl : ∀ x ∈ l, x.all p = true)
    (hs : sep.all p = true) : (joinSep l sep).all p = true := by
  induction l with
  | nil => rfl
  | cons m ms ih =>
    cases ms with
    | nil => simpa [joinSep] using hl m List.mem_cons_self
    | cons n ns =>
      simp only [joinSep, List.all_append, Bool.and_eq_true]
      exact ⟨⟨hl m List.mem_cons_self, hs⟩, ih (fun x hx => hl x (List.mem_cons_of_mem _ hx))⟩

theorem cleanByte_optByte {c : UInt8} (h : cleanByte c = true) : optByte c = true := by
  obtain ⟨h1, h2, h3, _⟩ := cleanByte_ne h
  simp [optByte, h1, h2, h3]

theorem cleanVal_all {v : Bytes} (h : cleanVal v = true) : v.all optByte = true :=
  List.all_eq_true.2 (fun c hc => cleanByte_optByte (cleanVal_mem h c hc))

theorem renderVal_all (v : Bool × Bytes) (h : cleanVal v.2 = true) : (renderVal v).all optByte = true := by
  obtain ⟨neg, d⟩ := v
  cases neg
  · exact cleanVal_all h
  · show (optByte (ch '~') && d.all optByte) = true
    rw [cleanVal_all h]; decide

theorem joinVals_all (l : List Bytes) (h : ∀ x ∈ l, x.all optByte = true) : (joinVals l).all optByte = true :=
  all_joinSep optByte l _ h (by decide)

theorem valued_all (name : Bytes) (l : List Bytes) (hn : name.all optByte = true)
    (h : ∀ x ∈ l, x.all optByte = true) : (name ++ ch '=' :: joinVals l).all optByte = true := by
  rw [List.all_append, hn, List.all_cons, joinVals_all l h]; decide

theorem names_optByte :
    (∀ o ∈ Opt.all, o.name.all optByte = true ∧ o.name ≠ []) ∧
    (∀ c ∈ CType.all, c.name.all optByte = true ∧ c.name ≠ []) := by
  decide +kernel

theorem renderMod_all (m : Mod) (h : m.valsOK = true) : (renderMod m).all optByte = true := by
  cases m with
  | opt o => exact (names_optByte.1 o o.mem_all).1
  | thirdParty alt => cases alt <;> decide +kernel
  | firstParty alt => cases alt <;> decide +kernel
  | notMatchCase => decide +kernel
  | document => decide +kernel
  | ctype neg c =>
    -- `~` is an `optByte`, so `~name` reduces to `name`
    cases neg <;> exact (names_optByte.2 c c.mem_all).1
  | domain vs | ctag vs | client vs =>
    simp only [Mod.valsOK, Bool.and_eq_true, List.all_eq_true] at h
    exact valued_all _ _ (by decide +kernel) (List.forall_mem_map.2 fun v hv => renderVal_all v (h.2 v hv))
  | denyallow vs =>
    simp only [Mod.valsOK, Bool.and_eq_true, List.all_eq_true] at h
    exact valued_all _ _ (by decide +kernel) (fun x hx => cleanVal_all (h.2 x hx))
  | dnstype vs =>
    simp only [Mod.valsOK, Bool.and_eq_true, List.all_eq_true] at h
    exact valued_all _ _ (by decide +kernel) (List.forall_mem_map.2 fun v hv => renderVal_all v (h.2 v hv).1)

theorem renderMod_ne_nil (m : Mod) : renderMod m ≠ [] := by
  cases m with
  | opt o => exact (names_optByte.1 o o.mem_all).2
  | thirdParty alt => cases alt <;> decide +kernel
  | firstParty alt => cases alt <;> decide +kernel
  | notMatchCase => decide +kernel
  | document => decide +kernel
  | ctype neg c =>
    cases neg
    · exact (names_optByte.2 c c.mem_all).2
    · exact List.cons_ne_nil _ _
  | domain vs | denyallow vs | dnstype vs | ctag vs | client vs => simp [renderMod, lit]

theorem optByte_notMem {s : Bytes} (h : s.all optByte = true) {c : UInt8} (hc : optByte c = false) : c ∉ s := by
  intro hm
  rw [List.all_eq_true.1 h c hm] at hc
  cases hc

theorem renderModW_ne_nil (m : ModW) : renderModW m ≠ [] := by
  cases m with
  | base m => exact renderMod_ne_nil m
  | clientQ vs => simp [renderModW, lit]
  | notExtension => decide

theorem mem_valued {c : UInt8} {name : Bytes} {l : List Bytes} (h : c ∈ name ++ ch '=' :: joinVals l) :
    c ∈ name ∨ c = ch '=' ∨ c = ch '|' ∨ ∃ x ∈ l, c ∈ x := by
  simp only [List.mem_append, List.mem_cons] at h
  rcases h with h | h | h
  · exact .inl h
  · exact .inr (.inl h)
  · rcases mem_joinSep h with e | e
    · exact .inr (.inr (.inl e))
    · exact .inr (.inr (.inr e))

theorem renderModW_notMem (m : ModW) (h : m.valsOK = true) (c : UInt8) (hc : c = ch ',' ∨ c = ch '$') :
    c ∉ renderModW m := by
  cases m with
  | base m =>
    exact optByte_notMem (renderMod_all m h) (by rcases hc with rfl | rfl <;> decide)
  | clientQ vs =>
    simp only [ModW.valsOK, Bool.and_eq_true, List.all_eq_true] at h
    intro hm
    rcases mem_valued hm with e | e | e | ⟨x, hx, e⟩
    · rcases hc with rfl | rfl <;> exact absurd e (by decide)
    · rcases hc with rfl | rfl <;> exact absurd e (by decide)
    · rcases hc with rfl | rfl <;> exact absurd e (by decide)
    · obtain ⟨v, hv, rfl⟩ := List.mem_map.1 hx
      refine renderCV_notMem v (h.2 v hv) c ?_ ?_ ?_ ?_ ?_ ?_ e <;> rcases hc with rfl | rfl <;> decide
  | notExtension => rcases hc with rfl | rfl <;> decide

theorem escOK_valued (name : Bytes) (l : List Bytes) (hn : ch '\\' ∉ name)
    (h : ∀ x ∈ l, escOK (ch ',') (ch '\\') x = true) :
    escOK (ch ',') (ch '\\') (name ++ ch '=' :: joinVals l) = true := by
  refine escOK_append _ _ _ _ (escOK_of_notMem _ _ _ hn) ?_
  rw [escOK_cons_ne _ (by decide)]
  exact escOK_joinSep _ _ _ (by decide) l h

theorem escOK_renderModW (m : ModW) (h : m.valsOK = true) : escOK (ch ',') (ch '\\') (renderModW m) = true := by
  cases m with
  | base m => exact escOK_of_notMem _ _ _ (optByte_notMem (renderMod_all m h) (by decide))
  | clientQ vs =>
    simp only [ModW.valsOK, Bool.and_eq_true, List.all_eq_true] at h
    exact escOK_valued _ _ (by decide)
      (List.forall_mem_map.2 fun v hv => escOK_renderCV (ch ',') (by decide) (by decide) v (h.2 v hv))
  | notExtension => exact escOK_of_notMem _ _ _ (by decide)

theorem optsTextW_eq_nil_iff (ms : List ModW) : optsTextW ms = [] ↔ ms = [] := by
  constructor
  · intro h
    cases ms with
    | nil => rfl
    | cons m ms => exact absurd h (H.joinSep_ne_nil _ _ _ (renderModW_ne_nil m))
  · intro h; rw [h]; rfl

theorem optsTextW_noDollar (ms : List ModW) (h : ∀ m ∈ ms, m.valsOK = true) : ch '$' ∉ optsTextW ms := by
  intro hm
  rcases mem_joinSep hm with e | ⟨x, hx, hc⟩
  · exact absurd e (by decide)
  · obtain ⟨m, hmm, rfl⟩ := List.mem_map.1 hx
    exact renderModW_notMem m (h m hmm) _ (.inr rfl) hc

theorem optsText_eq_nil_iff (ms : List Mod) : optsText ms = [] ↔ ms = [] := by
  rw [← optsTextW_base, optsTextW_eq_nil_iff, List.map_eq_nil_iff]

/-! ### the three stages of `NewNetworkRule` -/

/-- The record the option loop starts from. -/
def initRule (t : Bytes) (wl : Bool) (id : Int) (pat : Bytes) : NetRule :=
  { text := t, whitelist := wl, listID := id, pattern := pat }

/-- Is one of the eight document-only option bits set? -/
def docOnlyB (enabled : Nat) : Bool := documentOnlyOptions.any (fun o => (enabled &&& o) == o)

/-- The last statement of `loadOptions`. -/
def overrideDoc (r : NetRule) : NetRule :=
  if docOnlyB r.enabled then { r with permTypes := Facts.TypeDocument } else r

/-- `NewNetworkRule` = `parseRuleText`, then `loadOptions`, then two writes to pattern and shortcut. -/
theorem parseNetRule_parts {px : ParseExt} {t : Bytes} {id : Int} {r : NetRule}
    (h : parseNetRule px t id = .ok r) :
    ∃ pat opts wl r1, parseRuleText t = .ok (pat, opts, wl) ∧
      loadOptions px (initRule t wl id pat) opts = .ok r1 ∧
      r = { r1 with pattern := r.pattern, shortcut := r.shortcut } := by
  unfold parseNetRule at h
  obtain ⟨⟨pattern, options, whitelist⟩, hprt, h⟩ := bind_ok_elim h
  obtain ⟨r1, hl, h⟩ := bind_ok_elim h
  refine ⟨pattern, options, whitelist, r1, hprt, hl, ?_⟩
  extract_lets jp at h
  have hjp : ∀ r2, jp r2 = .ok r → r = { r2 with pattern := r.pattern, shortcut := r.shortcut } := by
    intro r2 h
    simp only [jp] at h
    refine ite_ok_elim h ?_ ?_ <;> clear h <;> intro h
    · cases h
    · obtain ⟨sc, _, h⟩ := bind_ok_elim h
      refine ite_ok_elim h ?_ ?_ <;> clear h <;> intro h
      · cases pure_ok_elim h; rfl
      · cases pure_ok_elim h; rfl
  refine ite_ok_elim h ?_ ?_ <;> clear h <;> intro h
  · obtain ⟨p, _, h⟩ := bind_ok_elim h
    obtain ⟨r2, hp, h⟩ := bind_ok_elim h
    cases pure_ok_elim hp
    have := hjp _ h
    rw [this]
  · obtain ⟨r2, hp, h⟩ := bind_ok_elim h
    cases pure_ok_elim hp
    exact hjp _ h

/-- `loadOptions` on comma-joined pieces with harmless backslashes: the loop over the pieces, then the override. -/
theorem loadOptions_partsS {px : ParseExt} {r0 r1 : NetRule} {parts : List Bytes} (hne : parts ≠ [])
    (hp : ∀ x ∈ parts, x ≠ []) (hs : sepFree (ch ',') parts) (he : ∀ x ∈ parts, escOK (ch ',') (ch '\\') x = true)
    (h : loadOptions px r0 (joinSep parts [ch ',']) = .ok r1) :
    ∃ r2, parts.foldlM (loadOptionsStep px) r0 = .ok r2 ∧ r1 = overrideDoc r2 := by
  unfold loadOptions at h
  rw [joinSep_isEmpty_false parts _ hne hp] at h
  simp only [Bool.false_eq_true, if_false] at h
  obtain ⟨list, hsp, h⟩ := bind_ok_elim h
  rw [split_join_safe (ch ',') (ch '\\') (by decide) parts hne hp hs he] at hsp
  cases hsp
  obtain ⟨r2, hf, h⟩ := bind_ok_elim h
  refine ⟨r2, hf, ?_⟩
  refine ite_ok_elim_c h ?_ ?_ <;> clear h <;> intro hc h
  · cases pure_ok_elim h
    have : docOnlyB r2.enabled = true := hc
    rw [overrideDoc, if_pos this]
  · cases pure_ok_elim h
    have : ¬ docOnlyB r1.enabled = true := hc
    rw [overrideDoc, if_neg this]

theorem overrideDoc_init (t : Bytes) (wl : Bool) (id : Int) (p : Bytes) :
    overrideDoc (initRule t wl id p) = initRule t wl id p := by
  unfold overrideDoc
  rw [if_neg]
  show ¬ docOnlyB 0 = true
  decide

theorem patOKW_cons {pat : Bytes} (h : patOKW pat = true) :
    ∃ c rest, pat = c :: rest ∧ c ≠ ch '@' ∧ ch '$' ∉ c :: rest ∧ ch '\\' ∉ c :: rest := by
  cases pat with
  | nil => simp [patOKW] at h
  | cons c rest =>
    simp only [patOKW, Bool.and_eq_true, bne_iff_ne, ne_eq, Bool.not_eq_true', List.contains_eq_mem,
      decide_eq_false_iff_not] at h
    exact ⟨c, rest, rfl, h.1.1, h.1.2, h.2⟩

theorem parseRuleText_renderW {wl : Bool} {pat : Bytes} {ms : List ModW}
    (hp : patOKW pat = true) (hs : slashOK pat ms = true) (hm : ∀ m ∈ ms, m.valsOK = true) :
    parseRuleText (renderW wl pat ms) = .ok (pat, optsTextW ms, wl) := by
  obtain ⟨c, rest, rfl, hc1, hd, hb⟩ := patOKW_cons hp
  have hreg : (hasPrefix (bodyW (c :: rest) ms) (lit "/") && hasSuffix (bodyW (c :: rest) ms) (lit "/")) = false := by
    unfold slashOK at hs
    cases hb : (hasPrefix (bodyW (c :: rest) ms) (lit "/") && hasSuffix (bodyW (c :: rest) ms) (lit "/")) with
    | false => rfl
    | true => rw [hb] at hs; cases hs
  exact parseRuleText_joinedW wl c rest (optsTextW ms) hc1 hd hb (optsTextW_noDollar ms hm) hreg

/-- PARSING A RENDERED TEXT of the wider grammar: every modifier field of the parsed rule is the fold of
    `applyModW` over the modifiers as written, with the document-only override at the end. -/
theorem parse_renderW {px : ParseExt} {wl : Bool} {pat : Bytes} {ms : List ModW} {id : Int} {r : NetRule}
    (hp : patOKW pat = true) (hs : slashOK pat ms = true) (hm : ∀ m ∈ ms, m.valsOK = true)
    (h : parseNetRule px (renderW wl pat ms) id = .ok r) :
    r = { overrideDoc (ms.foldl (applyModW px.ext) (initRule (renderW wl pat ms) wl id pat)) with
          pattern := r.pattern, shortcut := r.shortcut } := by
  obtain ⟨pat', opts, wl', r1, hprt, hl, hr⟩ := parseNetRule_parts h
  rw [parseRuleText_renderW hp hs hm] at hprt
  cases hprt
  rw [hr]
  cases ms with
  | nil =>
    have : optsTextW ([] : List ModW) = [] := rfl
    rw [this] at hl
    unfold loadOptions at hl
    simp only [List.isEmpty_nil, if_true] at hl
    cases pure_ok_elim hl
    rw [List.foldl_nil, overrideDoc_init]
  | cons m ms =>
    have hne : (m :: ms).map renderModW ≠ [] := by simp
    obtain ⟨r2, hf, hr1⟩ := loadOptions_partsS hne
      (List.forall_mem_map.2 fun m' _ => renderModW_ne_nil m')
      (List.forall_mem_map.2 fun m' hm' => renderModW_notMem m' (hm m' hm') _ (.inl rfl))
      (List.forall_mem_map.2 fun m' hm' => escOK_renderModW m' (hm m' hm')) hl
    cases foldlM_effectW (m :: ms) _ r2 hm hf
    rw [hr1]

/-! ### the grammar without quoted names, `~extension` and `/`-patterns -/

theorem patOK_cons {pat : Bytes} (h : patOK pat = true) :
    ∃ c rest, pat = c :: rest ∧ c ≠ ch '@' ∧ c ≠ ch '/' ∧ ch '$' ∉ c :: rest ∧ ch '\\' ∉ c :: rest := by
  cases pat with
  | nil => simp [patOK] at h
  | cons c rest =>
    simp only [patOK, Bool.and_eq_true, bne_iff_ne, ne_eq, Bool.not_eq_true', List.contains_eq_mem,
      decide_eq_false_iff_not] at h
    exact ⟨c, rest, rfl, h.1.1.1, h.1.1.2, h.1.2, h.2⟩

theorem patOKW_of_patOK {pat : Bytes} (h : patOK pat = true) (ms : List ModW) :
    patOKW pat = true ∧ slashOK pat ms = true := by
  obtain ⟨c, rest, rfl, hc1, hc2, hd, hb⟩ := patOK_cons h
  refine ⟨?_, ?_⟩
  · simp [patOKW, hc1, hd, hb]
  · show (!(hasPrefix (c :: _) (ch '/' :: []) && _)) = true
    rw [hasPrefix_cons_ne c _ _ _ hc2]; rfl

theorem parseRuleText_render {wl : Bool} {pat : Bytes} {ms : List Mod}
    (hp : patOK pat = true) (hm : ∀ m ∈ ms, m.valsOK = true) :
    parseRuleText (render wl pat ms) = .ok (pat, optsText ms, wl) := by
  rw [← renderW_base, ← optsTextW_base]
  obtain ⟨hpW, hs⟩ := patOKW_of_patOK hp (ms.map .base)
  exact parseRuleText_renderW hpW hs (fun m hm' => by obtain ⟨m', h', rfl⟩ := List.mem_map.1 hm'; exact hm m' h')

end UF.L
