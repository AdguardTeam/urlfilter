import UF.Spec.Result
import UF.Proofs.Badfilter
import UF.Compose2.ParsePattern
/-
  C08: a rule and its `$badfilter` twin match the same requests.  `matchFields` (what
  `negatesBadfilter` compares) drops the shortcut, which `matches` reads; but `matches` reads a rule
  only through its matching fields and its shortcut, never the `$badfilter` bit, and the shortcut of a
  parsed rule is a function of its stored pattern.
-/
namespace UF.L
open UF UF.E

/-- `Match` reads a rule only through the matching-relevant fields and the shortcut (never the text, never
    the list id). -/
theorem matchFields_matches (ext : Ext) (x y : NetRule) (q : Request)
    (h : x.matchFields = y.matchFields) (hs : x.shortcut = y.shortcut) : x.matches ext q = y.matches ext q := by
  cases x; cases y
  simp only [NetRule.matchFields, NetRule.mk.injEq, true_and] at h
  simp only at hs
  obtain ⟨h1, h2, h3, h4, h5, h6, h7, h8, h9, h10, h11, h12, h13, h14, h15, h16⟩ := h
  subst h1 h2 h3 h4 h5 h6 h7 h8 h9 h10 h11 h12 h13 h14 h15 h16 hs
  rfl

/-- Setting bit 3 (`$badfilter`) changes no other bit; used for bits 0 (`third-party`) and 1 (`match-case`). -/
theorem isEnabled_withBadfilter (x : NetRule) (k : Nat) (hk : k ≠ 3) :
    x.withBadfilter.isEnabled (2 ^ k) = x.isEnabled (2 ^ k) := by
  show ((x.enabled ||| 2 ^ 3) &&& 2 ^ k == 2 ^ k) = (x.enabled &&& 2 ^ k == 2 ^ k)
  rw [and_two_pow_beq, and_two_pow_beq, Nat.testBit_or, Nat.testBit_two_pow]
  have : decide (3 = k) = false := by simp; omega
  rw [this, Bool.or_false]

/-- None of the ten checks of `Match` reads the `$badfilter` bit. -/
theorem withBadfilter_matches (ext : Ext) (x : NetRule) (q : Request) :
    x.withBadfilter.matches ext q = x.matches ext q := by
  have h0 : x.withBadfilter.isEnabled Facts.OptionThirdParty = x.isEnabled Facts.OptionThirdParty :=
    isEnabled_withBadfilter x 0 (by omega)
  have h1 : x.withBadfilter.isEnabled Facts.OptionMatchCase = x.isEnabled Facts.OptionMatchCase :=
    isEnabled_withBadfilter x 1 (by omega)
  unfold NetRule.matches matchPattern
  rw [h0, h1]
  rfl

/-- A rule `xb` that carries the matching fields of `x$badfilter` and the shortcut of `x` matches exactly
    the requests `x` matches. -/
theorem twin_matches (ext : Ext) (x xb : NetRule) (q : Request)
    (hxb : xb.matchFields = x.withBadfilter.matchFields) (hs : xb.shortcut = x.shortcut) :
    xb.matches ext q = x.matches ext q := by
  rw [matchFields_matches ext xb x.withBadfilter q hxb hs, withBadfilter_matches]

/-- The shortcut of a parsed rule is a function of its stored pattern. -/
theorem shortcutOK_same_pattern {px : ParseExt} {r r' : NetRule} (h : I2.ShortcutOK px r)
    (h' : I2.ShortcutOK px r') (hp : r.pattern = r'.pattern) : r.shortcut = r'.shortcut := by
  unfold I2.ShortcutOK at h h'
  rw [hp] at h
  rcases h with ⟨hre, hs⟩ | ⟨hre, w, hw, hs⟩ <;> rcases h' with ⟨hre', hs'⟩ | ⟨hre', w', hw', hs'⟩
  · rw [hs, hs']
  · rw [hre] at hre'; cases hre'
  · rw [hre] at hre'; cases hre'
  · rw [hw] at hw'; cases hw'; rw [hs, hs']

/-- Two rules parsed (by the same parser, from any two texts, under any two list ids) to the same stored
    pattern carry the same shortcut. -/
theorem parsed_same_pattern_same_shortcut {px : ParseExt} {t t' : Bytes} {i j : Int} {r r' : NetRule}
    (h : parseNetRule px t i = .ok r) (h' : parseNetRule px t' j = .ok r') (hp : r.pattern = r'.pattern) :
    r.shortcut = r'.shortcut := by
  obtain ⟨_, _, _, _, _, _, hs⟩ := I2.parseNetRule_pattern h
  obtain ⟨_, _, _, _, _, _, hs'⟩ := I2.parseNetRule_pattern h'
  exact shortcutOK_same_pattern hs hs' hp

/-- Parsed twins: the same matching fields up to the `$badfilter` bit ⇒ the same pattern ⇒ the same shortcut
    ⇒ the same requests. -/
theorem parsed_twin_matches {px : ParseExt} {tx tb : Bytes} {i j : Int} {x xb : NetRule}
    (hx : parseNetRule px tx i = .ok x) (hb : parseNetRule px tb j = .ok xb)
    (hxb : xb.matchFields = x.withBadfilter.matchFields) (q : Request) :
    xb.matches px.ext q = x.matches px.ext q := by
  have hp : xb.pattern = x.pattern := ((matchFields_eq_iff _ _).1 hxb).2.1
  exact twin_matches px.ext x xb q hxb (parsed_same_pattern_same_shortcut hb hx hp)

end UF.L
