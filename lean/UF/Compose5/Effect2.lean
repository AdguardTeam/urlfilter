import UF.Compose5.Effect
import UF.Compose5.GrammarW
/-
  `$client` (bare values and quoted names), `$document`, `~extension`, and the step lemma for every modifier of the
  grammar: on the spelling of a well-formed modifier the option loop, if it succeeds, performs the record update
  `applyMod` (`applyModW` for the wider grammar).
-/
namespace UF.L
open UF UF.E Bytes UF.Compose3

/-- The closed form of one step of the option loop on a well-formed wide modifier. -/
def applyModW (ext : Ext) (r : NetRule) : ModW → NetRule
  | .base m => applyMod ext r m
  | .clientQ vs => applyMod ext r (.client (vs.map (fun v => (v.1, v.2.value))))
  | .notExtension => { r with enabled := r.enabled ^^^ Facts.OptionExtension }

/-! ### `$client`: bare values -/

theorem replaceAll_go_noop (c : UInt8) (rest new : Bytes) (s : Bytes) (h : c ∉ s) :
    replaceAll.go (c :: rest) new s 0 = s := by
  induction s with
  | nil => rfl
  | cons a t ih =>
    have ha : a ≠ c := fun e => h (e ▸ List.mem_cons_self)
    simp only [replaceAll.go, hasPrefix_cons_ne a t c rest ha, Bool.false_eq_true, if_false]
    rw [ih (fun h' => h (List.mem_cons_of_mem _ h'))]

theorem replaceAll_noop (c : UInt8) (rest new : Bytes) (s : Bytes) (h : c ∉ s) :
    replaceAll s (c :: rest) new = s := by
  unfold replaceAll
  simp only [List.isEmpty_cons, Bool.false_eq_true, if_false]
  exact replaceAll_go_noop c rest new s h

theorem loadClientsStep_clean (ext : Ext) (acc : Option Clients × Option Clients) (v : Bool × Bytes)
    (hv : cleanVal v.2 = true) :
    loadClientsStep ext acc (renderVal v) =
      .ok (if v.1 then (acc.1, addClient ext acc.2 v.2) else (addClient ext acc.1 v.2, acc.2)) := by
  obtain ⟨neg, d⟩ := v
  have hbs : ch '\\' ∉ d := clean_notMem hv (by decide)
  have hr : replaceAll d (lit "\\,") (lit ",") = d := replaceAll_noop (ch '\\') [ch ','] (lit ",") d hbs
  have h0 : ¬ ((0 : UInt8) > 0) := by decide
  have he : d.isEmpty = false := isEmpty_false (cleanVal_ne_nil hv)
  have hpre := hasPrefix_tilde_clean hv
  obtain ⟨c, t, rfl, hc⟩ := cleanVal_cons hv
  have h1 : (c == ch '\'') = false := beq_false_of_ne (cleanByte_ne hc).2.2.2.2.2.1
  have h2 : (c == ch '"') = false := beq_false_of_ne (cleanByte_ne hc).2.2.2.2.2.2
  have hi0 : idxC (c :: t) 0 = .ok c := rfl
  have hlast := idxC_ok' (s := c :: t) (i := (c :: t).length - 1) (by simp)
  unfold loadClientsStep renderVal
  refine (tildeSplit neg (c :: t) hpre _).trans ?_
  by_cases hl : (c :: t).length ≥ 2
  · simp only [hl, if_true, hi0, hlast, bind, Except.bind, pure, Except.pure, h1, h2, Bool.or_self,
      Bool.false_and, Bool.false_eq_true, if_false, h0, hr, he]
    cases neg <;> rfl
  · simp only [hl, bind, Except.bind, pure, Except.pure, Bool.false_eq_true, if_false, h0, hr, he]
    cases neg <;> rfl

/-! ### `$client`: quoted names -/

theorem nameByte_ne {c : UInt8} (h : nameByte c = true) :
    c ≠ ch ',' ∧ c ≠ ch '\\' ∧ c ≠ ch '$' ∧ c ≠ ch '|' := by
  unfold nameByte at h
  simp only [Bool.and_eq_true, bne_iff_ne, ne_eq] at h
  exact ⟨h.1.1.1, h.1.1.2, h.1.2, h.2⟩

theorem name_notMem {n : Bytes} (h : n.all nameByte = true) {c : UInt8} (hc : nameByte c = false) : c ∉ n := by
  intro hm
  rw [List.all_eq_true.1 h c hm] at hc
  cases hc

theorem mem_escQuote {q c : UInt8} {n : Bytes} (h : c ∈ escQuote q n) : c = ch '\\' ∨ c ∈ n := by
  induction n with
  | nil => simp [escQuote] at h
  | cons a t ih =>
    unfold escQuote at h
    split at h <;> simp only [List.mem_cons] at h ⊢
    · rcases h with h | h | h
      · exact .inl h
      · exact .inr (.inl h)
      · exact (ih h).imp_right .inr
    · rcases h with h | h
      · exact .inr (.inl h)
      · exact (ih h).imp_right .inr

/-- Inside an escaped name every backslash is followed by the quote character. -/
theorem escOK_escQuote (sep q : UInt8) (hq1 : q ≠ sep) (hq2 : q ≠ ch '\\') (n rest : Bytes) (hn : ch '\\' ∉ n) :
    escOK sep (ch '\\') (escQuote q n ++ rest) = escOK sep (ch '\\') rest := by
  induction n with
  | nil => rfl
  | cons c t ih =>
    have hc : c ≠ ch '\\' := fun e => hn (e ▸ List.mem_cons_self)
    have ht : ch '\\' ∉ t := fun h => hn (List.mem_cons_of_mem _ h)
    unfold escQuote
    split
    · rename_i hcq
      have : c = q := eq_of_beq hcq
      subst this
      show escOK sep (ch '\\') (ch '\\' :: c :: (escQuote c t ++ rest)) = _
      have h1 : (c != sep) = true := bne_iff_ne.2 hq1
      have h2 : (c != ch '\\') = true := bne_iff_ne.2 hq2
      simp only [escOK, beq_self_eq_true, if_true, h1, h2, Bool.true_and]
      exact ih ht
    · show escOK sep (ch '\\') (c :: (escQuote q t ++ rest)) = _
      rw [escOK_cons_ne _ hc]
      exact ih ht

theorem hasPrefix_cons_cons (a b : UInt8) (s p : Bytes) : hasPrefix (a :: s) (b :: p) = (a == b && hasPrefix s p) := rfl

/-- `strings.ReplaceAll(name, "\\,", ",")` does nothing to an escaped name. -/
theorem replace_comma_escQuote (q : UInt8) (hq1 : q ≠ ch ',') (hq2 : q ≠ ch '\\') (n : Bytes) (hn : ch '\\' ∉ n) :
    replaceAll (escQuote q n) (lit "\\,") (lit ",") = escQuote q n := by
  show replaceAll.go [ch '\\', ch ','] [ch ','] (escQuote q n) 0 = escQuote q n
  induction n with
  | nil => rfl
  | cons c t ih =>
    have hc : c ≠ ch '\\' := fun e => hn (e ▸ List.mem_cons_self)
    have ht : ch '\\' ∉ t := fun h => hn (List.mem_cons_of_mem _ h)
    unfold escQuote
    split
    · rename_i hcq
      have : c = q := eq_of_beq hcq
      subst this
      simp only [replaceAll.go, hasPrefix_cons_cons, beq_self_eq_true, Bool.true_and, beq_false_of_ne hq1,
        beq_false_of_ne hq2, Bool.false_and, Bool.false_eq_true, if_false]
      rw [ih ht]
    · simp only [replaceAll.go, hasPrefix_cons_cons, beq_false_of_ne hc, Bool.false_and, Bool.false_eq_true, if_false]
      rw [ih ht]

/-- `strings.ReplaceAll(name, "\\" + quote, quote)` gives the name back. -/
theorem replace_quote_escQuote (q : UInt8) (n : Bytes) (hn : ch '\\' ∉ n) :
    replaceAll (escQuote q n) [ch '\\', q] [q] = n := by
  show replaceAll.go [ch '\\', q] [q] (escQuote q n) 0 = n
  induction n with
  | nil => rfl
  | cons c t ih =>
    have hc : c ≠ ch '\\' := fun e => hn (e ▸ List.mem_cons_self)
    have ht : ch '\\' ∉ t := fun h => hn (List.mem_cons_of_mem _ h)
    unfold escQuote
    split
    · rename_i hcq
      have : c = q := eq_of_beq hcq
      subst this
      have hp : hasPrefix (ch '\\' :: c :: escQuote c t) [ch '\\', c] = true := by
        simp [hasPrefix]
      simp only [replaceAll.go, hp, if_true, List.length_cons, List.length_nil, List.singleton_append]
      rw [ih ht]
    · simp only [replaceAll.go, hasPrefix_cons_cons, beq_false_of_ne hc, Bool.false_and, Bool.false_eq_true, if_false]
      rw [ih ht]

/-- One `$client` value of the wider grammar: the step of `loadClients` adds what the value DENOTES. -/
theorem loadClientsStep_cval (ext : Ext) (acc : Option Clients × Option Clients) (v : Bool × CVal)
    (hv : v.2.ok = true) :
    loadClientsStep ext acc (renderCV v) =
      .ok (if v.1 then (acc.1, addClient ext acc.2 v.2.value) else (addClient ext acc.1 v.2.value, acc.2)) := by
  obtain ⟨neg, cv⟩ := v
  cases cv with
  | plain d => exact loadClientsStep_clean ext acc (neg, d) hv
  | quoted dq n =>
    simp only [CVal.ok, Bool.and_eq_true, Bool.not_eq_true', List.isEmpty_eq_false_iff] at hv
    obtain ⟨hne, hall⟩ := hv
    have hbs : ch '\\' ∉ n := name_notMem hall (by decide)
    have hq : quoteCh dq ≠ ch ',' ∧ quoteCh dq ≠ ch '\\' ∧ quoteCh dq ≠ ch '~' ∧ quoteCh dq > 0 := by
      cases dq <;> decide
    generalize hqd : quoteCh dq = q at hq
    have hq' : q = ch '\'' ∨ q = ch '"' := by rw [← hqd]; cases dq <;> simp [quoteCh]
    obtain ⟨hq1, hq2, hq3, hq4⟩ := hq
    have hr1 := replace_comma_escQuote q hq1 hq2 n hbs
    have hr2 := replace_quote_escQuote q n hbs
    have he : n.isEmpty = false := isEmpty_false hne
    have hpre : hasPrefix (q :: (escQuote q n ++ [q])) (lit "~") = false :=
      hasPrefix_cons_ne q _ (ch '~') [] hq3
    have hlen : (q :: (escQuote q n ++ [q])).length ≥ 2 := by simp
    have hi0 : idxC (q :: (escQuote q n ++ [q])) 0 = .ok q := rfl
    have hlast : idxC (q :: (escQuote q n ++ [q])) ((q :: (escQuote q n ++ [q])).length - 1) = .ok q := by
      rw [idxC_ok' (by simp)]
      congr 1
      simp
    have hqq : (q == ch '\'' || q == ch '"') = true := by
      rcases hq' with e | e <;> subst e <;> decide
    have hsl : sliceC (q :: (escQuote q n ++ [q])) 1 ((q :: (escQuote q n ++ [q])).length - 1) = .ok (escQuote q n) := by
      rw [sliceC_ok (by simp)]
      simp
    show loadClientsStep ext acc (if neg then ch '~' :: quoteCh dq :: (escQuote (quoteCh dq) n ++ [quoteCh dq])
      else quoteCh dq :: (escQuote (quoteCh dq) n ++ [quoteCh dq])) = _
    rw [hqd]
    unfold loadClientsStep
    refine (tildeSplit neg _ hpre _).trans ?_
    simp only [hlen, if_true, hi0, hlast, bind, Except.bind, pure, Except.pure, hqq, beq_self_eq_true,
      Bool.and_self, Bool.false_eq_true, if_false, hq4, hsl, hr1, hr2, he]
    cases neg <;> rfl

theorem posVals_map {α β} (f : α → β) (vs : List (Bool × α)) :
    posVals (vs.map (fun v => (v.1, f v.2))) = (posVals vs).map f := by
  induction vs with
  | nil => rfl
  | cons v vs ih =>
    obtain ⟨neg, a⟩ := v
    cases neg <;> simp_all [posVals]

theorem negVals_map {α β} (f : α → β) (vs : List (Bool × α)) :
    negVals (vs.map (fun v => (v.1, f v.2))) = (negVals vs).map f := by
  induction vs with
  | nil => rfl
  | cons v vs ih =>
    obtain ⟨neg, a⟩ := v
    cases neg <;> simp_all [negVals]

theorem foldlM_clientsW (ext : Ext) :
    ∀ (vs : List (Bool × CVal)) (acc acc' : Option Clients × Option Clients),
      (∀ v ∈ vs, v.2.ok = true) →
      (vs.map renderCV).foldlM (loadClientsStep ext) acc = .ok acc' →
      acc' = (((posVals vs).map CVal.value).foldl (addClient ext) acc.1,
              ((negVals vs).map CVal.value).foldl (addClient ext) acc.2) := by
  intro vs
  induction vs with
  | nil =>
    intro acc acc' _ h
    simp only [List.map_nil, List.foldlM, pure, Except.pure] at h
    cases h
    rfl
  | cons v vs ih =>
    intro acc acc' hok h
    simp only [List.map_cons, List.foldlM] at h
    rw [loadClientsStep_cval ext acc v (hok v List.mem_cons_self)] at h
    have := ih _ acc' (fun x hx => hok x (List.mem_cons_of_mem _ hx)) h
    rw [this]
    obtain ⟨neg, d⟩ := v
    cases neg <;> simp [posVals, negVals]

/-! ### the rendered values: non-empty, no `|`, harmless backslashes -/

theorem renderCVal_ne_nil (cv : CVal) (h : cv.ok = true) : renderCVal cv ≠ [] := by
  cases cv with
  | plain v => exact cleanVal_ne_nil h
  | quoted dq n => simp [renderCVal]

theorem renderCV_ne_nil (v : Bool × CVal) (h : v.2.ok = true) : renderCV v ≠ [] := by
  obtain ⟨neg, cv⟩ := v
  cases neg
  · exact renderCVal_ne_nil cv h
  · simp [renderCV]

theorem mem_renderCVal {c : UInt8} {cv : CVal} (h : c ∈ renderCVal cv) :
    (∃ v, cv = .plain v ∧ c ∈ v) ∨ (∃ dq n, cv = .quoted dq n ∧ (c = quoteCh dq ∨ c = ch '\\' ∨ c ∈ n)) := by
  cases cv with
  | plain v => exact .inl ⟨v, rfl, h⟩
  | quoted dq n =>
    refine .inr ⟨dq, n, rfl, ?_⟩
    simp only [renderCVal, List.mem_cons, List.mem_append, List.mem_nil_iff, or_false] at h
    rcases h with h | h | h
    · exact .inl h
    · exact .inr (mem_escQuote h)
    · exact .inl h

/-- A byte that is not `~`, not a quote, not a backslash and not allowed in values does not occur in a rendering. -/
theorem renderCV_notMem (v : Bool × CVal) (hv : v.2.ok = true) (c : UInt8) (hc1 : cleanByte c = false)
    (hc2 : nameByte c = false) (hc3 : c ≠ ch '~') (hc4 : c ≠ ch '\'') (hc5 : c ≠ ch '"') (hc6 : c ≠ ch '\\') :
    c ∉ renderCV v := by
  obtain ⟨neg, cv⟩ := v
  have hcv : c ∉ renderCVal cv := by
    intro hm
    rcases mem_renderCVal hm with ⟨d, rfl, hd⟩ | ⟨dq, n, rfl, hd⟩
    · exact clean_notMem hv hc1 hd
    · simp only [CVal.ok, Bool.and_eq_true] at hv
      rcases hd with e | e | e
      · cases dq
        · exact hc4 e
        · exact hc5 e
      · exact hc6 e
      · exact name_notMem hv.2 hc2 e
  cases neg
  · exact hcv
  · intro hm
    simp only [renderCV, if_true, List.mem_cons] at hm
    rcases hm with e | e
    · exact hc3 e
    · exact hcv e

theorem escOK_renderCVal (sep : UInt8) (hs1 : sep ≠ ch '\'') (hs2 : sep ≠ ch '"') (cv : CVal) (h : cv.ok = true) :
    escOK sep (ch '\\') (renderCVal cv) = true := by
  cases cv with
  | plain v => exact escOK_of_notMem _ _ _ (clean_notMem h (by decide))
  | quoted dq n =>
    simp only [CVal.ok, Bool.and_eq_true] at h
    have hbs : ch '\\' ∉ n := name_notMem h.2 (by decide)
    have hq1 : quoteCh dq ≠ sep := by
      cases dq
      · exact fun e => hs1 e.symm
      · exact fun e => hs2 e.symm
    have hq2 : quoteCh dq ≠ ch '\\' := by cases dq <;> decide
    show escOK sep (ch '\\') (quoteCh dq :: (escQuote (quoteCh dq) n ++ [quoteCh dq])) = true
    rw [escOK_cons_ne _ hq2, escOK_escQuote sep _ hq1 hq2 n _ hbs,
      escOK_cons_ne _ hq2]
    rfl

theorem escOK_renderCV (sep : UInt8) (hs1 : sep ≠ ch '\'') (hs2 : sep ≠ ch '"') (v : Bool × CVal)
    (h : v.2.ok = true) : escOK sep (ch '\\') (renderCV v) = true := by
  obtain ⟨neg, cv⟩ := v
  cases neg
  · exact escOK_renderCVal sep hs1 hs2 cv h
  · show escOK sep (ch '\\') (ch '~' :: renderCVal cv) = true
    rw [escOK_cons_ne _ (by decide)]
    exact escOK_renderCVal sep hs1 hs2 cv h

/-! ### the `$client` modifier -/

theorem effect_clientQ {px : ParseExt} {r r' : NetRule} {vs : List (Bool × CVal)}
    (hok : (ModW.clientQ vs).valsOK = true) (h : loadOptionsStep px r (renderModW (.clientQ vs)) = .ok r') :
    r' = applyModW px.ext r (.clientQ vs) := by
  simp only [ModW.valsOK, Bool.and_eq_true, List.all_eq_true, Bool.not_eq_true', List.isEmpty_eq_false_iff] at hok
  show r' = { r with permClients := clientsOf px.ext (posVals (vs.map (fun v => (v.1, v.2.value)))),
                     restrClients := clientsOf px.ext (negVals (vs.map (fun v => (v.1, v.2.value)))) }
  rw [show renderModW (.clientQ vs) = lit "client" ++ ch '=' :: joinVals (vs.map renderCV) from rfl,
    loadOptionsStep_nv px r _ _ (by decide) (by decide), loadOption_client] at h
  obtain ⟨⟨p, rs⟩, hl, h⟩ := bind_ok_elim h
  cases pure_ok_elim h
  unfold loadClients at hl
  have hne : ∀ x ∈ vs.map renderCV, x ≠ [] :=
    List.forall_mem_map.2 fun v hv => renderCV_ne_nil v (hok.2 v hv)
  have hj : (joinVals (vs.map renderCV)).isEmpty = false :=
    isEmpty_false (joinVals_ne_nil (map_ne_nil _ hok.1) hne)
  rw [hj] at hl
  simp only [Bool.false_eq_true, if_false] at hl
  unfold joinVals at hl
  obtain ⟨list, hsp, hl⟩ := bind_ok_elim hl
  have hsf : sepFree (ch '|') (vs.map renderCV) :=
    List.forall_mem_map.2 fun v hv =>
      renderCV_notMem v (hok.2 v hv) (ch '|') (by decide) (by decide) (by decide) (by decide) (by decide)
      (by decide)
  have hes : ∀ x ∈ vs.map renderCV, escOK (ch '|') (ch '\\') x = true :=
    List.forall_mem_map.2 fun v hv => escOK_renderCV (ch '|') (by decide) (by decide) v (hok.2 v hv)
  rw [split_join_safe (ch '|') (ch '\\') (by decide) _ (map_ne_nil _ hok.1) hne hsf hes] at hsp
  cases hsp
  obtain ⟨⟨p0, r0⟩, hf, hl⟩ := bind_ok_elim hl
  have hfc := foldlM_clientsW px.ext vs (none, none) (p0, r0) hok.2 hf
  cases pure_ok_elim hl
  cases hfc
  rw [posVals_map, negVals_map]
  rfl

/-- `$client` with bare values only is the case where every value is `CVal.plain`. -/
theorem effect_client {px : ParseExt} {r r' : NetRule} {vs : List (Bool × Bytes)}
    (hok : (Mod.client vs).valsOK = true) (h : loadOptionsStep px r (renderMod (.client vs)) = .ok r') :
    r' = applyMod px.ext r (.client vs) := by
  have hr : renderModW (.clientQ (vs.map (fun v => (v.1, CVal.plain v.2)))) = renderMod (.client vs) := by
    show _ ++ _ :: joinVals ((vs.map _).map renderCV) = _
    rw [List.map_map]
    rfl
  have hv : (vs.map (fun v => (v.1, CVal.plain v.2))).map (fun v => (v.1, v.2.value)) = vs := by
    rw [List.map_map]
    exact List.map_id _
  have := effect_clientQ (vs := vs.map (fun v => (v.1, CVal.plain v.2)))
    (by simpa [ModW.valsOK, Mod.valsOK, CVal.ok, List.all_map] using hok) (hr ▸ h)
  rw [applyModW, hv] at this
  exact this

/-! ### `$document` -/

theorem effect_document {px : ParseExt} {r r' : NetRule}
    (h : loadOptionsStep px r (renderMod .document) = .ok r') : r' = applyMod px.ext r .document := by
  show r' = { r with enabled := r.enabled ||| docBits }
  rw [show renderMod .document = lit "document" from rfl, loadOptionsStep_n px r _ (by decide),
    loadOption_document] at h
  obtain ⟨r1, h1, h⟩ := bind_ok_elim h
  cases pure_ok_elim h
  -- the first call succeeds only on an exception rule
  have hw : r.whitelist = true := by
    unfold setOptionEnabled at h1
    cases hwl : r.whitelist with
    | true => rfl
    | false =>
      rw [hwl] at h1
      simp only [Bool.false_and, Bool.false_eq_true, if_false, Bool.not_false, Bool.true_and] at h1
      have : ((Facts.OptionElemhide &&& Facts.OptionWhitelistOnly) == Facts.OptionElemhide) = true := by decide
      rw [this] at h1
      simp only [if_true] at h1
      cases h1
  cases setOptionEnabled_on h1
  rw [document_wl { r with enabled := r.enabled ||| Facts.OptionElemhide } hw]
  show ({ r with enabled := r.enabled ||| Facts.OptionElemhide ||| Facts.OptionJsinject ||| Facts.OptionUrlblock |||
      Facts.OptionContent ||| Facts.OptionExtension } : NetRule) = _
  simp only [docBits, Nat.or_assoc]

/-! ### every modifier -/

/-- THE STEP LEMMA: on the spelling of a well-formed modifier the option loop, if it succeeds, performs
    exactly the record update `applyMod`. -/
theorem step_effect {px : ParseExt} {r r' : NetRule} {m : Mod} (hok : m.valsOK = true)
    (h : loadOptionsStep px r (renderMod m) = .ok r') : r' = applyMod px.ext r m := by
  cases m with
  | opt o =>
    rw [show renderMod (.opt o) = o.name from rfl, loadOptionsStep_n px r _ (names_noeq.1 o o.mem_all),
      loadOption_opt] at h
    exact setOptionEnabled_on h
  | thirdParty alt =>
    rw [loadOptionsStep_n px r _ (names_noeq.2.2.1 alt), loadOption_eq, optionKind_bare.2.2.1 alt] at h
    exact setOptionEnabled_on h
  | firstParty alt =>
    rw [loadOptionsStep_n px r _ (names_noeq.2.2.2 alt), loadOption_eq, optionKind_bare.2.2.2.1 alt] at h
    exact setOptionEnabled_off h
  | notMatchCase =>
    rw [show renderMod .notMatchCase = lit "~match-case" from rfl, loadOptionsStep_n px r _ (by decide),
      loadOption_eq, optionKind_bare.2.2.2.2.1] at h
    exact setOptionEnabled_off h
  | document => exact effect_document h
  | ctype neg c =>
    have hne := names_noeq.2.1 c c.mem_all
    cases neg with
    | false =>
      rw [show renderMod (.ctype false c) = c.name from rfl,
        loadOptionsStep_n px r _ (fun e => hne (List.mem_cons_of_mem _ e)), loadOption_eq,
        (optionKind_bare.2.1 c c.mem_all).1] at h
      cases pure_ok_elim h
      rfl
    | true =>
      rw [show renderMod (.ctype true c) = ch '~' :: c.name from rfl, loadOptionsStep_n px r _ hne, loadOption_eq,
        (optionKind_bare.2.1 c c.mem_all).2] at h
      cases pure_ok_elim h
      rfl
  | domain vs => exact effect_domain hok h
  | denyallow vs => exact effect_denyallow hok h
  | dnstype vs => exact effect_dnstype hok h
  | ctag vs => exact effect_ctag hok h
  | client vs => exact effect_client hok h

theorem step_effectW {px : ParseExt} {r r' : NetRule} {m : ModW} (hok : m.valsOK = true)
    (h : loadOptionsStep px r (renderModW m) = .ok r') : r' = applyModW px.ext r m := by
  cases m with
  | base m => exact step_effect hok h
  | clientQ vs => exact effect_clientQ hok h
  | notExtension =>
    rw [show renderModW .notExtension = lit "~extension" from rfl, loadOptionsStep_n px r _ (by decide),
      loadOption_eq, optionKind_bare.2.2.2.2.2] at h
    cases pure_ok_elim h
    rfl

theorem foldlM_effectW {px : ParseExt} :
    ∀ (ms : List ModW) (r r' : NetRule), (∀ m ∈ ms, m.valsOK = true) →
      (ms.map renderModW).foldlM (loadOptionsStep px) r = .ok r' → r' = ms.foldl (applyModW px.ext) r := by
  intro ms
  induction ms with
  | nil =>
    intro r r' _ h
    cases pure_ok_elim h; rfl
  | cons m ms ih =>
    intro r r' hok h
    obtain ⟨r1, h1, h2⟩ := bind_ok_elim h
    cases step_effectW (hok m List.mem_cons_self) h1
    exact ih _ r' (fun x hx => hok x (List.mem_cons_of_mem _ hx)) h2

end UF.L
