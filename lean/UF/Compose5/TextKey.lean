import UF.Compose5.GrammarX
/-
  The priority key of a rule text, computed from the modifiers as written.  `IsHigherPriority` reads a rule only
  through `pkey` (UF/Spec/Priority.lean).  For a parsed rendered text every field `pkey` reads is determined by a
  small state `PState` that the option loop updates modifier by modifier (`stepP`: no oracle, no parser), followed
  by the document-only override: `pkey (NewNetworkRule (renderX wl pat xs)) = textKey wl xs` (`pkey_parseX`).
-/
namespace UF.L
open UF UF.E Bytes UF.Compose3

/-- What the priority order reads of the state of the option loop. -/
structure PState where
  enabled : Nat := 0
  disabled : Nat := 0
  permTypes : Nat := 0
  restrTypes : Nat := 0
  /-- some permitted `$domain` value is stored (the rule is not generic) -/
  specific : Bool := false
  /-- `$domain` / `$dnstype` / `$ctag` / `$client` / `$denyallow` is counted -/
  dom : Bool := false
  dns : Bool := false
  tag : Bool := false
  cli : Bool := false
  deny : Bool := false
  deriving DecidableEq, Repr, Inhabited

def pstate (r : NetRule) : PState where
  enabled := r.enabled
  disabled := r.disabled
  permTypes := r.permTypes
  restrTypes := r.restrTypes
  specific := !r.permDomains.isEmpty
  dom := r.permDomains.length != 0 || r.restrDomains.length != 0
  dns := r.permDns.length != 0 || r.restrDns.length != 0
  tag := r.permTags.length != 0 || r.restrTags.length != 0
  cli := Clients.len r.permClients != 0 || Clients.len r.restrClients != 0
  deny := r.denyallow.length != 0

/-- One modifier, on the state. -/
def stepP (s : PState) (x : XMod) : PState :=
  match x with
  | .notExtension => { s with enabled := s.enabled ^^^ Facts.OptionExtension }
  | .base (.opt o) => { s with enabled := s.enabled ||| o.bit }
  | .base (.thirdParty _) => { s with enabled := s.enabled ||| Facts.OptionThirdParty }
  | .base (.firstParty _) => { s with disabled := s.disabled ||| Facts.OptionThirdParty }
  | .base .notMatchCase => { s with disabled := s.disabled ||| Facts.OptionMatchCase }
  | .base .document => { s with enabled := s.enabled ||| docBits }
  | .base (.ctype false c) => { s with permTypes := s.permTypes ||| c.bit }
  | .base (.ctype true c) => { s with restrTypes := s.restrTypes ||| c.bit }
  | .base (.domain vs) =>
    { s with specific := !(posVals vs).isEmpty, dom := (posVals vs).length != 0 || (negVals vs).length != 0 }
  | .base (.denyallow vs) => { s with deny := vs.length != 0 }
  | .base (.dnstype vs) =>
    { s with dns := ((posVals vs).filterMap dnsTypeNumber).length != 0 ||
                    ((negVals vs).filterMap dnsTypeNumber).length != 0 }
  | .base (.ctag vs) => { s with tag := (posVals vs).length != 0 || (negVals vs).length != 0 }
  | .base (.client vs) => { s with cli := (posVals vs).length != 0 || (negVals vs).length != 0 }

theorem sortB_length (l : List Bytes) : (sortB l).length = l.length := (E.sortB_perm l).length_eq

theorem pstate_applyX (ext : Ext) (r : NetRule) (x : XMod) : pstate (applyX ext r x) = stepP (pstate r) x := by
  cases x with
  | notExtension => rfl
  | base m =>
    cases m with
    | ctype neg c => cases neg <;> rfl
    | ctag vs =>
      show pstate { r with permTags := sortB (posVals vs), restrTags := sortB (negVals vs) } = _
      unfold pstate stepP
      simp only [sortB_length]
    | client vs =>
      show pstate { r with permClients := clientsOf ext (posVals vs), restrClients := clientsOf ext (negVals vs) } = _
      unfold pstate stepP
      simp only [clientsOf_len]
    | _ => rfl

theorem pstate_foldl (ext : Ext) (xs : List XMod) (r : NetRule) :
    pstate (xs.foldl (applyX ext) r) = xs.foldl stepP (pstate r) := by
  induction xs generalizing r with
  | nil => rfl
  | cons x xs ih => rw [List.foldl_cons, List.foldl_cons, ih, pstate_applyX]

/-- The permitted content types the order counts: `document` alone once a document-only option is on. -/
def PState.effTypes (s : PState) : Nat := if docOnlyB s.enabled then Facts.TypeDocument else s.permTypes

/-- The number of modifiers `IsHigherPriority` counts, from the state. -/
def PState.count (s : PState) : Nat :=
  popCount s.enabled + popCount s.disabled + popCount s.effTypes + popCount s.restrTypes
  + (if s.dom then 1 else 0) + (if s.dns then 1 else 0) + (if s.tag then 1 else 0)
  + (if s.cli then 1 else 0) + (if s.deny then 1 else 0)

/-- The key of a rule with exception flag `wl` whose option loop ended in state `s`. -/
def keyP (wl : Bool) (s : PState) : PKey :=
  let important := (s.enabled &&& Facts.OptionImportant) == Facts.OptionImportant
  { cls := if wl && important then 3 else if important then 2 else if wl then 1 else 0,
    redirect := if (s.enabled &&& Facts.OptionRedirect) == Facts.OptionRedirect then 1 else 0,
    specific := if s.specific then 1 else 0,
    count := s.count }

theorem pkey_overrideDoc (R : NetRule) : pkey (overrideDoc R) = keyP R.whitelist (pstate R) := by
  rw [overrideDoc_eq]
  unfold pkey keyP classRank modifierCount PState.count PState.effTypes pstate NetRule.redirect NetRule.important
    NetRule.isEnabled NetRule.isGeneric
  simp only
  cases R.permDomains.isEmpty <;> rfl

/-- THE KEY OF A RULE TEXT: exception flag and modifiers as written. -/
def textKey (wl : Bool) (xs : List XMod) : PKey := keyP wl (xs.foldl stepP {})

theorem pkey_modFields (r : NetRule) : pkey r = pkey (modFields r) := rfl

/-- The key of the rule `NewNetworkRule` builds from a rendered text is the key of the text. -/
theorem pkey_parseX {px : ParseExt} {wl : Bool} {pat : Bytes} {xs : List XMod} {id : Int} {r : NetRule}
    (hp : patOK pat = true) (hm : ∀ x ∈ xs, x.valsOK = true)
    (h : parseNetRule px (renderX wl pat xs) id = .ok r) : pkey r = textKey wl xs := by
  rw [pkey_modFields, parseX_modFields hp hm h, pkey_overrideDoc, loopRec_whitelist]
  unfold loopRec textKey
  rw [pstate_foldl]
  rfl

/-! ### states that differ in `specific` only -/

def XMod.isDomain : XMod → Bool
  | .base (.domain _) => true
  | _ => false

theorem stepP_specific_dom (s : PState) (b : Bool) (x : XMod) (hx : x.isDomain = true) :
    stepP { s with specific := b } x = stepP s x := by
  cases x with
  | notExtension => cases hx
  | base m =>
    cases m with
    | domain vs => rfl
    | ctype neg c => cases hx
    | _ => cases hx

theorem stepP_specific_other (s : PState) (b : Bool) (x : XMod) (hx : x.isDomain = false) :
    stepP { s with specific := b } x = { stepP s x with specific := b } := by
  cases x with
  | notExtension => rfl
  | base m =>
    cases m with
    | domain vs => cases hx
    | ctype neg c => cases neg <;> rfl
    | _ => rfl

/-- Without a later `$domain` the difference persists … -/
theorem foldl_stepP_specific_other (xs : List XMod) (s : PState) (b : Bool) (h : xs.any XMod.isDomain = false) :
    xs.foldl stepP { s with specific := b } = { xs.foldl stepP s with specific := b } := by
  induction xs generalizing s with
  | nil => rfl
  | cons x xs ih =>
    simp only [List.any_cons, Bool.or_eq_false_iff] at h
    simp only [List.foldl_cons]
    rw [stepP_specific_other s b x h.1]
    exact ih (stepP s x) h.2

/-- … and a later `$domain` erases it. -/
theorem foldl_stepP_specific_dom (xs : List XMod) (s : PState) (b : Bool) (h : xs.any XMod.isDomain = true) :
    xs.foldl stepP { s with specific := b } = xs.foldl stepP s := by
  induction xs generalizing s with
  | nil => cases h
  | cons x xs ih =>
    simp only [List.foldl_cons]
    cases hx : x.isDomain with
    | true => rw [stepP_specific_dom s b x hx]
    | false =>
      rw [stepP_specific_other s b x hx]
      simp only [List.any_cons, hx, Bool.false_or] at h
      exact ih (stepP s x) h

theorem foldl_stepP_specific_eq (xs : List XMod) (s : PState) (h : xs.any XMod.isDomain = false) :
    (xs.foldl stepP s).specific = s.specific :=
  (congrArg PState.specific (foldl_stepP_specific_other xs s s.specific h) :)

theorem posNeg_ne_zero {α} (vs : List (Bool × α)) (h : vs ≠ []) :
    ((posVals vs).length != 0 || (negVals vs).length != 0) = true := by
  have := pos_neg_length vs
  have hl : vs.length ≠ 0 := fun h0 => h (List.eq_nil_of_length_eq_zero h0)
  by_cases hp : (posVals vs).length = 0
  · have : (negVals vs).length ≠ 0 := by omega
    simp [this]
  · simp [hp]

end UF.L
