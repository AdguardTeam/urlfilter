import UF.Props.C08
import UF.Proofs.ParsePerm
import UF.Proofs.ParseWF
import UF.Compose5.Effect
import UF.Compose5.C08Split
/-
  C08, the order of the values of a list-valued modifier in the twin relation (the behaviour is described in
  UF/Props/C08Order.lean): what `loadDomains` and `loadDNSTypes` return on `|`-joined plain values — the written
  order is kept.
-/
namespace UF.L
open UF UF.E Bytes

/-- A value loop whose step appends `f d` to the permitted list keeps the written order. -/
theorem foldlM_push {α β} (step : List β × List β → α → PE (List β × List β)) (f : α → β) (l : List α)
    (h : ∀ acc, ∀ d ∈ l, step acc d = .ok (acc.1 ++ [f d], acc.2)) (acc : List β × List β) :
    l.foldlM step acc = .ok (acc.1 ++ l.map f, acc.2) := by
  induction l generalizing acc with
  | nil => simp [List.foldlM, pure, Except.pure]
  | cons d ds ih =>
    rw [List.foldlM_cons, h acc d List.mem_cons_self]
    simp only [bind, Except.bind]
    rw [ih (fun a x hx => h a x (List.mem_cons_of_mem _ hx))]
    simp

/-! ### `$domain` / `$denyallow`: the written order is kept -/

/-- A plain (not `~`-negated) value `loadDomains` accepts. -/
def PlainDomain (d : Bytes) : Prop :=
  d ≠ [] ∧ hasPrefix d (lit "~") = false ∧
    ∃ n, isDomainNameC d = .ok n ∧ (!n && !hasSuffix d (lit ".*")) = false

/-- A non-empty list of plain values without the separator. -/
def PlainDomains (l : List Bytes) : Prop := l ≠ [] ∧ sepFree (ch '|') l ∧ ∀ d ∈ l, PlainDomain d

theorem loadDomainsStep_plain (acc : List Bytes × List Bytes) (d : Bytes) (h : PlainDomain d) :
    loadDomainsStep acc d = .ok (acc.1 ++ [d], acc.2) := by
  obtain ⟨_, hp, n, hn, hc⟩ := h
  unfold loadDomainsStep
  simp only [hp, Bool.false_eq_true, if_false, bind, Except.bind, pure, Except.pure, hn, hc]

/-- `loadDomains` keeps the written order. -/
theorem loadDomains_plain (l : List Bytes) (h : PlainDomains l) :
    loadDomains (joinSep l [ch '|']) (ch '|') = .ok (l, []) := by
  obtain ⟨hne, hs, hp⟩ := h
  unfold loadDomains
  rw [joinSep_isEmpty_false l _ hne (fun d hd => (hp d hd).1), splitByte_joinSep l _ hne hs,
    foldlM_push loadDomainsStep id l (fun acc d hd => loadDomainsStep_plain acc d (hp d hd))]
  simp

/-- Executable test for `PlainDomains` (for examples). -/
def plainDomainsB (l : List Bytes) : Bool :=
  !l.isEmpty && l.all fun d =>
    !d.contains (ch '|') && !d.isEmpty && !hasPrefix d (lit "~") &&
      match isDomainNameC d with
      | .ok n => n || hasSuffix d (lit ".*")
      | .error _ => false

theorem plainDomains_of_B (l : List Bytes) (h : plainDomainsB l = true) : PlainDomains l := by
  unfold plainDomainsB at h
  simp only [Bool.and_eq_true, Bool.not_eq_true', List.all_eq_true] at h
  obtain ⟨hne, hall⟩ := h
  refine ⟨(by intro e; rw [e] at hne; cases hne), ?_, ?_⟩
  · intro d hd hm
    have := (hall d hd).1.1.1
    rw [List.contains_eq_mem] at this
    simp [hm] at this
  · intro d hd
    obtain ⟨⟨⟨_, h2⟩, h3⟩, h4⟩ := hall d hd
    refine ⟨(by intro e; rw [e] at h2; cases h2), h3, ?_⟩
    cases hn : isDomainNameC d with
    | error e => rw [hn] at h4; cases h4
    | ok n =>
      rw [hn] at h4
      refine ⟨n, rfl, ?_⟩
      simp only at h4
      cases n <;> simp_all

/-! ### `$dnstype`: the written order is kept -/

/-- A non-empty list of plain (not `~`-negated) record type names with their numbers. -/
def PlainTypes (l : List Bytes) (f : Bytes → Nat) : Prop :=
  l ≠ [] ∧ sepFree (ch '|') l ∧ ∀ s ∈ l, s ≠ [] ∧ s.head? ≠ some (ch '~') ∧ strToRRType s = .ok (f s)

theorem loadDNSTypesStep_plain (acc : List Nat × List Nat) (s : Bytes) (t : Nat)
    (h : s ≠ [] ∧ s.head? ≠ some (ch '~') ∧ strToRRType s = .ok t) :
    loadDNSTypesStep acc s = .ok (acc.1 ++ [t], acc.2) := by
  obtain ⟨h1, h2, h3⟩ := h
  cases s with
  | nil => exact absurd rfl h1
  | cons c cs =>
    have hc : ¬ c = ch '~' := by
      intro hc
      apply h2
      rw [hc]; rfl
    unfold loadDNSTypesStep
    simp only [List.length_cons, idxC, bind, Except.bind, pure, Except.pure]
    simp [h3, hc]

theorem loadDNSTypes_plain (l : List Bytes) (f : Bytes → Nat) (h : PlainTypes l f) :
    loadDNSTypes (joinSep l [ch '|']) = .ok (l.map f, []) := by
  obtain ⟨hne, hs, hp⟩ := h
  unfold loadDNSTypes
  rw [joinSep_isEmpty_false l _ hne (fun d hd => (hp d hd).1), splitByte_joinSep l _ hne hs,
    foldlM_push loadDNSTypesStep f l (fun acc d hd => loadDNSTypesStep_plain acc d (f d) (hp d hd))]
  simp

/-- Two rule texts as the model parser sees them: does the first (a `$badfilter` rule) negate the second?
    (`none`: one of them is rejected.) -/
def negatesText (px : ParseExt) (tb tr : Bytes) : Option Bool :=
  match parseNetRule px tb 0, parseNetRule px tr 0 with
  | .ok b, .ok r => some (negatesBadfilter b r)
  | _, _ => none

end UF.L
