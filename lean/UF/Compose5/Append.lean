import UF.Compose5.TextRef
import UF.Spec.Priority
import UF.Proofs.Priority
/-
  The modifier fields of a parsed rule (`modFields`: text, list id, pattern and shortcut cleared) and how the
  document-only override of `loadOptions` (`overrideDoc`) interacts with one more modifier.  `IsHigherPriority`
  reads a rule through `modFields` only.
-/
namespace UF.L
open UF UF.E Bytes UF.Compose3

/-- The modifier fields of a rule: text, list id, pattern and shortcut cleared. -/
def modFields (r : NetRule) : NetRule := { r with text := [], listID := 0, pattern := [], shortcut := [] }

theorem modFields_idem (r : NetRule) : modFields (modFields r) = modFields r := rfl

theorem modFields_overrideDoc (r : NetRule) : modFields (overrideDoc r) = overrideDoc (modFields r) := by
  unfold overrideDoc
  show modFields (if docOnlyB r.enabled = true then _ else _) = if docOnlyB r.enabled = true then _ else _
  split <;> rfl

/-- `IsHigherPriority` reads the modifier fields only. -/
theorem higher_modFields (a b : NetRule) : isHigherPriority a b = isHigherPriority (modFields a) (modFields b) := rfl

theorem modFields_applyMod (ext : Ext) (r : NetRule) (m : Mod) :
    modFields (applyMod ext r m) = applyMod ext (modFields r) m := by
  cases m with
  | ctype neg c => cases neg <;> rfl
  | _ => rfl

/-! ### how one more modifier changes the overridden record -/

theorem overrideDoc_enabled (r : NetRule) : (overrideDoc r).enabled = r.enabled := by
  unfold overrideDoc; split <;> rfl

theorem enabled_of_overrideDoc {r R : NetRule} (e : modFields r = overrideDoc R) : r.enabled = R.enabled :=
  (congrArg NetRule.enabled e).trans (overrideDoc_enabled R)

/-- The override commutes with a modifier that does not make a rule document-only — except a permitted content
    type on a rule that is document-only already, which the override replaces by `document` again
    (`overrideDoc_permTypes_doc`). -/
theorem overrideDoc_applyMod (ext : Ext) (R : NetRule) (m : Mod)
    (hd : m.isDocOnly = false ∨ docOnlyB R.enabled = true)
    (hc : ∀ c, m = .ctype false c → docOnlyB R.enabled = false) :
    overrideDoc (applyMod ext R m) = applyMod ext (overrideDoc R) m := by
  have hen : docOnlyB (applyMod ext R m).enabled = docOnlyB R.enabled := by
    rw [applyMod_enabled, docOnlyB_or, docOnlyB_enBits]
    rcases hd with h | h <;> simp [h]
  unfold overrideDoc
  rw [hen]
  cases hR : docOnlyB R.enabled with
  | false => rfl
  | true =>
    cases m with
    | ctype neg c =>
      cases neg with
      | false => rw [hc c rfl] at hR; cases hR
      | true => rfl
    | _ => rfl

theorem permTypes_of_docOnly {r R : NetRule} (e : modFields r = overrideDoc R) (hd : docOnlyB R.enabled = true) :
    r.permTypes = Facts.TypeDocument := by
  refine (congrArg NetRule.permTypes e).trans ?_
  unfold overrideDoc
  rw [hd]
  rfl

theorem overrideDoc_permTypes_doc (R : NetRule) (x : Nat) (hd : docOnlyB R.enabled = true) :
    overrideDoc { R with permTypes := x } = overrideDoc R := by
  unfold overrideDoc
  show (if docOnlyB R.enabled = true then _ else _) = _
  rw [hd]
  rfl

theorem pos_neg_length {α} (vs : List (Bool × α)) : (posVals vs).length + (negVals vs).length = vs.length := by
  induction vs with
  | nil => rfl
  | cons v vs ih =>
    obtain ⟨b, x⟩ := v
    cases b <;> simp [posVals, negVals] at ih ⊢ <;> omega

theorem opt_bit_pow (o : Opt) : ∃ k, o.bit = 2 ^ k := ⟨o.bit.log2, by cases o <;> rfl⟩

theorem testBit_false_of_and_pow {n k : Nat} (h : n &&& 2 ^ k = 0) : n.testBit k = false := by
  have := and_pow_beq_zero n k
  rw [h] at this
  simpa using this.symm

/-- A value list that passed `Mod.valsOK` is not empty. -/
theorem ne_nil_of_valsOK {α} {vs : List α} {p : α → Bool} (h : (!vs.isEmpty && vs.all p) = true) : vs ≠ [] := by
  intro e
  rw [e] at h
  cases h

end UF.L
