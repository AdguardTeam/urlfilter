import UF.Compose5.Grammar
import UF.Proofs.Result
/-
  A wider modifier grammar for the parser-independent reference of C04.  `ModW.base` embeds the grammar of
  UF/Compose5/Grammar.lean; added are quoted `$client` names (`CVal`: the meaning of `'Frank\'s phone'` is the
  name itself), `~extension` (it toggles the extension bit, so its meaning is a left-to-right reading,
  `extensionOn`) and patterns beginning with `/` that are not `/regex/` rules (`patOKW`, `slashOK`).
  Nothing here mentions the parser; the reference is `specMatchText` (UF/Compose5/TextRef.lean) on `ModSpec.ofModsW`.
-/
namespace UF.L
open UF Bytes

/-- One `$client` value as written. -/
inductive CVal where
  /-- written bare: an IP address, a CIDR subnet, or a name without special characters -/
  | plain (v : Bytes)
  /-- `'name'` (`dq = false`) or `"name"` (`dq = true`); `name` is the client name itself, unescaped -/
  | quoted (dq : Bool) (name : Bytes)
  deriving DecidableEq, Repr, Inhabited

/-- What the value denotes: the text of a bare value, the name of a quoted one. -/
def CVal.value : CVal → Bytes
  | .plain v => v
  | .quoted _ n => n

def quoteCh (dq : Bool) : UInt8 := if dq then ch '"' else ch '\''

/-- The quote character inside a quoted name is written with a backslash in front. -/
def escQuote (q : UInt8) : Bytes → Bytes
  | [] => []
  | c :: t => if c == q then ch '\\' :: c :: escQuote q t else c :: escQuote q t

def renderCVal : CVal → Bytes
  | .plain v => v
  | .quoted dq n => quoteCh dq :: (escQuote (quoteCh dq) n ++ [quoteCh dq])

/-- `value` or `~value` (the `~` stays outside the quotes). -/
def renderCV (v : Bool × CVal) : Bytes := if v.1 then ch '~' :: renderCVal v.2 else renderCVal v.2

/-- One modifier of the wider grammar. -/
inductive ModW where
  | base (m : Mod)
  /-- `$client=…` whose values may be quoted names -/
  | clientQ (vals : List (Bool × CVal))
  /-- `~extension` -/
  | notExtension
  deriving DecidableEq, Repr, Inhabited

def renderModW : ModW → Bytes
  | .base m => renderMod m
  | .clientQ vs => lit "client" ++ ch '=' :: joinVals (vs.map renderCV)
  | .notExtension => lit "~extension"

def optsTextW (ms : List ModW) : Bytes := joinSep (ms.map renderModW) [ch ',']

/-- The text after the exception marker. -/
def bodyW (pattern : Bytes) (ms : List ModW) : Bytes :=
  pattern ++ (if optsTextW ms = [] then [] else ch '$' :: optsTextW ms)

def renderW (exception : Bool) (pattern : Bytes) (ms : List ModW) : Bytes :=
  (if exception then lit "@@" else []) ++ pattern ++ (if optsTextW ms = [] then [] else ch '$' :: optsTextW ms)

/-! ### meaning -/

/-- The modifier of the narrow grammar with the same meaning (`~extension` has none). -/
def ModW.toMod? : ModW → Option Mod
  | .base m => some m
  | .clientQ vs => some (.client (vs.map (fun v => (v.1, v.2.value))))
  | .notExtension => none

def narrow (ms : List ModW) : List Mod := ms.filterMap ModW.toMod?

/-- The extension bit while reading the modifiers from left to right: `extension` and `document` switch it
    on, `~extension` TOGGLES it. -/
def extStep (b : Bool) : ModW → Bool
  | .base (.opt .extension) => true
  | .base .document => true
  | .notExtension => !b
  | _ => b

def extensionOn (ms : List ModW) : Bool := ms.foldl extStep false

/-- Document-only by something other than the extension bit. -/
def ModW.isDocOnlyOther : ModW → Bool
  | .base (.opt o) => o.docOnly && o != .extension
  | .base .document => true
  | _ => false

/-- The meaning of a wide modifier list: that of its narrow counterpart, with "document-only" decided by the
    other document-only options or by the extension bit as the left-to-right reading leaves it. -/
def ModSpec.ofModsW (ms : List ModW) : ModSpec :=
  { ModSpec.ofMods (narrow ms) with docOnly := ms.any ModW.isDocOnlyOther || extensionOn ms }

/-! ### domain -/

/-- A byte that may occur in a quoted name: anything but `,` `\` `$` `|` (commas and pipes would have to be
    escaped as well, a backslash cannot be written at all). -/
def nameByte (c : UInt8) : Bool := c != ch ',' && c != ch '\\' && c != ch '$' && c != ch '|'

def CVal.ok : CVal → Bool
  | .plain v => cleanVal v
  | .quoted _ n => !n.isEmpty && n.all nameByte

def ModW.valsOK : ModW → Bool
  | .base m => m.valsOK
  | .clientQ vs => !vs.isEmpty && vs.all (fun v => v.2.ok)
  | .notExtension => true

/-- Each value-carrying modifier at most once. -/
def onceOK (ms : List Mod) : Bool :=
  atMostOne Mod.isDomain ms && atMostOne Mod.isDenyallow ms && atMostOne Mod.isDnstype ms &&
  atMostOne Mod.isCtag ms && atMostOne Mod.isClient ms

def modsOKW (ms : List ModW) : Bool := ms.all ModW.valsOK && onceOK (narrow ms)

/-- Patterns of the wider reference: non-empty, not starting with `@`, without `$` and without a backslash. -/
def patOKW (pat : Bytes) : Bool :=
  match pat with
  | [] => false
  | c :: _ => c != ch '@' && !pat.contains (ch '$') && !pat.contains (ch '\\')

/-- The text after `@@` is not of the form `/…/` (which `NewNetworkRule` reads as a regex rule WITHOUT options). -/
def slashOK (pat : Bytes) (ms : List ModW) : Bool :=
  !(hasPrefix (bodyW pat ms) (lit "/") && hasSuffix (bodyW pat ms) (lit "/"))

/-! ### the wide grammar extends the narrow one -/

theorem optsTextW_base (ms : List Mod) : optsTextW (ms.map .base) = optsText ms := by
  unfold optsTextW optsText
  rw [List.map_map]
  rfl

theorem renderW_base (wl : Bool) (pat : Bytes) (ms : List Mod) :
    renderW wl pat (ms.map .base) = render wl pat ms := by
  unfold renderW render
  rw [optsTextW_base]

theorem narrow_base (ms : List Mod) : narrow (ms.map .base) = ms := by
  induction ms with
  | nil => rfl
  | cons m ms ih => simp only [narrow, List.map_cons, List.filterMap_cons, ModW.toMod?] at ih ⊢; rw [ih]

theorem extensionOn_base (ms : List Mod) (b : Bool) :
    (ms.map ModW.base).foldl extStep b =
      (b || ms.any (fun m => m == .opt .extension || m == .document)) := by
  induction ms generalizing b with
  | nil => simp
  | cons m ms ih =>
    simp only [List.map_cons, List.foldl_cons, List.any_cons]
    rw [ih]
    cases m with
    | opt o => cases o <;> cases b <;> rfl
    | _ => cases b <;> rfl

theorem ofModsW_base (ms : List Mod) : ModSpec.ofModsW (ms.map .base) = ModSpec.ofMods ms := by
  unfold ModSpec.ofModsW
  rw [narrow_base]
  have : ((ms.map ModW.base).any ModW.isDocOnlyOther || extensionOn (ms.map .base)) = ms.any Mod.isDocOnly := by
    unfold extensionOn
    rw [extensionOn_base, Bool.false_or, List.any_map, any_or']
    congr 1
    funext m
    cases m with
    | opt o => cases o <;> rfl
    | ctype neg c => rfl
    | _ => rfl
  rw [this]
  rfl

end UF.L
