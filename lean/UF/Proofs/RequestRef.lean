import UF.Proofs.RequestLabels
/-
  Helper lemmas for C17 (`c17_request_eq_ref`): on the URL grammar the reference reading of a URL
  and the model agree.
-/
namespace UF.H
open Bytes

theorem all_imp {α} {p q : α → Bool} {l : List α} (hpq : ∀ x, p x = true → q x = true)
    (h : l.all p = true) : l.all q = true :=
  List.all_eq_true.mpr fun x hx => hpq x (List.all_eq_true.mp h x hx)

theorem hostByte_cases (c : UInt8)
    (h : (!(c == ch '/' || c == ch ':' || c == ch '?' || c == ch '#' || c == ch '@')) = true) :
    (!isStop c) = true ∧ (c == ch '#' || c == ch '@') = false := by
  unfold isStop
  generalize (c == ch '/') = x1, (c == ch ':') = x2, (c == ch '?') = x3, (c == ch '#') = x4,
    (c == ch '@') = x5 at h
  revert x1 x2 x3 x4 x5
  decide

theorem goodURLParts_unpack {scheme host tail : Bytes} (h : goodURLParts scheme host tail = true) :
    scheme ≠ [] ∧ scheme.all (fun c => c != ch '/') = true ∧ scheme.all (fun c => c != ch ':') = true ∧
    host ≠ [] ∧ host.all (fun c => !isStop c) = true ∧
    host.any (fun c => c == ch '#' || c == ch '@') = false ∧
    (tail = [] ∨ ∃ c r, tail = c :: r ∧ isStop c = true) := by
  simp only [goodURLParts, Bool.and_eq_true, Bool.not_eq_eq_eq_not, Bool.not_true] at h
  obtain ⟨⟨⟨⟨hs0, hs⟩, hh0⟩, hh⟩, ht⟩ := h
  refine ⟨?_, all_imp (fun c hc => (Bool.and_eq_true_iff.1 hc).1) hs,
    all_imp (fun c hc => (Bool.and_eq_true_iff.1 hc).2) hs, ?_,
    all_imp (fun c hc => (hostByte_cases c hc).1) hh, ?_, ?_⟩
  · intro he; subst he; simp at hs0
  · intro he; subst he; simp at hh0
  · rw [List.any_eq_false]
    intro x hx
    simp [(hostByte_cases x (List.all_eq_true.mp hh x hx)).2]
  · cases tail with
    | nil => left; rfl
    | cons c r => right; exact ⟨c, r, rfl, ht⟩

theorem refURLHost_good (scheme host tail : Bytes) (h : goodURLParts scheme host tail = true) :
    refURLHost (scheme ++ lit "://" ++ host ++ tail) = some host := by
  obtain ⟨hs0, hsl, hsc, hh0, hhs, hhx, ht⟩ := goodURLParts_unpack h
  obtain ⟨hurl, hdrop⟩ := url_parts scheme host tail
  have hl : lit "://" = [ch ':', ch '/', ch '/'] := by decide
  have hidx : indexOf (scheme ++ lit "://" ++ host ++ tail) (lit "://") = some scheme.length := by
    rw [hurl, indexOf, hl, indexOf_go_append_hit _ _ _ _ _ hsc, Nat.zero_add]
  have hsch : (scheme.isEmpty || scheme.any fun c => c == ch '/' || c == ch ':') = false := by
    rw [Bool.or_eq_false_iff, List.any_eq_false]
    refine ⟨List.isEmpty_eq_false_iff.mpr hs0, fun x hx => ?_⟩
    have a1 := List.all_eq_true.mp hsl x hx
    have a2 := List.all_eq_true.mp hsc x hx
    simp only [bne_iff_ne, ne_eq] at a1 a2
    simp [a1, a2]
  have htake : (scheme ++ lit "://" ++ host ++ tail).take scheme.length = scheme := by
    rw [List.append_assoc, List.append_assoc, List.take_left']
    rfl
  rw [refURLHost, hidx]
  simp only [htake, hsch, hdrop, Bool.false_eq_true, if_false]
  rw [show (host ++ tail).takeWhile (fun c => !(c == ch '/' || c == ch ':' || c == ch '?')) = host from
    takeWhile_host host tail hhs ht]
  simp [List.isEmpty_eq_false_iff.mpr hh0, hhx]

/-- What `NewRequest` needs of one URL `u` (request or source) to agree with the reference. -/
structure UrlSide (ext : Ext) (u h : Bytes) : Prop where
  cap : u.length ≤ Facts.maxURLLength
  host : extractHostname u = .ok h
  domain : ∃ e, effectiveTLDPlusOne ext h = .ok e ∧ (if !e.isEmpty then e else h) = refDomain ext h

theorem urlSide_good (ext : Ext) (scheme host tail : Bytes) (h : goodURLParts scheme host tail = true)
    (hlen : (scheme ++ lit "://" ++ host ++ tail).length ≤ Facts.maxURLLength)
    (hn : noEmptyLabel host = true) (hp : pslIsDotSuffix ext host) :
    UrlSide ext (scheme ++ lit "://" ++ host ++ tail) host := by
  obtain ⟨_, hsl, _, _, hhs, _, ht⟩ := goodURLParts_unpack h
  exact ⟨hlen, extract_host_url scheme host tail hsl hhs ht,
    _, effectiveTLDPlusOne_eq_ref ext host hn hp, domain_eq_refDomain ext host hn⟩

/-- `NewRequest` returns the reference request when both URLs are such. -/
theorem newRequest_eq_ref (ext : Ext) (url src h sh : Bytes) (t : Nat)
    (hu : UrlSide ext url h) (hs : UrlSide ext src sh)
    (hur : refURLHost url = some h) (hun : noEmptyLabel h = true)
    (hsr : (if src.isEmpty then some [] else refURLHost src) = some sh)
    (hsn : (sh.isEmpty || noEmptyLabel sh) = true) :
    ∃ q, newRequest ext url src t = .ok q ∧ refRequest ext url src t = some q ∧
      q.hostname = h ∧ q.sourceHostname = sh ∧
      q.thirdParty = refThirdParty (refDomain ext h) (refDomain ext sh) := by
  obtain ⟨a, b, e, se, h1, h2, h3, h4, hq⟩ := newRequest_eq ext url src t
  rw [List.take_of_length_le hu.cap] at h1 hq
  rw [List.take_of_length_le hs.cap] at h2 hq
  obtain ⟨e', u3, u4⟩ := hu.domain
  obtain ⟨se', s3, s4⟩ := hs.domain
  rw [hu.host] at h1; cases h1
  rw [hs.host] at h2; cases h2
  rw [u3] at h3; cases h3
  rw [s3] at h4; cases h4
  rw [u4, s4, thirdParty_eq_ref] at hq
  refine ⟨_, hq, ?_, rfl, rfl, rfl⟩
  unfold refRequest
  rw [List.take_of_length_le hu.cap, List.take_of_length_le hs.cap]
  simp only [hur, hsr, hun, hsn, Bool.and_self, Bool.not_true, Bool.false_eq_true, if_false]

def c17Ext : Ext where
  psl := fun h =>
    if hasSuffix h (lit "co.uk") then (lit "co.uk", true)
    else if hasSuffix h (lit "com") then (lit "com", true) else ([], false)
  parseAddr := fun _ => none
  parsePrefix := fun _ => none
  pat := fun _ _ _ => false

end UF.H
