import UF.Proofs.ProgRun
/-
  C19, "never lie": with lists closed at arbitrary points `Tot` is no longer constant, but every entry a
  thread has collected is GENUINE (`EntryOK`: the rule the unmodified lists hold at that index, of the
  kind the table wants, and it matches the request) and comes from an item of the stateless work list
  (`Known`).  Hence every returned rule is in the stateless answer (`sound_answer`).

  Note on order: with the `ruleIn` de-duplication a degraded concurrent answer need not be a
  SUB-SEQUENCE of the fault-free one (the first occurrence of an index may fail while a later one is
  served from the cache another thread filled in between), so the statement is about membership.
-/
namespace UF.Prog
variable {R Re : Type}

/-- A collected entry is genuine. -/
def EntryOK (env : Env R Re) (req : Request) (e : Item × R) : Prop :=
  match e.1 with
  | .st src idx => env.truth idx = some e.2 ∧ env.wants src e.2 = true ∧ env.verdict src e.2 req = true
  | .seq k => env.resident[k]? = some e.2 ∧ env.mtch e.2 req = true

/-- The item belongs to the stateless work list of the stage. -/
def Known (env : Env R Re) (req : Request) (stage : Bool) (it : Item) : Prop :=
  if stage then ∃ idx ∈ env.hcands req, it = .st .host idx else it ∈ env.items1 req

def PC.item : PC R → Option Item
  | .get src idx | .read src idx | .put src idx _ | .use src idx _ => some (.st src idx)
  | .seq k => some (.seq k)
  | .prep it _ | .rx it _ => some it
  | _ => none

structure Sound (env : Env R Re) (t : Thread R) : Prop where
  acc_ok : ∀ e ∈ t.acc, EntryOK env t.req e ∧ (Known env t.req false e.1 ∨ Known env t.req true e.1)
  todo_ok : ∀ it ∈ t.todo, Known env t.req t.stage it
  pend_ok : ∀ it, t.pc.item = some it → Known env t.req t.stage it
  prep_src : ∀ src idx r, (t.pc = .prep (.st src idx) r ∨ t.pc = .rx (.st src idx) r) →
    env.wants src r = true ∧ (src == Src.host) = false

theorem sound_init (env : Env R Re) (q : Query) : Sound env (Thread.init q : Thread R) := by
  constructor <;> simp [Thread.init, PC.item]

theorem sound_advance {env : Env R Re} {t : Thread R}
    (hacc : ∀ e ∈ t.acc, EntryOK env t.req e ∧ (Known env t.req false e.1 ∨ Known env t.req true e.1))
    (htodo : ∀ it ∈ t.todo, Known env t.req t.stage it) : Sound env t.advance := by
  unfold Thread.advance
  split
  · next h => split <;> exact ⟨hacc, by simp [h], by simp [PC.item], by simp⟩
  all_goals
    next h =>
    rw [h] at htodo
    refine ⟨hacc, fun it hi => htodo it (List.mem_cons_of_mem _ hi), ?_, by simp⟩
    intro it hi
    simp only [PC.item, Option.some.injEq] at hi
    subst hi
    exact htodo _ (List.mem_cons_self)

theorem known_items2 {env : Env R Re} {q : Query} {req : Request} {nrs : List R} {it : Item}
    (h : it ∈ env.items2 q req nrs) : Known env req true it := by
  unfold Env.items2 at h
  cases q with
  | web _ => simp at h
  | dns _ =>
    simp only at h
    split at h
    · simp at h
    · simp only [List.mem_map] at h
      obtain ⟨idx, hi, rfl⟩ := h
      simp only [Known, if_true]
      exact ⟨idx, hi, rfl⟩

section
variable {env : Env R Re} {s s' : State R Re} {t t' : Thread R}

theorem Goto.item {pc' : PC R} (h : Goto env s t s' pc') : pc'.item = t.pc.item ∨ pc' = .crash := by
  cases h with
  | rx_nil => exact .inr rfl
  | _ => left; simp only [PC.item, *]

/-- An entry collected at the end of an item is genuine and belongs to that item. -/
theorem Finish.entry {add : Option (Item × R)} {e : Item × R} (h : Finish env s t s' add) (hs : SInv env s)
    (ht : TInv env t) (hsd : Sound env t) (he : add = some e) : EntryOK env t.req e ∧ t.pc.item = some e.1 := by
  have key : ∀ it r, (t.pc = .prep it r ∨ t.pc = .rx it r) → EntryOK env t.req e ∧ t.pc.item = some e.1 := by
    intro it r hpc
    have hm := h.mtch hs ht hpc
    rw [he] at hm
    by_cases hmt : env.mtch r t.req = true
    · rw [if_pos hmt] at hm; cases hm
      have hob := (ht.prep_ok it r hpc).1
      refine ⟨?_, by rcases hpc with e | e <;> simp [PC.item, e]⟩
      cases it with
      | st src idx =>
        obtain ⟨hw, hh⟩ := hsd.prep_src src idx r hpc
        exact ⟨hob, hw, by rw [verdict_not_host env hh]; exact hmt⟩
      | seq k => exact ⟨hob, hmt⟩
    · rw [if_neg hmt] at hm; cases hm
  cases h with
  | use_host hpc hd hh hp =>
    cases he
    exact ⟨⟨(ht.use_ok _ _ _ hpc).1, (ht.use_ok _ _ _ hpc).2, by simp [Env.verdict, hh, hp]⟩, by simp [PC.item, hpc]⟩
  | prep_invalid hpc | prep_any hpc | prep_bad hpc => exact key _ _ (Or.inl hpc)
  | rx_add hpc | rx_skip hpc => exact key _ _ (Or.inr hpc)
  | _ => cases he

/-- Every action preserves soundness -- in ANY fault state. -/
theorem Step.sound (h : Step env s t s' t') (hs : SInv env s) (hg : Good env s t) (hsd : Sound env t) :
    Sound env t' := by
  cases h with
  | idle => exact hsd
  | start_triv => constructor <;> simp [PC.item]
  | start => exact sound_advance (by simp) (by intro it hi; simpa [Known] using hi)
  | goto h =>
    refine ⟨hsd.acc_ok, hsd.todo_ok, fun it hi => ?_, fun src idx r hpc => ?_⟩
    · rcases h.item with e | e
      · exact hsd.pend_ok it (by rw [← e]; exact hi)
      · rw [show _ = PC.crash from e] at hi; cases hi
    · cases h with
      | use_prep hpc' _ hh =>
        simp only [PC.prep.injEq, Item.st.injEq, reduceCtorEq, or_false] at hpc
        obtain ⟨⟨rfl, rfl⟩, rfl⟩ := hpc
        exact ⟨(hg.1.use_ok _ _ _ hpc').2, hh⟩
      | prep_hit hpc' | prep_compile hpc' =>
        simp only [reduceCtorEq, PC.rx.injEq, false_or] at hpc
        obtain ⟨rfl, rfl⟩ := hpc
        exact hsd.prep_src _ _ _ (Or.inl hpc')
      | _ => simp at hpc
  | finish h =>
    refine sound_advance (fun e he => ?_) (by simpa using hsd.todo_ok)
    rw [collect_req]
    cases hadd : ‹Option (Item × R)› with
    | none => rw [hadd] at he; exact hsd.acc_ok e he
    | some e' =>
      rw [hadd] at he
      rcases List.mem_append.1 he with he | he
      · exact hsd.acc_ok e he
      · cases List.mem_singleton.1 he
        obtain ⟨hok, hit⟩ := h.entry hs hg.1 hsd hadd
        refine ⟨hok, ?_⟩
        have hk := hsd.pend_ok _ hit
        cases hst : t.stage <;> rw [hst] at hk
        · exact Or.inl hk
        · exact Or.inr hk
  | mid => exact sound_advance hsd.acc_ok (fun it hi => known_items2 hi)
  | fin => exact ⟨hsd.acc_ok, hsd.todo_ok, by simp [PC.item], by simp⟩

end

/-! ### genuine entries are in the stateless answer -/

/-- Entries of storage items hold the rule of their index. -/
def AccTruth (env : Env R Re) (acc : List (Item × R)) : Prop :=
  ∀ e ∈ acc, ∀ src idx, e.1 = .st src idx → env.truth idx = some e.2

/-- One stateless step appends at most one entry: a genuine one, tagged with its item. -/
theorem pureStep_shape (env : Env R Re) (req : Request) (acc : List (Item × R)) (it : Item) :
    pureStep env req acc it = acc ∨
      ∃ r, pureStep env req acc it = acc ++ [(it, r)] ∧ EntryOK env req (it, r) := by
  cases it with
  | st src idx =>
    simp only [pureStep, useStep]
    split
    · exact Or.inl rfl
    · next r hr =>
      obtain ⟨h1, h2⟩ := Option.filter_eq_some_iff.1 hr
      split
      · exact Or.inl rfl
      · split
        · next hv => exact Or.inr ⟨r, rfl, h1, h2, hv⟩
        · exact Or.inl rfl
  | seq k =>
    simp only [pureStep, seqStep]
    split
    · exact Or.inl rfl
    · next r hr =>
      split
      · next hm => exact Or.inr ⟨r, rfl, hr, hm⟩
      · exact Or.inl rfl

theorem pureFold_mono (env : Env R Re) (req : Request) (items : List Item) : ∀ (acc : List (Item × R)) (e : Item × R),
    e ∈ acc → e ∈ pureFold env req acc items := by
  induction items with
  | nil => intro acc e h; exact h
  | cons it rest ih =>
    intro acc e h
    refine ih _ e ?_
    rcases pureStep_shape env req acc it with h' | ⟨r, h', _⟩ <;> rw [h']
    · exact h
    · exact List.mem_append_left _ h

theorem pureStep_accTruth (env : Env R Re) (req : Request) (acc : List (Item × R)) (it : Item)
    (h : AccTruth env acc) : AccTruth env (pureStep env req acc it) := by
  rcases pureStep_shape env req acc it with h' | ⟨r, h', hok⟩ <;> rw [h']
  · exact h
  · intro e he src idx hs
    rcases List.mem_append.1 he with he | he
    · exact h e he src idx hs
    · cases List.mem_singleton.1 he
      cases hs
      exact hok.1

/-- A genuine entry of an item is produced when the stateless fold reaches that item. -/
theorem mem_pureStep_self (env : Env R Re) (req : Request) (acc : List (Item × R)) (it : Item) (r : R)
    (hacc : AccTruth env acc) (hok : EntryOK env req (it, r)) : (it, r) ∈ pureStep env req acc it := by
  cases it with
  | st src idx =>
    obtain ⟨h1, h2, h3⟩ := hok
    simp only at h1 h2 h3
    have hf : (env.truth idx).filter (env.wants src) = some r := by simp [h1, Option.filter, h2]
    simp only [pureStep, useStep, hf]
    split
    · next hd =>
      simp only [Bool.and_eq_true, beq_iff_eq] at hd
      obtain ⟨hsrc, hin⟩ := hd
      subst hsrc
      simp only [ruleIn, List.any_eq_true, beq_iff_eq] at hin
      obtain ⟨e, he, hee⟩ := hin
      have := hacc e he _ _ hee
      rw [h1] at this
      have h4 : e = (Item.st .sc idx, r) := by
        rcases e with ⟨e1, e2⟩
        simp only at hee this
        rw [hee, ← Option.some.inj this]
      rw [← h4]; exact he
    · simp
  | seq k =>
    obtain ⟨h1, h2⟩ := hok
    simp only at h1 h2
    simp [pureStep, seqStep, h1, h2]

theorem mem_pureFold (env : Env R Re) (req : Request) (it : Item) (r : R) (hok : EntryOK env req (it, r)) :
    ∀ (items : List Item) (acc : List (Item × R)), AccTruth env acc → it ∈ items →
      (it, r) ∈ pureFold env req acc items := by
  intro items
  induction items with
  | nil => intro acc _ h; cases h
  | cons it0 rest ih =>
    intro acc hacc hmem
    rw [pureFold_cons]
    by_cases h0 : it = it0
    · subst h0
      exact pureFold_mono env req rest _ _ (mem_pureStep_self env req acc it r hacc hok)
    · rcases List.mem_cons.1 hmem with h | h
      · exact absurd h h0
      · exact ih _ (pureStep_accTruth env req acc it0 hacc) h

theorem accTruth_nil (env : Env R Re) : AccTruth env [] := fun _ h => by cases h

theorem accTruth_pureFold (env : Env R Re) (req : Request) (items : List Item) : ∀ (acc : List (Item × R)),
    AccTruth env acc → AccTruth env (pureFold env req acc items) := by
  induction items with
  | nil => intro acc h; exact h
  | cons it rest ih => intro acc h; exact ih _ (pureStep_accTruth env req acc it h)

theorem mem_nets {acc : List (Item × R)} {r : R} : r ∈ nets acc ↔ ∃ it, it.isHost = false ∧ (it, r) ∈ acc := by
  simp only [nets, List.mem_map, List.mem_filter]
  constructor
  · rintro ⟨⟨it, r'⟩, ⟨hm, hh⟩, rfl⟩; exact ⟨it, by simpa using hh, hm⟩
  · rintro ⟨it, hh, hm⟩; exact ⟨(it, r), ⟨hm, by simp [hh]⟩, rfl⟩

theorem mem_hosts {acc : List (Item × R)} {r : R} : r ∈ hosts acc ↔ ∃ it, it.isHost = true ∧ (it, r) ∈ acc := by
  simp only [hosts, List.mem_map, List.mem_filter]
  constructor
  · rintro ⟨⟨it, r'⟩, ⟨hm, hh⟩, rfl⟩; exact ⟨it, hh, hm⟩
  · rintro ⟨it, hh, hm⟩; exact ⟨(it, r), ⟨hm, hh⟩, rfl⟩

theorem items1_not_host {env : Env R Re} {req : Request} {it : Item} (h : it ∈ env.items1 req) : it.isHost = false := by
  simp only [Env.items1, List.mem_append, List.mem_map] at h
  rcases h with ⟨c, _, rfl⟩ | ⟨k, _, rfl⟩
  · cases c.1 <;> rfl
  · rfl

/-- NEVER LIE: every rule a finished thread returns is in the stateless answer -- the network rules in the
    fault-free network answer, the host rules in what the hosts table holds for the name -- and satisfies
    `EntryOK` (genuine, wanted kind, matches). -/
theorem sound_answer {env : Env R Re} {t : Thread R} (ht : TInv env t) (h : Sound env t) (hd : t.pc = .done) :
    (∀ r ∈ t.answer.1, r ∈ (pureAnswer env t.q).1) ∧ (∀ r ∈ t.answer.2, r ∈ pureHosts env (env.reqOf t.q)) ∧
      (∀ e ∈ t.acc, EntryOK env (env.reqOf t.q) e) := by
  have hs : t.pc ≠ .start := by rw [hd]; simp
  cases hq : t.q.trivial with
  | true =>
    have := (ht.triv hq hs).2
    simp [Thread.answer, this, nets_nil, hosts_nil]
  | false =>
    have hreq := ht.req_eq hs hq
    refine ⟨?_, ?_, ?_⟩
    · intro r hr
      obtain ⟨it, hh, hm⟩ := mem_nets.1 hr
      obtain ⟨hok, hk⟩ := h.acc_ok _ hm
      have hit : it ∈ env.items1 t.req := by
        rcases hk with hk | hk
        · simpa [Known] using hk
        · simp only [Known, if_true] at hk
          obtain ⟨idx, _, rfl⟩ := hk
          simp [Item.isHost] at hh
      have h1 : (it, r) ∈ pure1 env t.req := mem_pureFold env t.req it r hok _ _ (accTruth_nil env) hit
      have h2 : (it, r) ∈ pure2 env t.q t.req := pureFold_mono env t.req _ _ _ h1
      simp only [pureAnswer, hq, Bool.false_eq_true, if_false, ← hreq]
      exact mem_nets.2 ⟨it, hh, h2⟩
    · intro r hr
      obtain ⟨it, hh, hm⟩ := mem_hosts.1 hr
      obtain ⟨hok, hk⟩ := h.acc_ok _ hm
      rw [← hreq]
      rcases hk with hk | hk
      · have := items1_not_host (by simpa [Known] using hk : it ∈ env.items1 t.req)
        rw [this] at hh; cases hh
      · simp only [Known, if_true] at hk
        obtain ⟨idx, hi, rfl⟩ := hk
        exact mem_hosts.2 ⟨_, rfl, mem_pureFold env t.req _ r hok _ _ (accTruth_nil env)
          (List.mem_map.2 ⟨idx, hi, rfl⟩)⟩
    · intro e he; rw [← hreq]; exact (h.acc_ok e he).1

/-- Sequential, any fault state: soundness after a query. -/
theorem runQuery_sound {env : Env R Re} {s : State R Re} (q : Query) (hs : SInv env s) :
    Sound env (runQuery env s q).2 :=
  (runQuery_inv env (fun s t => SInv env s ∧ Good env s t ∧ Sound env t)
    (fun _ _ _ _ h hp => by
      obtain ⟨hs', hg, hsd⟩ := hp
      exact ⟨h.sinv hs' hg.1, h.good hs' hg, h.sound hs' hg hsd⟩)
    s q ⟨hs, good_init env s q, sound_init env q⟩).2.2

theorem run_cinv_sound {env : Env R Re} (sched : List Ev) : ∀ (c : Config R Re), CInv (Sound env) env c →
    CInv (Sound env) env (c.run env sched) := by
  induction sched with
  | nil => intro c h; exact h
  | cons e rest ih =>
    intro c h
    cases e with
    | run tid => exact ih _ (exec_run_cinv tid (fun _ _ _ hst hg hsd => hst.sound h.1 hg hsd) h)
    | close l => exact ih _ h  -- closing a list touches neither the cache nor the cells

/-- … in particular from the initial configuration of any queries on a state satisfying the shared invariant. -/
theorem run_init_sound {env : Env R Re} (s : State R Re) (qs : List Query) (sched : List Ev) (hs : SInv env s) :
    CInv (Sound env) env (Config.run env ⟨s, qs.map Thread.init⟩ sched) :=
  run_cinv_sound sched _ (cinv_init (Sound env) env s qs hs (sound_init env))

end UF.Prog
