import UF.Spec.Match
import UF.Proofs.MergeSorted
import UF.Proofs.Bits
import UF.Proofs.ShortcutBytes
import UF.Proofs.BytesSearch
/- Occurrences and indexes (`indexOf`, `hasSuffix`) as statements about factors, and from them `$domain` matching:
   `isDomainOrSubdomainOfAny` and the wildcard-TLD test against their label-boundary references; the request-type
   bit test. -/
namespace UF.E
open Bytes

theorem hasSuffix_iff (s p : Bytes) : hasSuffix s p = true ↔ ∃ t, s = t ++ p := by
  unfold hasSuffix
  rw [hasPrefix_iff]
  constructor
  · rintro ⟨t, ht⟩
    refine ⟨t.reverse, ?_⟩
    have := congrArg List.reverse ht
    simpa using this
  · rintro ⟨t, ht⟩
    exact ⟨t.reverse, by simp [ht]⟩

theorem hasSuffix_append (t p : Bytes) : hasSuffix (t ++ p) p = true :=
  (hasSuffix_iff _ _).mpr ⟨t, rfl⟩

/-- `sub` occurs in `s` at byte offset `i`. -/
def OccAt (s sub : Bytes) (i : Nat) : Prop := ∃ a b, s = a ++ sub ++ b ∧ a.length = i

theorem occAt_zero_iff (s sub : Bytes) : OccAt s sub 0 ↔ hasPrefix s sub = true := by
  rw [hasPrefix_iff]
  constructor
  · rintro ⟨a, b, h, ha⟩
    have : a = [] := List.eq_nil_of_length_eq_zero ha
    subst this
    exact ⟨b, by simpa using h⟩
  · rintro ⟨t, h⟩
    exact ⟨[], t, by simpa using h, rfl⟩

theorem occAt_nil_iff (sub : Bytes) (i : Nat) : OccAt [] sub i ↔ sub = [] ∧ i = 0 := by
  constructor
  · rintro ⟨a, b, h, ha⟩
    have h' := h.symm
    simp only [List.append_eq_nil_iff] at h'
    obtain ⟨⟨ha', hs⟩, _⟩ := h'
    subst ha'
    exact ⟨hs, ha.symm⟩
  · rintro ⟨rfl, rfl⟩
    exact ⟨[], [], rfl, rfl⟩

theorem occAt_cons_succ_iff (c : UInt8) (s sub : Bytes) (i : Nat) :
    OccAt (c :: s) sub (i + 1) ↔ OccAt s sub i := by
  constructor
  · rintro ⟨a, b, h, ha⟩
    cases a with
    | nil => simp at ha
    | cons a0 a =>
      simp only [List.cons_append, List.cons.injEq] at h
      exact ⟨a, b, h.2, by simpa using ha⟩
  · rintro ⟨a, b, h, ha⟩
    exact ⟨c :: a, b, by simp [h], by simp [ha]⟩

theorem occAt_le_length {s sub : Bytes} {i : Nat} (h : OccAt s sub i) : i + sub.length ≤ s.length := by
  obtain ⟨a, b, h, ha⟩ := h
  subst h; simp; omega

theorem indexOf_go_shift (sub s : Bytes) (k : Nat) :
    indexOf.go sub s k = (indexOf.go sub s 0).map (· + k) := by
  induction s generalizing k with
  | nil => simp only [indexOf.go]; split <;> simp
  | cons a t ih =>
    simp only [indexOf.go]
    split
    · simp
    · rw [ih (k + 1), ih (0 + 1)]
      simp only [Option.map_map]
      congr 1
      funext x
      simp only [Function.comp]
      omega

theorem indexOf_nil (sub : Bytes) : indexOf [] sub = if sub.isEmpty then some 0 else none := by
  simp [indexOf, indexOf.go]

theorem indexOf_cons (a : UInt8) (t sub : Bytes) :
    indexOf (a :: t) sub =
      if hasPrefix (a :: t) sub then some 0 else (indexOf t sub).map (· + 1) := by
  simp only [indexOf, indexOf.go]
  split
  · rfl
  · rw [indexOf_go_shift]

/-- `strings.Index s sub = i`: `sub` occurs at offset `i` and at no earlier offset. -/
theorem indexOf_some_iff (s sub : Bytes) (i : Nat) :
    indexOf s sub = some i ↔ OccAt s sub i ∧ ∀ j, j < i → ¬ OccAt s sub j := by
  induction s generalizing i with
  | nil =>
    rw [indexOf_nil]
    simp only [occAt_nil_iff]
    cases sub with
    | nil =>
      simp only [List.isEmpty_nil, if_true, Option.some.injEq, true_and]
      constructor
      · intro h; subst h; exact ⟨rfl, fun j hj => by omega⟩
      · intro h; exact h.1.symm
    | cons b sub => simp
  | cons a t ih =>
    rw [indexOf_cons]
    by_cases hp : hasPrefix (a :: t) sub = true
    · simp only [hp, if_true, Option.some.injEq]
      constructor
      · intro h; subst h
        exact ⟨(occAt_zero_iff _ _).mpr hp, fun j hj => by omega⟩
      · rintro ⟨_, h2⟩
        cases i with
        | zero => rfl
        | succ i => exact absurd ((occAt_zero_iff _ _).mpr hp) (h2 0 (by omega))
    · simp only [hp, Bool.false_eq_true, if_false, Option.map_eq_some_iff]
      have hp0 : ¬ OccAt (a :: t) sub 0 := fun h => hp ((occAt_zero_iff _ _).mp h)
      constructor
      · rintro ⟨i', hi', rfl⟩
        obtain ⟨h1, h2⟩ := (ih i').mp hi'
        refine ⟨(occAt_cons_succ_iff _ _ _ _).mpr h1, ?_⟩
        intro j hj
        cases j with
        | zero => exact hp0
        | succ j =>
          rw [occAt_cons_succ_iff]
          exact h2 j (by omega)
      · rintro ⟨h1, h2⟩
        cases i with
        | zero => exact absurd h1 hp0
        | succ i =>
          refine ⟨i, (ih i).mpr ⟨(occAt_cons_succ_iff _ _ _ _).mp h1, ?_⟩, rfl⟩
          intro j hj hocc
          exact h2 (j + 1) (by omega) ((occAt_cons_succ_iff _ _ _ _).mpr hocc)

/-- `strings.Index s sub = -1`: no occurrence (the least offset of one would be the index). -/
theorem indexOf_none_iff (s sub : Bytes) : indexOf s sub = none ↔ ∀ i, ¬ OccAt s sub i := by
  constructor
  · intro h i
    induction i using Nat.strongRecOn with
    | _ i ih =>
      intro hocc
      have := (indexOf_some_iff s sub i).mpr ⟨hocc, ih⟩
      rw [h] at this
      cases this
  · intro h
    cases hi : indexOf s sub with
    | none => rfl
    | some i => exact absurd ((indexOf_some_iff s sub i).mp hi).1 (h i)

theorem indexOf_zero_iff (s sub : Bytes) : indexOf s sub = some 0 ↔ hasPrefix s sub = true := by
  rw [indexOf_some_iff, occAt_zero_iff]
  constructor
  · exact fun h => h.1
  · exact fun h => ⟨h, fun j hj => by omega⟩

/-- `strings.Contains s sub`. -/
theorem hasSub_iff (s sub : Bytes) : hasSub s sub = true ↔ ∃ a b, s = a ++ sub ++ b :=
  Bytes.hasSub_iff s sub

/-- `strings.Index s sub > 0` as the model writes it: an occurrence exists and none at offset 0. -/
theorem indexOf_pos_iff (s sub : Bytes) :
    ((indexOf s sub).getD 0 > 0 ∧ (indexOf s sub).isSome = true) ↔
      (∃ i, OccAt s sub i) ∧ hasPrefix s sub = false := by
  cases h : indexOf s sub with
  | none =>
    have := (indexOf_none_iff s sub).mp h
    simp only [Option.getD_none, Option.isSome_none, Bool.false_eq_true, and_false, false_iff]
    rintro ⟨⟨i, hi⟩, _⟩
    exact this i hi
  | some i =>
    have hi := (indexOf_some_iff s sub i).mp h
    simp only [Option.getD_some, Option.isSome_some, and_true]
    constructor
    · intro hpos
      refine ⟨⟨i, hi.1⟩, ?_⟩
      cases hp : hasPrefix s sub with
      | false => rfl
      | true => exact absurd ((occAt_zero_iff _ _).mpr hp) (hi.2 0 hpos)
    · rintro ⟨_, hp⟩
      cases i with
      | zero =>
        have := (occAt_zero_iff _ _).mp hi.1
        rw [hp] at this; cases this
      | succ i => omega

/-- the double-HasSuffix test of the Go code is the plain "is d or a subdomain of d" statement -/
theorem plain_domain_test_iff (host d : Bytes) :
    (host == d || (hasSuffix host d && hasSuffix host (ch '.' :: d))) = specPlainDomain host d := by
  unfold specPlainDomain
  cases h2 : hasSuffix host (ch '.' :: d) with
  | false => simp
  | true =>
    obtain ⟨t, ht⟩ := (hasSuffix_iff _ _).mp h2
    have : hasSuffix host d = true :=
      (hasSuffix_iff _ _).mpr ⟨t ++ [ch '.'], by simp [ht]⟩
    simp [this]

/-- the final test of the wildcard branch implies its pre-check, for hosts not starting with `.` -/
theorem wildcard_precheck_of_final (host w tld : Bytes) (h : host.head? ≠ some (ch '.'))
    (hfin : (host == w ++ tld || hasSuffix host (ch '.' :: (w ++ tld))) = true) :
    (hasPrefix host w ||
        (decide ((indexOf host w).getD 0 > 0 ∧ (indexOf host w).isSome) &&
         decide ((indexOf host (ch '.' :: w)).getD 0 > 0 ∧
            (indexOf host (ch '.' :: w)).isSome))) = true := by
  rw [Bool.or_eq_true] at hfin
  rcases hfin with heq | hsuf
  · have : host = w ++ tld := by simpa using heq
    subst this
    simp [H.hasPrefix_append_self]
  · obtain ⟨x, hx⟩ := (hasSuffix_iff _ _).mp hsuf
    cases hp : hasPrefix host w with
    | true => simp
    | false =>
      have hdot : hasPrefix host (ch '.' :: w) = false := by
        cases hp' : hasPrefix host (ch '.' :: w) with
        | false => rfl
        | true =>
          obtain ⟨t, rfl⟩ := (hasPrefix_iff _ _).mp hp'
          simp at h
      have h1 : (indexOf host w).getD 0 > 0 ∧ (indexOf host w).isSome = true :=
        (indexOf_pos_iff _ _).mpr
          ⟨⟨(x ++ [ch '.']).length, x ++ [ch '.'], tld, by simp [hx], rfl⟩, hp⟩
      have h2 : (indexOf host (ch '.' :: w)).getD 0 > 0 ∧
          (indexOf host (ch '.' :: w)).isSome = true :=
        (indexOf_pos_iff _ _).mpr ⟨⟨x.length, x, tld, by simp [hx], rfl⟩, hdot⟩
      simp [h1, h2]

theorem lit_dotstar : lit ".*" = [ch '.', 42] := by decide

/-- the wildcard test with its HasPrefix / Index>0 pre-check is the spec's statement (label boundary
    included), for hosts that do not begin with a dot -/
theorem domainEntryMatches_eq_spec (ext : Ext) (host d : Bytes) (h : host.head? ≠ some (ch '.')) :
    domainEntryMatches ext host d = specDomainEntry ext host d := by
  unfold domainEntryMatches specDomainEntry
  by_cases hd : hasSuffix d (lit ".*") = true
  · obtain ⟨base, hb⟩ := (hasSuffix_iff _ _).mp hd
    rw [lit_dotstar] at hb
    have hw : d.take (d.length - 1) = base ++ [ch '.'] := by
      subst hb
      have : (base ++ [ch '.', 42]) = (base ++ [ch '.']) ++ [42] := by simp
      rw [this]
      apply List.take_left'
      simp
    have hbase : d.take (d.length - 2) = base := by
      subst hb
      apply List.take_left'
      simp
    unfold specWildcardDomain
    rcases hpsl : ext.psl host with ⟨tld, icann⟩
    simp only [hd, if_true, hw, hbase]
    have hname : base ++ [ch '.'] ++ tld = base ++ ch '.' :: tld := by simp
    split
    · rw [hname]
    · rename_i hpre
      rw [← hname]
      cases hfin : (host == base ++ [ch '.'] ++ tld ||
          hasSuffix host (ch '.' :: (base ++ [ch '.'] ++ tld)))
      · simp
      · exact absurd (wildcard_precheck_of_final host (base ++ [ch '.']) tld h hfin) hpre
  · simp only [hd, Bool.false_eq_true, if_false]
    exact plain_domain_test_iff host d

theorem isDomainOrSubdomainOfAny_eq_spec (ext : Ext) (host : Bytes) (ds : List Bytes)
    (h : host.head? ≠ some (ch '.')) :
    isDomainOrSubdomainOfAny ext host ds = specInDomains ext host ds := by
  unfold isDomainOrSubdomainOfAny specInDomains
  congr 1
  funext d
  exact domainEntryMatches_eq_spec ext host d h

theorem and_two_pow_cases (n k : Nat) : n &&& 2 ^ k = 0 ∨ n &&& 2 ^ k = 2 ^ k := by
  rw [and_two_pow_eq]
  cases n.testBit k
  · exact .inl rfl
  · exact .inr rfl

/-- content-type masks: for a request type that is a single bit -/
theorem matchRequestType_eq_spec (r : NetRule) (k : Nat) :
    matchRequestType r (2 ^ k) = specReqType r (2 ^ k) := by
  unfold matchRequestType specReqType
  -- `m &&& 2 ^ k` is `0` or the bit itself, and `0` when `m = 0`
  have key : ∀ m : Nat, (!(m != 0 && (m &&& 2 ^ k) != 2 ^ k)) = (m == 0 || (m &&& 2 ^ k) != 0) ∧
      (!(m != 0 && (m &&& 2 ^ k) == 2 ^ k)) = ((m &&& 2 ^ k) == 0) := by
    intro m
    have hpos : 2 ^ k ≠ 0 := Nat.pos_iff_ne_zero.mp (Nat.two_pow_pos k)
    by_cases h0 : m = 0
    · subst h0; simp
    · have b0 : (m == 0) = false := beq_eq_false_iff_ne.mpr h0
      have t0 : ((2 ^ k : Nat) == 0) = false := beq_eq_false_iff_ne.mpr hpos
      have t1 : ((0 : Nat) == 2 ^ k) = false := beq_eq_false_iff_ne.mpr hpos.symm
      rcases and_two_pow_cases m k with e | e <;> simp [e, bne, b0, t0, t1]
  rw [(key r.permTypes).1, (key r.restrTypes).2]

end UF.E
