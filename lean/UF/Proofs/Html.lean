import UF.Spec.Html
/- Latin-1 round trip; marker tests on the transcoded text against tests on the bytes. -/
namespace UF.Html

/-- A statement about all 256 byte values, checked value by value. -/
theorem forall_uint8 (P : UInt8 → Prop) (h : ∀ n : Fin 256, P (UInt8.ofNat n.val)) : ∀ c, P c := by
  intro c
  have := h ⟨c.toNat, c.toNat_lt⟩
  simpa using this

/-- The two bytes `encByte` produces for a high byte: a lead byte C2/C3, a continuation byte, and
    they decode back to the byte. -/
theorem enc_hi : ∀ c : UInt8, ¬ c < 0x80 →
    ¬ ((0xC0 : UInt8) ||| (c >>> 6)) < 0x80 ∧
    ((((0xC0 : UInt8) ||| (c >>> 6)) == 0xC2 || ((0xC0 : UInt8) ||| (c >>> 6)) == 0xC3) = true) ∧
    (0x80 : UInt8) ≤ ((0x80 : UInt8) ||| (c &&& 0x3F)) ∧ ((0x80 : UInt8) ||| (c &&& 0x3F)) ≤ 0xBF ∧
    (((((0xC0 : UInt8) ||| (c >>> 6)) &&& 0x03) <<< 6) ||| (((0x80 : UInt8) ||| (c &&& 0x3F)) &&& 0x3F)) = c := by
  apply forall_uint8
  decide +kernel

theorem latin1Decode_cons (c : UInt8) (r : Bytes) : latin1Decode (c :: r) = encByte c ++ latin1Decode r := by
  simp [latin1Decode]

theorem latin1Decode_append (a b : Bytes) : latin1Decode (a ++ b) = latin1Decode a ++ latin1Decode b := by
  simp [latin1Decode]

/-- Encoding undoes the transcoding of one byte, whatever follows. -/
theorem latin1Encode_encByte (c : UInt8) (rest : Bytes) :
    latin1Encode (encByte c ++ rest) = (latin1Encode rest).map (c :: ·) := by
  unfold encByte
  by_cases h : c < 0x80
  · rw [if_pos h, List.cons_append, List.nil_append, latin1Encode.eq_def]; simp [h]
  · obtain ⟨h1, h2, h3, h4, h5⟩ := enc_hi c h
    simp only [h, if_false, List.cons_append, List.nil_append]
    rw [latin1Encode.eq_def]
    simp only [h1, if_false]
    have hcond : ((((0xC0 : UInt8) ||| (c >>> 6)) == 0xC2 || ((0xC0 : UInt8) ||| (c >>> 6)) == 0xC3) &&
        decide ((0x80 : UInt8) ≤ ((0x80 : UInt8) ||| (c &&& 0x3F))) && decide (((0x80 : UInt8) ||| (c &&& 0x3F)) ≤ 0xBF)) = true := by
      simp [h2, h3, h4]
    simp only [hcond, if_true, h5]

theorem latin1Encode_decode_append (a rest : Bytes) :
    latin1Encode (latin1Decode a ++ rest) = (latin1Encode rest).map (a ++ ·) := by
  induction a with
  | nil => simp [latin1Decode]
  | cons c r ih =>
    rw [latin1Decode_cons, List.append_assoc, latin1Encode_encByte, ih]
    cases latin1Encode rest <;> simp

theorem latin1Encode_decode (a : Bytes) : latin1Encode (latin1Decode a) = some a := by
  have := latin1Encode_decode_append a []
  simpa [latin1Encode] using this

theorem latin1Encode_ascii_append (t rest : Bytes) (h : Bytes.isAscii t = true) :
    latin1Encode (t ++ rest) = (latin1Encode rest).map (t ++ ·) := by
  induction t with
  | nil => simp
  | cons c r ih =>
    simp only [Bytes.isAscii, List.all_cons, Bool.and_eq_true, decide_eq_true_eq] at h
    have hr : Bytes.isAscii r = true := by simpa [Bytes.isAscii] using h.2
    have hc : c < 0x80 := h.1
    rw [List.cons_append, latin1Encode.eq_def]
    simp only [hc, if_true, ih hr]
    cases latin1Encode rest <;> simp

/-- Prefix match with `eqFoldByte` (what `isMatchFound` computes). -/
def pmatch : Bytes → Bytes → Bool
  | _, [] => true
  | [], _ :: _ => false
  | a :: s, b :: m => eqFoldByte a b && pmatch s m

theorem isMatchFound_eq_pmatch (x m : Bytes) : isMatchFound x m = pmatch x m := by
  induction m generalizing x with
  | nil => simp [isMatchFound, pmatch, equalFold]
  | cons b m ih =>
    cases x with
    | nil => simp [isMatchFound, pmatch]
    | cons a x =>
      have := ih x
      unfold isMatchFound at this ⊢
      simp only [List.length_cons, List.take_succ_cons, pmatch, equalFold] at this ⊢
      rw [← this]
      cases eqFoldByte a b <;> simp

theorem eqFoldByte_hi {a b : UInt8} (h : ¬ a < 0x80) : eqFoldByte a b = false := by
  simp [eqFoldByte, h]

/-- On the transcoded text a marker is found exactly where the bytes start with it. -/
theorem pmatch_decode (s m : Bytes) (hm : Bytes.isAscii m = true) :
    pmatch (latin1Decode s) m = startsWithFold s m := by
  induction m generalizing s with
  | nil => simp [pmatch, startsWithFold]
  | cons b m ih =>
    simp only [Bytes.isAscii, List.all_cons, Bool.and_eq_true, decide_eq_true_eq] at hm
    have hm' : Bytes.isAscii m = true := by simpa [Bytes.isAscii] using hm.2
    have hb : b < 0x80 := hm.1
    cases s with
    | nil => simp [latin1Decode, pmatch, startsWithFold]
    | cons a s =>
      rw [latin1Decode_cons]
      unfold encByte
      by_cases ha : a < 0x80
      · simp only [ha, if_true, List.cons_append, List.nil_append, pmatch, startsWithFold, ih s hm', eqFoldByte, hb]
        cases (Bytes.lowerByte a == Bytes.lowerByte b) <;> simp
      · obtain ⟨h1, _⟩ := enc_hi a ha
        simp only [ha, if_false, List.cons_append, List.nil_append, pmatch, startsWithFold, eqFoldByte_hi h1]
        simp

theorem markers_ascii : ∀ m ∈ markers, Bytes.isAscii m = true := by decide +kernel

theorem anyMarker_decode (s : Bytes) : anyMarker (latin1Decode s) = markerAt s := by
  unfold anyMarker markerAt
  apply Bool.eq_iff_iff.mpr
  simp only [List.any_eq_true]
  constructor <;> rintro ⟨m, hm, h⟩ <;> refine ⟨m, hm, ?_⟩
  · rwa [isMatchFound_eq_pmatch, pmatch_decode _ _ (markers_ascii m hm)] at h
  · rwa [isMatchFound_eq_pmatch, pmatch_decode _ _ (markers_ascii m hm)]

end UF.Html
