import UF.Model.NewRule
import UF.Proofs.ParseTotal
/- What a successful parse guarantees: the equations of `parseNetRule` / `newRule` read once (`*_ok_elim`), the
   well-formedness invariant of parsed rules, and lines that yield no rule being inert for the scan. -/
namespace UF.E
open Bytes

theorem scanAccepted_append (rx : RuleExt) (id : Int) (a b : List Bytes) :
    scanAccepted rx id (a ++ b) = scanAccepted rx id a ++ scanAccepted rx id b := by
  simp [scanAccepted, List.filterMap_append]

/-- lines that yield no rule are inert for the scan: deleting (equivalently, inserting) them anywhere
    does not change the sequence of accepted rules -/
theorem scanAccepted_filter (rx : RuleExt) (id : Int) (lines : List Bytes) (keep : Bytes → Bool)
    (h : ∀ l ∈ lines, keep l = false → acceptedOf rx id l = none) :
    scanAccepted rx id (lines.filter keep) = scanAccepted rx id lines := by
  induction lines with
  | nil => rfl
  | cons x xs ih =>
    have ih' := ih (fun l hl => h l (List.mem_cons_of_mem _ hl))
    unfold scanAccepted at ih' ⊢
    cases hk : keep x with
    | true => simp [hk, List.filterMap_cons, ih']
    | false =>
      have hx := h x (List.mem_cons_self) hk
      simp [hk, hx, ih']

/-- inserting one inert line anywhere -/
theorem scanAccepted_insert (rx : RuleExt) (id : Int) (a b : List Bytes) (n : Bytes)
    (h : acceptedOf rx id n = none) : scanAccepted rx id (a ++ n :: b) = scanAccepted rx id (a ++ b) := by
  simp [scanAccepted, List.filterMap_append, h]

/-- `NewRule` reads the line only through `TrimSpace`. -/
theorem newRule_congr_trim (rx : RuleExt) {a b : Bytes} (id : Int)
    (h : rx.trim a = rx.trim b) : newRule rx a id = newRule rx b id := by
  unfold newRule
  simp only [h]

/-- A line that trims to nothing yields no rule. -/
theorem newRule_blank {rx : RuleExt} {line : Bytes} (h : rx.trim line = []) (id : Int) :
    newRule rx line id = .ok none := by
  unfold newRule
  simp only [h]
  rfl

/-- CRLF line endings: if TrimSpace ignores a trailing CR, every line gives the same rule -/
theorem scanAccepted_crlf (rx : RuleExt) (id : Int) (lines : List Bytes)
    (hcr : ∀ l, rx.trim (l ++ [13]) = rx.trim l) :
    scanAccepted rx id (lines.map (· ++ [13])) = scanAccepted rx id lines := by
  have hacc : ∀ l, acceptedOf rx id (l ++ [13]) = acceptedOf rx id l := fun l => by
    unfold acceptedOf newRule
    simp only [hcr]
  unfold scanAccepted
  rw [List.filterMap_map]
  exact congrArg (List.filterMap · lines) (funext hacc)

/-- The equations of `parseNetRule`: a successful run is `parseRuleText`, the option loop on the
    initial record, the rewrite of a trailing `/*` to `^`, and the shortcut of the rewritten pattern. -/
theorem parseNetRule_ok_elim {px : ParseExt} {t : Bytes} {id : Int} {r : NetRule}
    (h : parseNetRule px t id = .ok r) :
    ∃ pat opts wl r1 r2 sc,
      parseRuleText t = .ok (pat, opts, wl) ∧
      loadOptions px { text := t, whitelist := wl, listID := id, pattern := pat } opts = .ok r1 ∧
      r2 = (if hasSuffix r1.pattern (lit "/*") then
              { r1 with pattern := r1.pattern.take (r1.pattern.length - 2) ++ lit "^" } else r1) ∧
      shortcutCandidate px r2.pattern = .ok sc ∧
      r = if sc.length > 1 then { r2 with shortcut := toLower sc } else r2 := by
  unfold parseNetRule at h
  obtain ⟨⟨pat, opts, wl⟩, hprt, h⟩ := bind_ok_elim h
  obtain ⟨r1, hl, h⟩ := bind_ok_elim h
  extract_lets rest at h
  -- validation and shortcut, shared by both branches of the `/*` test
  have hrest : ∀ r2, rest r2 = .ok r → ∃ sc, shortcutCandidate px r2.pattern = .ok sc ∧
      r = if sc.length > 1 then { r2 with shortcut := toLower sc } else r2 := by
    intro r2 h
    simp only [rest] at h
    refine ite_ok_elim h (fun h => nomatch h) fun h => ?_
    obtain ⟨sc, hsc, h⟩ := bind_ok_elim h
    refine ⟨sc, hsc, ?_⟩
    split at h
    · rename_i hlen
      rw [if_pos hlen]
      exact (pure_ok_elim h).symm
    · rename_i hlen
      rw [if_neg hlen]
      exact (pure_ok_elim h).symm
  split at h
  · rename_i hsuf
    obtain ⟨p, hp, h⟩ := bind_ok_elim h
    obtain ⟨r2, hr2, h⟩ := bind_ok_elim h
    cases pure_ok_elim hr2
    rw [sliceC_ok ⟨Nat.zero_le _, Nat.sub_le _ _⟩, List.drop_zero] at hp
    cases hp
    obtain ⟨sc, hsc, hr⟩ := hrest _ h
    exact ⟨pat, opts, wl, r1, _, sc, hprt, hl, (if_pos hsuf).symm, hsc, hr⟩
  · rename_i hsuf
    obtain ⟨r2, hr2, h⟩ := bind_ok_elim h
    cases pure_ok_elim hr2
    obtain ⟨sc, hsc, hr⟩ := hrest _ h
    exact ⟨pat, opts, wl, r1, _, sc, hprt, hl, (if_neg hsuf).symm, hsc, hr⟩

/-- A property that survives the writes of the option loop and the two final writes (pattern,
    shortcut) holds of the parsed rule if it holds of every initial record. -/
theorem parseNetRule_loopInv {px : ParseExt} {P : NetRule → Prop} (hP : LoopInv px P)
    (hpat : ∀ r x, P r → P { r with pattern := x }) (hsc : ∀ r x, P r → P { r with shortcut := x })
    {t : Bytes} {id : Int} {r : NetRule}
    (h0 : ∀ pat wl, P { text := t, whitelist := wl, listID := id, pattern := pat })
    (h : parseNetRule px t id = .ok r) : P r := by
  obtain ⟨pat, opts, wl, r1, r2, sc, _, hl, rfl, _, rfl⟩ := parseNetRule_ok_elim h
  have h1 : P r1 := loadOptions_loopInv hP (h0 pat wl) hl
  have h2 : P (if hasSuffix r1.pattern (lit "/*") then
      { r1 with pattern := r1.pattern.take (r1.pattern.length - 2) ++ lit "^" } else r1) :=
    ite_pred P (fun _ => hpat _ _ h1) fun _ => h1
  exact ite_pred P (fun _ => hsc _ _ h2) fun _ => h2

/-- The invariant of the option loop. -/
structure PInv (t : Bytes) (id : Int) (r : NetRule) : Prop where
  text : r.text = t
  listID : r.listID = id
  wf : r.WellFormed

theorem pinv_loopInv (px : ParseExt) (t : Bytes) (id : Int) : LoopInv px (PInv t id) where
  enable := fun _ _ _ ⟨h1, h2, w⟩ => ⟨h1, h2, ⟨w.1, w.2, w.3, w.4⟩⟩
  disable := fun _ _ _ ⟨h1, h2, w⟩ => ⟨h1, h2, ⟨w.1, w.2, w.3, w.4⟩⟩
  noExtension := fun _ ⟨h1, h2, w⟩ => ⟨h1, h2, ⟨w.1, w.2, w.3, w.4⟩⟩
  permType := fun _ _ _ ⟨h1, h2, w⟩ => ⟨h1, h2, ⟨w.1, w.2, w.3, w.4⟩⟩
  restrType := fun _ _ _ ⟨h1, h2, w⟩ => ⟨h1, h2, ⟨w.1, w.2, w.3, w.4⟩⟩
  documentOnly := fun _ ⟨h1, h2, w⟩ => ⟨h1, h2, ⟨w.1, w.2, w.3, w.4⟩⟩
  dns := fun _ _ _ ⟨h1, h2, w⟩ => ⟨h1, h2, ⟨w.1, w.2, w.3, w.4⟩⟩
  domains := fun _ _ _ _ _ ⟨h1, h2, w⟩ => ⟨h1, h2, ⟨w.1, w.2, w.3, w.4⟩⟩
  denyallow := fun _ _ ⟨h1, h2, w⟩ => ⟨h1, h2, ⟨w.1, w.2, w.3, w.4⟩⟩
  tags := fun _ _ _ hp hr ⟨h1, h2, w⟩ => ⟨h1, h2, ⟨hp, hr, w.3, w.4⟩⟩
  clients := fun _ _ _ hp hr ⟨h1, h2, w⟩ => ⟨h1, h2, ⟨w.1, w.2, hp, hr⟩⟩
  rewrite := fun _ _ _ _ ⟨h1, h2, w⟩ => ⟨h1, h2, ⟨w.1, w.2, w.3, w.4⟩⟩

theorem parseNetRule_inv {px : ParseExt} {t : Bytes} {id : Int} {r : NetRule}
    (h : parseNetRule px t id = .ok r) : PInv t id r :=
  parseNetRule_loopInv (pinv_loopInv px t id)
    (fun _ _ ⟨h1, h2, w⟩ => ⟨h1, h2, ⟨w.1, w.2, w.3, w.4⟩⟩)
    (fun _ _ ⟨h1, h2, w⟩ => ⟨h1, h2, ⟨w.1, w.2, w.3, w.4⟩⟩)
    (fun _ _ => ⟨rfl, rfl, ⟨List.Pairwise.nil, List.Pairwise.nil, nofun, nofun⟩⟩) h

/-- a parsed network rule keeps the text and the list id it was given -/
theorem parseNetRule_text {px : ParseExt} {t : Bytes} {id : Int} {r : NetRule}
    (h : parseNetRule px t id = .ok r) : r.text = t ∧ r.listID = id :=
  ⟨(parseNetRule_inv h).text, (parseNetRule_inv h).listID⟩

/-- the parser leaves client tags and client host names sorted -/
theorem parseNetRule_wellFormed {px : ParseExt} {t : Bytes} {id : Int} {r : NetRule}
    (h : parseNetRule px t id = .ok r) : r.WellFormed :=
  (parseNetRule_inv h).wf

/-- What `NewCosmeticRule` returns keeps the text and the list id, and its permitted domains are what
    `loadDomains` made of the text before the marker (none if the marker stands first). -/
theorem newCosmeticRule_ok_elim {trim : Bytes → Bytes} {t : Bytes} {id : Int} {c : CosRule}
    (h : newCosmeticRule trim t id = .ok c) :
    c.text = t ∧ c.listID = id ∧
      (c.permDomains = [] ∨ ∃ v rs, loadDomains v (ch ',') = .ok (c.permDomains, rs)) := by
  unfold newCosmeticRule at h
  obtain ⟨mk, _, h⟩ := bind_ok_elim h
  split at h
  · cases h
  · extract_lets jp at h
    have hjp : ∀ x, (x.1 = [] ∨ ∃ v rs, loadDomains v (ch ',') = .ok (x.1, rs)) → jp x = .ok c →
        c.text = t ∧ c.listID = id ∧
          (c.permDomains = [] ∨ ∃ v rs, loadDomains v (ch ',') = .ok (c.permDomains, rs)) := by
      rintro ⟨permitted, restricted⟩ hx h
      simp only [jp] at h
      obtain ⟨rest, _, h⟩ := bind_ok_elim h
      refine ite_ok_elim h (fun h => nomatch h) fun h => ?_
      -- both ways of building the `CosRule` store text, id and permitted domains as given
      refine ite_ok_elim h (fun h => ?_) fun h => ite_ok_elim h (fun h => ?_) fun h => nomatch h
      · cases pure_ok_elim h
        exact ⟨rfl, rfl, hx⟩
      · refine ite_ok_elim h (fun h => nomatch h) fun h => ?_
        cases pure_ok_elim h
        exact ⟨rfl, rfl, hx⟩
    refine ite_ok_elim h (fun h => ?_) fun h => hjp ([], []) (.inl rfl) h
    obtain ⟨domains, _, h⟩ := bind_ok_elim h
    split at h
    · next pr hpr => exact hjp pr (.inr ⟨domains, pr.2, hpr⟩) h
    · cases h
    · cases h

theorem newCosmeticRule_text {trim : Bytes → Bytes} {t : Bytes} {id : Int} {c : CosRule}
    (h : newCosmeticRule trim t id = .ok c) : c.text = t ∧ c.listID = id :=
  ⟨(newCosmeticRule_ok_elim h).1, (newCosmeticRule_ok_elim h).2.1⟩

/-- Where a rule returned by `NewRule` comes from: one of the three constructors, run on the trimmed
    line. -/
theorem newRule_ok_elim {rx : RuleExt} {line : Bytes} {id : Int} {r : Rule}
    (h : newRule rx line id = .ok (some r)) :
    (∃ c, r = .cos c ∧ newCosmeticRule rx.trim (rx.trim line) id = .ok c) ∨
    (∃ hr, r = .host hr ∧ rx.newHostRule (rx.trim line) id = some hr) ∨
    (∃ n, r = .net n ∧ parseNetRule rx.px (rx.trim line) id = .ok n) := by
  unfold newRule at h
  refine ite_ok_elim h (fun h => nomatch pure_ok_elim h) fun h => ?_
  obtain ⟨isc, _, h⟩ := bind_ok_elim h
  refine ite_ok_elim h (fun h => nomatch pure_ok_elim h) fun h => ?_
  obtain ⟨mk, _, h⟩ := bind_ok_elim h
  split at h
  · obtain ⟨c, hc, h⟩ := bind_ok_elim h
    cases pure_ok_elim h
    exact .inl ⟨c, rfl, hc⟩
  · split at h
    · cases pure_ok_elim h
      exact .inr (.inl ⟨_, rfl, ‹_›⟩)
    · obtain ⟨n, hn, h⟩ := bind_ok_elim h
      cases pure_ok_elim h
      exact .inr (.inr ⟨n, rfl, hn⟩)

/-- C12: a line yields a rule whose text is the trimmed line and whose list id is the one given -/
theorem newRule_text {rx : RuleExt} {line : Bytes} {id : Int} {r : Rule}
    (hhost : ∀ t i h, rx.newHostRule t i = some h → h.text = t ∧ h.listID = i)
    (h : newRule rx line id = .ok (some r)) : r.text = rx.trim line ∧ r.listID = id := by
  rcases newRule_ok_elim h with ⟨c, rfl, hc⟩ | ⟨hr, rfl, hh⟩ | ⟨n, rfl, hn⟩
  · exact newCosmeticRule_text hc
  · exact hhost _ _ _ hh
  · exact parseNetRule_text hn

end UF.E
