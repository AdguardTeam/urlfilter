import UF.Proofs.Request
/-
  Helper lemmas for C17 (`etld1_spec`): `strings.Split` / join / `LastIndex` on labels, and the
  hand-rolled `effectiveTLDPlusOne` = "public suffix plus one label".
-/
namespace UF.H
open Bytes

/-- Every string is `c`-free or ends with a `c`-free label after its last `c`. -/
theorem exists_last_label (c : UInt8) (s : Bytes) :
    s.all (fun x => x != c) = true ∨ ∃ p l, s = p ++ c :: l ∧ l.all (fun x => x != c) = true := by
  induction s with
  | nil => left; rfl
  | cons x t ih =>
    rcases ih with h | ⟨p, l, hs, hl⟩
    · by_cases hx : x = c
      · right
        exact ⟨[], t, by simp [hx], h⟩
      · left
        simp only [List.all_cons, Bool.and_eq_true, bne_iff_ne, ne_eq]
        exact ⟨hx, h⟩
    · right
      exact ⟨x :: p, l, by simp [hs], hl⟩

theorem last_label (s : Bytes) :
    ∃ init l, splitByte s (ch '.') = init ++ [l] ∧ s.drop (lastLabelStart s) = l ∧
      lastLabelStart s ≤ s.length := by
  unfold lastLabelStart
  rcases exists_last_label (ch '.') s with hfree | ⟨p, l, rfl, hl⟩
  · exact ⟨[], s, splitByte_free _ s hfree, by rw [lastIndexByte_free _ s hfree]; rfl, by
      rw [lastIndexByte_free _ s hfree]; exact Nat.zero_le _⟩
  · refine ⟨splitByte p (ch '.'), l, by rw [splitByte_append_sep, splitByte_free _ l hl], ?_, ?_⟩ <;>
      rw [lastIndexByte_last _ p l hl] <;> simp

theorem noEmptyLabel_append_dot (a b : Bytes) :
    noEmptyLabel (a ++ ch '.' :: b) = (noEmptyLabel a && noEmptyLabel b) := by
  simp [noEmptyLabel, splitByte_append_sep]

theorem noEmptyLabel_ne_nil {h : Bytes} (hn : noEmptyLabel h = true) : h ≠ [] := by
  intro he
  subst he
  simp [noEmptyLabel, splitByte, splitByte.go] at hn

theorem noEmptyLabel_head {h : Bytes} (hn : noEmptyLabel h = true) : h.head? ≠ some (ch '.') := by
  intro hh
  cases h with
  | nil => simp at hh
  | cons a t =>
    simp at hh
    subst hh
    have := noEmptyLabel_append_dot [] t
    simp only [List.nil_append] at this
    rw [this] at hn
    simp [noEmptyLabel, splitByte, splitByte.go] at hn

theorem noEmptyLabel_last {h : Bytes} (hn : noEmptyLabel h = true) : h.getLast? ≠ some (ch '.') := by
  intro hh
  obtain ⟨p, hp⟩ := List.getLast?_eq_some_iff.mp hh
  subst hp
  rw [noEmptyLabel_append_dot] at hn
  simp [noEmptyLabel, splitByte, splitByte.go] at hn

/-- The hand-rolled `effectiveTLDPlusOne` is "public suffix plus one label" for every hostname
    without empty labels and every oracle answer that is a dot-suffix of the hostname. -/
theorem effectiveTLDPlusOne_eq_ref (ext : Ext) (h : Bytes) (hn : noEmptyLabel h = true)
    (hsuf : pslIsDotSuffix ext h) : effectiveTLDPlusOne ext h = .ok ((refETLD1 ext h).getD []) := by
  rw [effectiveTLDPlusOne_eq]
  unfold refETLD1 pslIsDotSuffix at *
  have hne := noEmptyLabel_ne_nil hn
  have hhead := noEmptyLabel_head hn
  have hlast := noEmptyLabel_last hn
  have hlen1 : ¬ h.length < 1 := by
    cases h with
    | nil => exact absurd rfl hne
    | cons a t => simp
  have hdots : (h.head? == some (ch '.') || h.getLast? == some (ch '.')) = false := by
    simp [hhead, hlast]
  simp only [hlen1, if_false, hdots, Bool.false_eq_true]
  generalize (ext.psl h).1 = suf at hsuf ⊢
  rcases hsuf with hs | ⟨pre, hs⟩
  · -- the host IS the suffix
    subst hs
    simp
  · subst hs
    have hlt : ¬ (pre ++ ch '.' :: suf).length < suf.length + 1 := by simp <;> omega
    have hi : (pre ++ ch '.' :: suf).length - suf.length - 1 = pre.length := by simp <;> omega
    simp only [hlt, if_false, hi]
    have hget : (pre ++ ch '.' :: suf)[pre.length]? = some (ch '.') := by simp
    have htake : (pre ++ ch '.' :: suf).take pre.length = pre := by simp
    simp only [hget, bne_self_eq_false, Bool.false_eq_true, if_false, htake]
    -- the labels of the host: those before the last label of `pre`, that label, those of the suffix
    obtain ⟨init, l, hsplit, hdrop, hle⟩ := last_label pre
    have hk : splitByte suf (ch '.') ≠ [] := splitByte_go_ne_nil _ _ _
    have hj := joinSep_splitByte (ch '.') suf
    rw [splitByte_append_sep, hsplit, List.drop_append_of_le_length hle, hdrop]
    generalize splitByte suf (ch '.') = sufL at hk hj ⊢
    have hnle : ¬ (init ++ [l] ++ sufL).length ≤ sufL.length := by simp <;> omega
    have hd : (init ++ [l] ++ sufL).length - (sufL.length + 1) = init.length := by simp <;> omega
    rw [if_neg hnle, hd, List.append_assoc, List.drop_left, Option.getD_some, List.singleton_append,
      joinSep_cons_of_ne_nil _ _ _ hk, hj]
    simp

/-- The reference registrable domain of a host without empty labels is never empty. -/
theorem refETLD1_ne_nil (ext : Ext) (h d : Bytes) (hn : noEmptyLabel h = true)
    (hr : refETLD1 ext h = some d) : d ≠ [] := by
  unfold refETLD1 at hr
  simp only at hr
  split at hr
  · cases hr
  · rename_i hlen
    simp only [Option.some.injEq] at hr
    subst hr
    generalize hL : splitByte h (ch '.') = labels at hlen hn
    generalize (splitByte (ext.psl h).1 (ch '.')).length = k at hlen
    have hall : ∀ l ∈ labels, l ≠ [] := by
      simpa [noEmptyLabel, hL] using hn
    have hdl : (labels.drop (labels.length - (k + 1))).length = k + 1 := by
      simp; omega
    cases hdrop : labels.drop (labels.length - (k + 1)) with
    | nil => rw [hdrop] at hdl; simp at hdl
    | cons x ys =>
      have hx : x ∈ labels := List.mem_of_mem_drop (by rw [hdrop]; simp)
      exact joinSep_ne_nil x ys _ (hall x hx)

theorem domain_eq_refDomain (ext : Ext) (h : Bytes) (hn : noEmptyLabel h = true) :
    (if !((refETLD1 ext h).getD []).isEmpty then (refETLD1 ext h).getD [] else h) = refDomain ext h := by
  unfold refDomain
  cases hr : refETLD1 ext h with
  | none => rfl
  | some d =>
    cases d with
    | nil => exact absurd rfl (refETLD1_ne_nil ext h [] hn hr)
    | cons c r => rfl

theorem refDomain_nil (ext : Ext) : refDomain ext [] = [] := by
  unfold refDomain refETLD1
  have : 0 < (splitByte (ext.psl []).1 (ch '.')).length :=
    List.length_pos_iff.mpr (splitByte_go_ne_nil _ _ _)
  rw [if_pos (show (splitByte [] (ch '.')).length ≤ _ from this)]
  rfl

theorem thirdParty_eq_ref (d sd : Bytes) : (!sd.isEmpty && sd != d) = refThirdParty d sd := by
  unfold refThirdParty
  cases sd with
  | nil => simp
  | cons y ys => by_cases h : y :: ys = d <;> simp [h]

end UF.H
