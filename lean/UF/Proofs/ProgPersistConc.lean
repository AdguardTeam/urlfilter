import UF.Proofs.ProgPersist
/-
  C19, "rules already materialised continue to be served", CONCURRENT form: a rule that is in the cache at some
  point of a schedule is returned by every thread that still has the index ahead of it (`Track`), whatever the
  other threads do and whatever `close` events follow.  `Track` is thread-local and `Step.track` relies on the
  shared state only through what every action of every thread preserves (`SInv`, the presence of the key).
-/
namespace UF.Prog
variable {R Re : Type}

/-- What an event of a schedule does to thread number `i`: nothing, or one action of its own. -/
theorem exec_thread {env : Env R Re} {c : Config R Re} {e : Ev} {i : Nat} {t' : Thread R}
    (h : (c.exec env e).threads[i]? = some t') :
    c.threads[i]? = some t' ∨ ∃ t, c.threads[i]? = some t ∧ Step env c.state t (c.exec env e).state t' := by
  cases e with
  | close l => exact Or.inl h
  | run tid =>
    simp only [Config.exec, Config.execG] at h ⊢
    cases htid : c.threads[tid]? with
    | none => rw [htid] at h; exact Or.inl h
    | some t0 =>
      rw [htid] at h
      simp only at h ⊢
      by_cases hi : tid = i
      · subst hi
        rw [List.getElem?_set_self (List.getElem?_eq_some_iff.1 htid).1] at h
        cases h
        exact Or.inr ⟨t0, htid, step_spec env c.state t0⟩
      · rw [List.getElem?_set_ne hi] at h; exact Or.inl h

/-- What is carried along a schedule for thread number `i`. -/
def TrackInv (env : Env R Re) (i : Nat) (q : Query) (src : Src) (idx : Idx) (r : R) (c : Config R Re) : Prop :=
  CInv (Sound env) env c ∧ (cacheLookup c.state.cache idx).isSome ∧
    ∀ t, c.threads[i]? = some t → t.q = q ∧ (t.pc ≠ .start → Track src idx r t)

theorem exec_trackInv {env : Env R Re} {i : Nat} {q : Query} {src : Src} {idx : Idx} {r : R} {c : Config R Re}
    (htr : env.truth idx = some r) (hw : env.wants src r = true) (hq : q.trivial = false)
    (hitem : Item.st src idx ∈ env.items1 (env.reqOf q)) (hv : env.verdict src r (env.reqOf q) = true)
    (e : Ev) (h : TrackInv env i q src idx r c) : TrackInv env i q src idx r (c.exec env e) := by
  refine ⟨?_, ?_, fun t' ht' => ?_⟩
  · cases e with
    | close l => exact h.1
    | run tid => exact exec_run_cinv tid (fun _ _ _ hst hg hsd => hst.sound h.1.1 hg hsd) h.1
  · obtain ⟨x, hx⟩ := Option.isSome_iff_exists.1 h.2.1
    rw [exec_lookup env c e hx]; rfl
  · rcases exec_thread ht' with h0 | ⟨t, h0, hst⟩
    · exact h.2.2 t' h0
    · obtain ⟨hq0, hk0⟩ := h.2.2 t h0
      have hg := h.1.2 t (List.mem_of_getElem? h0)
      exact ⟨hst.q.trans hq0, fun _ => hst.track_any h.1.1 hg.1 hg.2 h.2.1 htr hw (by rw [hq0]; exact hq)
        (by rw [hq0]; exact hitem) (by rw [hq0]; exact hv) hk0⟩

theorem run_trackInv {env : Env R Re} {i : Nat} {q : Query} {src : Src} {idx : Idx} {r : R}
    (htr : env.truth idx = some r) (hw : env.wants src r = true) (hq : q.trivial = false)
    (hitem : Item.st src idx ∈ env.items1 (env.reqOf q)) (hv : env.verdict src r (env.reqOf q) = true)
    (sched : List Ev) : ∀ (c : Config R Re), TrackInv env i q src idx r c → TrackInv env i q src idx r (c.run env sched) := by
  induction sched with
  | nil => intro c h; exact h
  | cons e rest ih => intro c h; exact ih _ (exec_trackInv htr hw hq hitem hv e h)

/-- CONCURRENT: if the cache holds `r` at `idx` in a configuration whose invariant holds, and thread `i` (running
    query `q`) has not started yet -- or still has the index ahead of it --, then after ANY further schedule of
    actions of all threads and `close` events, thread `i`, once finished, has `r` in its answer, provided `idx`
    is a network-table candidate of `q` and `r` is of the wanted kind and matches. -/
theorem run_cached {env : Env R Re} {c : Config R Re} (sched : List Ev) (i : Nat) (q : Query) {b : Bool} {idx : Idx}
    {r : R} (hc : CInv (Sound env) env c) (hl : cacheLookup c.state.cache idx = some r)
    (hth : ∀ t, c.threads[i]? = some t → t.q = q ∧ (t.pc ≠ .start → Track (if b then .sc else .dom) idx r t))
    (hq : q.trivial = false) (hcand : (b, idx) ∈ env.cands (env.reqOf q))
    (hw : env.wants (if b then .sc else .dom) r = true) (hm : env.mtch r (env.reqOf q) = true) :
    ∀ t, (c.run env sched).threads[i]? = some t → t.pc = .done → r ∈ t.answer.1 := by
  intro t ht hd
  have hnh : ((if b then Src.sc else Src.dom) == Src.host) = false := by cases b <;> rfl
  have inv := run_trackInv (i := i) (hc.1.1 _ _ (cacheLookup_mem hl)) hw hq (items1_of_cand hcand)
    (by rw [verdict_not_host env hnh]; exact hm) sched c ⟨hc, by rw [hl]; rfl, hth⟩
  have htinv := (inv.1.2 t (List.mem_of_getElem? ht)).1.1
  exact mem_nets.2 ⟨_, by cases b <;> rfl, ((inv.2.2 t ht).2 (by rw [hd]; simp)).done htinv hd⟩

end UF.Prog
