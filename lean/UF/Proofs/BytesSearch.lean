import UF.Model.HErr
import UF.Proofs.ShortcutBytes
/-
  The checked index and slice operations of UF/Model/HErr.lean under their guards, bounds and hits of the
  byte searches of UF/Basic/Bytes.lean (`hasPrefix`, `indexByte`, `indexOf`, `lastIndexByte`), and
  `splitByte` / `joinSep` (split at a separator, on separator-free strings, round trip).
-/
namespace UF.H
open Bytes

theorem idxE_of_lt {α} {l : List α} {i : Nat} (h : i < l.length) : idxE l i = .ok l[i] := by
  simp [idxE, List.getElem?_eq_getElem h]

theorem idxE_ne_panic_of_lt {α} {l : List α} {i : Nat} (h : i < l.length) :
    ∃ x, idxE l i = .ok x := ⟨_, idxE_of_lt h⟩

theorem sliceE_of_le {s : Bytes} {i j : Nat} (h1 : i ≤ j) (h2 : j ≤ s.length) :
    sliceE s i j = .ok ((s.take j).drop i) := by
  simp [sliceE, Bytes.slice?, h1, h2]

theorem sliceE_to_end {s : Bytes} {i : Nat} (h : i ≤ s.length) : sliceE s i s.length = .ok (s.drop i) := by
  rw [sliceE_of_le h (Nat.le_refl _), List.take_length]

theorem ne_panic_of_ok {α} {r : Except HErr α} : (∃ x, r = .ok x) → r ≠ .error .panic
  | ⟨_, hx⟩, hp => nomatch hx.symm.trans hp

theorem hasPrefix_length_le {s m : Bytes} (h : hasPrefix s m = true) : m.length ≤ s.length := by
  obtain ⟨t, rfl⟩ := (Bytes.hasPrefix_iff s m).1 h
  simp

theorem hasPrefix_head_ne {s m : Bytes} {a b : UInt8} (hs : s.head? = some a) (hm : m.head? = some b)
    (hab : a ≠ b) : hasPrefix s m = false := by
  cases s with
  | nil => simp at hs
  | cons x xs =>
    cases m with
    | nil => simp at hm
    | cons y ys =>
      simp at hs hm
      subst hs hm
      simp [hasPrefix, hab]

theorem hasPrefix_append_self (p rest : Bytes) : hasPrefix (p ++ rest) p = true :=
  (Bytes.hasPrefix_iff _ _).2 ⟨rest, rfl⟩

theorem indexByte_go_lt (s : Bytes) (c : UInt8) (k i : Nat) (h : indexByte.go c s k = some i) :
    k ≤ i ∧ i < k + s.length := by
  induction s generalizing k with
  | nil => simp [indexByte.go] at h
  | cons a t ih =>
    rw [indexByte.go] at h
    split at h
    · cases h
      simp
    · have := ih (k + 1) h
      simp only [List.length_cons]
      omega

theorem indexByte_lt {s : Bytes} {c : UInt8} {i : Nat} (h : indexByte s c = some i) : i < s.length := by
  have := indexByte_go_lt s c 0 i h
  omega

theorem indexByte_go_getElem? (c : UInt8) (s : Bytes) (k i : Nat) (h : indexByte.go c s k = some i) :
    s[i - k]? = some c := by
  induction s generalizing k with
  | nil => simp [indexByte.go] at h
  | cons a t ih =>
    rw [indexByte.go] at h
    split at h
    · rename_i hac
      cases h
      simp at hac
      simp [hac]
    · have hb := indexByte_go_lt t c (k + 1) i h
      have := ih (k + 1) h
      have hik : i - k = (i - (k + 1)) + 1 := by omega
      rw [hik, List.getElem?_cons_succ]
      exact this

theorem indexByte_getElem? {s : Bytes} {c : UInt8} {i : Nat} (h : indexByte s c = some i) : s[i]? = some c :=
  indexByte_go_getElem? c s 0 i h

theorem indexByte_pos {s : Bytes} {c : UInt8} {i : Nat} (h : indexByte s c = some i)
    (hhead : (s.head? == some c) = false) : i > 0 := by
  apply Nat.pos_of_ne_zero
  intro h0
  subst h0
  rw [List.head?_eq_getElem?, indexByte_getElem? h] at hhead
  simp at hhead

theorem indexByte_go_append_hit (c : UInt8) (pre rest : Bytes) (k : Nat)
    (h : pre.all (fun x => x != c) = true) :
    indexByte.go c (pre ++ c :: rest) k = some (k + pre.length) := by
  induction pre generalizing k with
  | nil => simp [indexByte.go]
  | cons a t ih =>
    simp only [List.all_cons, Bool.and_eq_true, bne_iff_ne, ne_eq] at h
    have ha : (a == c) = false := by simpa using h.1
    simp only [List.cons_append, indexByte.go, ha, Bool.false_eq_true, if_false]
    rw [ih (k + 1) h.2]
    simp only [List.length_cons]
    congr 1
    omega

theorem indexByte_go_none (c : UInt8) (s : Bytes) (k : Nat)
    (h : s.all (fun x => x != c) = true) : indexByte.go c s k = none := by
  induction s generalizing k with
  | nil => simp [indexByte.go]
  | cons a t ih =>
    simp only [List.all_cons, Bool.and_eq_true, bne_iff_ne, ne_eq] at h
    have ha : (a == c) = false := by simpa using h.1
    simp only [indexByte.go, ha, Bool.false_eq_true, if_false]
    exact ih (k + 1) h.2

theorem indexOf_go_bound (m s : Bytes) (k i : Nat) (h : indexOf.go m s k = some i) :
    k ≤ i ∧ i - k + m.length ≤ s.length := by
  induction s generalizing k with
  | nil =>
    simp only [indexOf.go] at h
    split at h
    · rename_i hm
      cases h
      have : m = [] := by simpa using hm
      simp [this]
    · cases h
  | cons a t ih =>
    rw [indexOf.go] at h
    split at h
    · rename_i hp
      cases h
      have := hasPrefix_length_le hp
      simp only [Nat.sub_self, Nat.zero_add]
      exact ⟨Nat.le_refl _, this⟩
    · have := ih (k + 1) h
      simp only [List.length_cons]
      omega

theorem indexOf_bound {s m : Bytes} {i : Nat} (h : indexOf s m = some i) : i + m.length ≤ s.length := by
  have := indexOf_go_bound m s 0 i h
  omega

theorem hasSub_of_hasPrefix_drop {s m : Bytes} {j : Nat} (h : hasPrefix (s.drop j) m = true) :
    hasSub s m = true := by
  obtain ⟨t, ht⟩ := (Bytes.hasPrefix_iff _ _).1 h
  exact (Bytes.hasSub_iff s m).2 ⟨s.take j, t, by rw [List.append_assoc, ← ht, List.take_append_drop]⟩

theorem indexOf_go_append_hit (c : UInt8) (m pre rest : Bytes) (k : Nat)
    (h : pre.all (fun x => x != c) = true) :
    indexOf.go (c :: m) (pre ++ (c :: m) ++ rest) k = some (k + pre.length) := by
  induction pre generalizing k with
  | nil =>
    rw [List.nil_append]
    cases hcm : (c :: m) ++ rest with
    | nil => cases hcm
    | cons a t => rw [indexOf.go, ← hcm, hasPrefix_append_self]; rfl
  | cons a t ih =>
    rw [List.all_cons, Bool.and_eq_true] at h
    rw [List.cons_append, List.cons_append, indexOf.go,
      hasPrefix_head_ne (a := a) (b := c) rfl rfl (by simpa using h.1), ih (k + 1) h.2, List.length_cons]
    simp only [Bool.false_eq_true, if_false]
    congr 1
    omega

theorem lastIndexByte_go_bound (c : UInt8) (s : Bytes) (k : Nat) (acc : Option Nat) (i : Nat)
    (h : lastIndexByte.go c s k acc = some i) : acc = some i ∨ (k ≤ i ∧ i < k + s.length) := by
  induction s generalizing k acc with
  | nil => simp [lastIndexByte.go] at h; exact Or.inl h
  | cons a t ih =>
    rw [lastIndexByte.go] at h
    rcases ih (k + 1) _ h with h1 | h1
    · split at h1
      · cases h1
        right
        simp
      · exact Or.inl h1
    · right
      simp only [List.length_cons]
      omega

theorem lastIndexByte_bound {s : Bytes} {c : UInt8} {i : Nat} (h : lastIndexByte s c = some i) :
    i < s.length := by
  rcases lastIndexByte_go_bound c s 0 none i h with h1 | h1
  · cases h1
  · omega

theorem lastIndexByte_go_append (c : UInt8) (a b : Bytes) (i : Nat) (acc : Option Nat) :
    lastIndexByte.go c (a ++ b) i acc = lastIndexByte.go c b (i + a.length) (lastIndexByte.go c a i acc) := by
  induction a generalizing i acc with
  | nil => simp [lastIndexByte.go]
  | cons x t ih =>
    simp only [List.cons_append, lastIndexByte.go, List.length_cons]
    rw [ih]
    congr 1
    omega

theorem lastIndexByte_go_free (c : UInt8) (l : Bytes) (i : Nat) (acc : Option Nat) (h : l.all (fun x => x != c) = true) :
    lastIndexByte.go c l i acc = acc := by
  induction l generalizing i acc with
  | nil => simp [lastIndexByte.go]
  | cons x t ih =>
    simp only [List.all_cons, Bool.and_eq_true, bne_iff_ne, ne_eq] at h
    have hx : (x == c) = false := by simpa using h.1
    simp only [lastIndexByte.go, hx, Bool.false_eq_true, if_false]
    exact ih _ _ h.2

theorem lastIndexByte_free (c : UInt8) (l : Bytes) (h : l.all (fun x => x != c) = true) : lastIndexByte l c = none := by
  simpa [lastIndexByte] using lastIndexByte_go_free c l 0 none h

theorem lastIndexByte_last (c : UInt8) (p l : Bytes) (h : l.all (fun x => x != c) = true) :
    lastIndexByte (p ++ c :: l) c = some p.length := by
  unfold lastIndexByte
  rw [lastIndexByte_go_append]
  simp only [lastIndexByte.go, beq_self_eq_true, if_true, Nat.zero_add]
  exact lastIndexByte_go_free c l _ _ h

theorem splitByte_go_ne_nil (c : UInt8) (s cur : Bytes) : splitByte.go c s cur ≠ [] := by
  induction s generalizing cur with
  | nil => simp [splitByte.go]
  | cons a t ih =>
    rw [splitByte.go]
    split
    · simp
    · exact ih _

theorem splitByte_go_append_sep (c : UInt8) (a b cur : Bytes) :
    splitByte.go c (a ++ c :: b) cur = splitByte.go c a cur ++ splitByte.go c b [] := by
  induction a generalizing cur with
  | nil => simp [splitByte.go]
  | cons x t ih =>
    simp only [List.cons_append, splitByte.go]
    split
    · rw [ih]; simp
    · rw [ih]

theorem splitByte_go_free (c : UInt8) (l cur : Bytes) (h : l.all (fun x => x != c) = true) :
    splitByte.go c l cur = [cur.reverse ++ l] := by
  induction l generalizing cur with
  | nil => simp [splitByte.go]
  | cons x t ih =>
    simp only [List.all_cons, Bool.and_eq_true, bne_iff_ne, ne_eq] at h
    have hx : (x == c) = false := by simpa using h.1
    simp only [splitByte.go, hx, Bool.false_eq_true, if_false]
    rw [ih (x :: cur) h.2]
    simp

theorem joinSep_cons_cons (x y : Bytes) (ys : List Bytes) (sep : Bytes) :
    joinSep (x :: y :: ys) sep = x ++ sep ++ joinSep (y :: ys) sep := by
  simp [joinSep]

theorem joinSep_cons_of_ne_nil (x : Bytes) (ys : List Bytes) (sep : Bytes) (h : ys ≠ []) :
    joinSep (x :: ys) sep = x ++ sep ++ joinSep ys sep := by
  cases ys with
  | nil => exact absurd rfl h
  | cons y r => exact joinSep_cons_cons x y r sep

theorem joinSep_splitByte_go (c : UInt8) (s cur : Bytes) :
    joinSep (splitByte.go c s cur) [c] = cur.reverse ++ s := by
  induction s generalizing cur with
  | nil => simp [splitByte.go, joinSep]
  | cons a t ih =>
    rw [splitByte.go]
    split
    · rename_i hac
      have : a = c := by simpa using hac
      subst this
      rw [joinSep_cons_of_ne_nil _ _ _ (splitByte_go_ne_nil _ _ _), ih]
      simp
    · rw [ih]; simp

theorem joinSep_splitByte (c : UInt8) (s : Bytes) : joinSep (splitByte s c) [c] = s := by
  simpa [splitByte] using joinSep_splitByte_go c s []

theorem splitByte_append_sep (c : UInt8) (a b : Bytes) :
    splitByte (a ++ c :: b) c = splitByte a c ++ splitByte b c := by
  simp [splitByte, splitByte_go_append_sep]

theorem splitByte_free (c : UInt8) (l : Bytes) (h : l.all (fun x => x != c) = true) : splitByte l c = [l] := by
  simp [splitByte, splitByte_go_free c l [] h]

theorem joinSep_ne_nil (x : Bytes) (ys : List Bytes) (sep : Bytes) (hx : x ≠ []) :
    joinSep (x :: ys) sep ≠ [] := by
  cases ys with
  | nil => simpa [joinSep] using hx
  | cons y r =>
    rw [joinSep_cons_cons]
    simp [hx]

end UF.H
