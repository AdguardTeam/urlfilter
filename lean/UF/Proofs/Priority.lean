import UF.Spec.Priority
import UF.Proofs.Bits
/- The bit counter, the lexicographic key order and the selection fold behind C07. -/
namespace UF

theorem popCount_zero : popCount 0 = 0 := by decide

/-- The defining equation (independent of the fuel). -/
theorem popCount_step (n : Nat) : popCount n = n % 2 + popCount (n / 2) := by
  by_cases h2 : 2 ≤ n
  · unfold popCount
    have : n.log2 = (n / 2).log2 + 1 := by rw [Nat.log2_def n]; simp [h2]
    rw [this]; rfl
  · have h1 : n = 0 ∨ n = 1 := by omega
    rcases h1 with rfl | rfl <;> decide

theorem or_mod_two (a b : Nat) : (a ||| b) % 2 = a % 2 ||| b % 2 := Nat.or_mod_two_pow (n := 1)

theorem popCount_or_two_pow (k : Nat) : ∀ m : Nat, m.testBit k = false →
    popCount (m ||| 2 ^ k) = popCount m + 1 := by
  induction k with
  | zero =>
    intro m hm
    have hm0 : m % 2 = 0 := by
      rw [Nat.testBit_zero, decide_eq_false_iff_not] at hm; omega
    rw [popCount_step (m ||| 2 ^ 0), popCount_step m, Nat.or_div_two, or_mod_two, hm0]
    show 1 + popCount (m / 2 ||| 0) = _
    rw [Nat.or_zero, Nat.zero_add, Nat.add_comm]
  | succ k ih =>
    intro m hm
    rw [Nat.testBit_add_one] at hm
    rw [popCount_step (m ||| 2 ^ (k + 1)), popCount_step m, Nat.or_div_two, or_mod_two, Nat.pow_succ,
      Nat.mul_mod_left, Nat.mul_div_cancel _ (by decide), ih _ hm, Nat.or_zero, Nat.add_assoc]

/-! ### the key order is a strict total order (for ALL keys)

`PKey.gt` is four nested steps `a > b ∨ a = b ∧ P`; what one step gives for transitivity and totality: -/

theorem lex_trans {a b c : Nat} {P Q R : Prop} (h1 : a > b ∨ a = b ∧ P) (h2 : b > c ∨ b = c ∧ Q)
    (pq : P → Q → R) : a > c ∨ a = c ∧ R := by
  rcases h1 with h1 | ⟨rfl, p⟩
  · exact Or.inl (by omega)
  · exact h2.imp_right (And.imp_right (pq p))

theorem lex_incomp {a b : Nat} {P Q : Prop} (h1 : ¬ (a > b ∨ a = b ∧ P)) (h2 : ¬ (b > a ∨ b = a ∧ Q)) :
    a = b ∧ ¬ P ∧ ¬ Q := by
  rcases Nat.lt_trichotomy a b with h | h | h
  · exact absurd (Or.inl h) h2
  · exact ⟨h, fun p => h1 (Or.inr ⟨h, p⟩), fun q => h2 (Or.inr ⟨h.symm, q⟩)⟩
  · exact absurd (Or.inl h) h1

theorem PKey.gt_irrefl (a : PKey) : ¬ a.gt a := by unfold PKey.gt; omega

theorem PKey.gt_trans (a b c : PKey) (h1 : a.gt b) (h2 : b.gt c) : a.gt c :=
  lex_trans h1 h2 fun p q => lex_trans p q fun p q => lex_trans p q fun p q => Nat.lt_trans q p

theorem PKey.gt_asymm (a b : PKey) (h1 : a.gt b) : ¬ b.gt a :=
  fun h2 => PKey.gt_irrefl a (PKey.gt_trans a b a h1 h2)

/-- Incomparable keys are equal (the key order is total), … -/
theorem PKey.incomp_eq (a b : PKey) (h1 : ¬ a.gt b) (h2 : ¬ b.gt a) : a = b := by
  obtain ⟨e1, h1, h2⟩ := lex_incomp h1 h2
  obtain ⟨e2, h1, h2⟩ := lex_incomp h1 h2
  obtain ⟨e3, h1, h2⟩ := lex_incomp h1 h2
  cases a; cases b
  simp only [PKey.mk.injEq]
  exact ⟨e1, e2, e3, Nat.le_antisymm (Nat.le_of_not_lt h1) (Nat.le_of_not_lt h2)⟩

/-- … hence incomparability is transitive. -/
theorem PKey.incomp_trans (a b c : PKey) (h1 : ¬ a.gt b) (h2 : ¬ b.gt a) (h3 : ¬ b.gt c) (h4 : ¬ c.gt b) :
    ¬ a.gt c ∧ ¬ c.gt a := by
  have e1 := PKey.incomp_eq a b h1 h2
  have e2 := PKey.incomp_eq b c h3 h4
  subst e1; subst e2
  exact ⟨PKey.gt_irrefl _, PKey.gt_irrefl _⟩

theorem PKey.not_gt_trans (a b c : PKey) : ¬ a.gt b → ¬ b.gt c → ¬ a.gt c := by
  intro hab hbc hac
  by_cases hba : b.gt a
  · exact hbc (PKey.gt_trans b a c hba hac)
  · exact hbc (PKey.incomp_eq a b hab hba ▸ hac)

theorem PKey.gt_of_le {a b : PKey} (hc : b.cls ≤ a.cls) (hr : b.redirect ≤ a.redirect)
    (hs : b.specific ≤ a.specific) (hn : b.count < a.count) : a.gt b := by
  unfold PKey.gt; omega

/-! ### model = key order

`IsHigherPriority` is a chain of two-way tests that fall through to the rest `x` when the operands
agree in a criterion; each lemma reads one link as one step of the lexicographic order. -/

theorem twoWay_iff (p q x : Bool) (X : Prop) (hx : x = true ↔ X) :
    (if (p && !q) = true then true else if (q && !p) = true then false else x) = true ↔
      (if p = true then 1 else 0) > (if q = true then 1 else 0) ∨
        ((if p = true then 1 else 0) = (if q = true then 1 else 0) ∧ X) := by
  cases p <;> cases q <;> simp [hx]

theorem genericStep_iff (p q x : Bool) (X : Prop) (hx : x = true ↔ X) :
    (if (!p && q) = true then true else if (p && !q) = true then false else x) = true ↔
      (if p = true then 0 else 1) > (if q = true then 0 else 1) ∨
        ((if p = true then 0 else 1) = (if q = true then 0 else 1) ∧ X) := by
  cases p <;> cases q <;> simp [hx]

theorem classStep_iff (a b : NetRule) (x : Bool) (X : Prop) (hx : x = true ↔ X) :
    (if ((a.whitelist && a.important) && !(b.whitelist && b.important)) = true then true
      else if ((b.whitelist && b.important) && !(a.whitelist && a.important)) = true then false
      else if (a.important && !b.important) = true then true
      else if (b.important && !a.important) = true then false
      else if (a.whitelist && !b.whitelist) = true then true
      else if (b.whitelist && !a.whitelist) = true then false
      else x) = true ↔
    classRank a > classRank b ∨ (classRank a = classRank b ∧ X) := by
  unfold classRank
  cases a.whitelist <;> cases a.important <;> cases b.whitelist <;> cases b.important <;> simp [hx]

/-- `IsHigherPriority` is exactly "greater key". -/
theorem higher_iff_key (a b : NetRule) : isHigherPriority a b = true ↔ (pkey a).gt (pkey b) :=
  classStep_iff a b _ _ (twoWay_iff _ _ _ _ (genericStep_iff _ _ _ _ decide_eq_true_iff))

theorem higher_eq_spec (a b : NetRule) : isHigherPriority a b = specHigher a b := by
  apply Bool.eq_iff_iff.mpr
  rw [higher_iff_key]; simp [specHigher]

theorem higher_false_iff (a b : NetRule) : isHigherPriority a b = false ↔ ¬ (pkey a).gt (pkey b) := by
  rw [← higher_iff_key]; simp

theorem foldl_selectStep_some (rs : List NetRule) (b : NetRule) :
    ∃ w, rs.foldl selectStep (some b) = some w ∧ w ∈ b :: rs ∧ ∀ r ∈ b :: rs, ¬ (pkey r).gt (pkey w) := by
  induction rs generalizing b with
  | nil =>
    exact ⟨b, rfl, List.mem_singleton.mpr rfl, fun r hr => by
      rw [List.mem_singleton.mp hr]; exact PKey.gt_irrefl _⟩
  | cons x xs ih =>
    rw [List.foldl_cons]
    show ∃ w, xs.foldl selectStep (if isHigherPriority x b = true then some x else some b) = some w ∧ _
    by_cases hh : isHigherPriority x b = true
    · -- `x` replaces `b`, which it outranks
      obtain ⟨w, hw, hm, hmax⟩ := ih x
      have hbx := PKey.gt_asymm _ _ ((higher_iff_key x b).mp hh)
      refine ⟨w, by rw [if_pos hh]; exact hw, List.mem_cons_of_mem _ hm, fun r hr => ?_⟩
      rcases List.mem_cons.mp hr with rfl | hr
      · exact PKey.not_gt_trans _ _ _ hbx (hmax x List.mem_cons_self)
      · exact hmax r hr
    · -- `b` stays, `x` does not outrank it
      obtain ⟨w, hw, hm, hmax⟩ := ih b
      have hxb := (higher_false_iff x b).mp (Bool.eq_false_iff.mpr hh)
      have hbw := hmax b List.mem_cons_self
      refine ⟨w, by rw [if_neg hh]; exact hw, ?_, fun r hr => ?_⟩
      · rcases List.mem_cons.mp hm with rfl | hm
        · exact List.mem_cons_self
        · exact List.mem_cons_of_mem _ (List.mem_cons_of_mem _ hm)
      · rcases List.mem_cons.mp hr with rfl | hr
        · exact hbw
        · rcases List.mem_cons.mp hr with rfl | hr
          · exact PKey.not_gt_trans _ _ _ hxb hbw
          · exact hmax r (List.mem_cons_of_mem _ hr)

theorem fold_max (rs : List NetRule) (w : NetRule) (h : selectBest rs = some w) :
    w ∈ rs ∧ ∀ r ∈ rs, ¬ (pkey r).gt (pkey w) := by
  cases rs with
  | nil => cases h
  | cons x xs =>
    obtain ⟨w', hw', hm⟩ := foldl_selectStep_some xs x
    rw [show selectBest (x :: xs) = some w' from hw'] at h
    cases h
    exact hm

theorem selectBest_none (rs : List NetRule) : selectBest rs = none ↔ rs = [] := by
  constructor
  · intro h
    cases rs with
    | nil => rfl
    | cons x xs =>
      obtain ⟨w', hw', _⟩ := foldl_selectStep_some xs x
      rw [show selectBest (x :: xs) = some w' from hw'] at h
      cases h
  · intro h; subst h; rfl

theorem selectBest_isSome (rs : List NetRule) (h : rs ≠ []) : ∃ w, selectBest rs = some w := by
  cases hs : selectBest rs with
  | none => exact absurd ((selectBest_none rs).mp hs) h
  | some w => exact ⟨w, rfl⟩

/-- The key of the selected rule depends only on the SET of candidates. -/
theorem selectBest_key_congr (l l' : List NetRule) (hmem : ∀ r, r ∈ l ↔ r ∈ l') :
    (selectBest l).map pkey = (selectBest l').map pkey := by
  cases h : selectBest l with
  | none =>
    have hl := (selectBest_none l).mp h
    have hl' : l' = [] := by
      cases l' with
      | nil => rfl
      | cons x xs => have := (hmem x).mpr (by simp); rw [hl] at this; simp at this
    subst hl'; rfl
  | some w =>
    cases h' : selectBest l' with
    | none =>
      have hl' := (selectBest_none l').mp h'
      have := fold_max l w h
      have := (hmem w).mp this.1
      rw [hl'] at this; simp at this
    | some w' =>
      simp only [Option.map_some, Option.some.injEq]
      -- two maximal elements of lists with the same members are incomparable
      have hw := fold_max l w h
      have hw' := fold_max l' w' h'
      exact PKey.incomp_eq _ _ (hw'.2 w ((hmem w).mp hw.1)) (hw.2 w' ((hmem w').mpr hw'.1))

theorem isEnabled_or_two_pow (m k j : Nat) :
    (((m ||| 2 ^ k) &&& 2 ^ j) == 2 ^ j) = (m.testBit j || decide (k = j)) := by
  rw [and_two_pow_beq, Nat.testBit_or, Nat.testBit_two_pow]

theorem isEnabled_or_mono (m k j : Nat) (h : ((m &&& 2 ^ j) == 2 ^ j) = true) :
    (((m ||| 2 ^ k) &&& 2 ^ j) == 2 ^ j) = true := by
  rw [isEnabled_or_two_pow, ← and_two_pow_beq, h, Bool.true_or]

theorem classRank_mono {r r' : NetRule} (hw : r'.whitelist = r.whitelist)
    (hi : r.important = true → r'.important = true) : classRank r ≤ classRank r' := by
  unfold classRank
  rw [hw]
  cases hr : r.important with
  | true => rw [hi hr]; exact Nat.le_refl _
  | false => cases r.whitelist <;> cases r'.important <;> decide

theorem ite_one_zero_mono {p q : Bool} (h : p = true → q = true) :
    (if p = true then 1 else 0) ≤ (if q = true then 1 else 0) := by
  cases p with
  | false => exact Nat.zero_le _
  | true => rw [h rfl]; exact Nat.le_refl _

/-- With class, `$redirect` and generic/specific unchanged, a larger modifier count wins. -/
theorem higher_of_count (r' r : NetRule) (hc : classRank r' = classRank r)
    (hr : r'.redirect = r.redirect) (hg : r'.isGeneric = r.isGeneric)
    (hm : modifierCount r' > modifierCount r) : isHigherPriority r' r = true := by
  rw [higher_iff_key]
  exact PKey.gt_of_le (Nat.le_of_eq hc.symm) (by simp only [pkey, hr, Nat.le_refl])
    (by simp only [pkey, hg, Nat.le_refl]) hm

theorem length_bne_zero_of_ne_nil {α} {l : List α} (h : l ≠ []) : (l.length != 0) = true := by
  cases l with
  | nil => exact absurd rfl h
  | cons => rfl

theorem length_bne_zero_or {α β} {p : List α} {q : List β} (h : p ≠ [] ∨ q ≠ []) :
    (p.length != 0 || q.length != 0) = true := by
  rcases h with h | h <;> simp only [length_bne_zero_of_ne_nil h, Bool.true_or, Bool.or_true]

end UF
