import UF.Model.Lookup
import UF.Proofs.MatchDomain
/-
  Byte-string lemmas used by the lookup proofs (C01/C02/C15): windows of a factor, the hash on
  windows (`fastHashBetween?_eq`, `djb2_coherent`), `getSubdomains`.
-/
namespace UF.B
open UF UF.Bytes

/-- A window of a factor is a window of the whole string. -/
theorem window_of_hasSub {k : Nat} {url sc w : Bytes} (h : Bytes.hasSub url sc = true) (hw : w ∈ windows k sc) :
    ∃ j, j + k ≤ url.length ∧ (url.drop j).take k = w := by
  obtain ⟨pre, post, rfl⟩ := (E.hasSub_iff url sc).1 h
  simp only [windows, List.mem_map, List.mem_range] at hw
  obtain ⟨i, hi, rfl⟩ := hw
  refine ⟨pre.length + i, by simp only [List.length_append]; omega, ?_⟩
  rw [List.append_assoc, List.drop_append, List.drop_append, List.drop_eq_nil_of_le (Nat.le_add_right _ _),
    Nat.add_sub_cancel_left, List.nil_append, List.take_append_of_le_length]
  simp only [List.length_drop]
  omega

theorem fastHashLoop?_eq (s : Bytes) (n i : Nat) (acc : UInt32) (h : i + n ≤ s.length) :
    fastHashLoop? s i n acc = some (fastHashFrom acc ((s.drop i).take n)) := by
  induction n generalizing i acc with
  | zero => simp [fastHashLoop?, fastHashFrom]
  | succ n ih =>
    have hi : i < s.length := by omega
    have hd : s.drop i = s[i] :: s.drop (i + 1) := by simp
    simp only [fastHashLoop?, List.getElem?_eq_getElem hi]
    rw [ih (i + 1) _ (by omega), hd, List.take_succ_cons, fastHashFrom]

/-- `FastHashBetween` does not index out of range when `end ≤ len(str)`, and its value is the fold
    over the bytes of the slice. -/
theorem fastHashBetween?_eq (s : Bytes) (b e : Nat) (h : e ≤ s.length) :
    fastHashBetween? s b e = some (fastHashBetween s b e) := by
  unfold fastHashBetween? fastHashBetween
  by_cases hb : b ≤ e
  · exact fastHashLoop?_eq s (e - b) b 5381 (by omega)
  · have : e - b = 0 := by omega
    simp [this, fastHashLoop?, fastHashFrom]

/-- The concrete pair is coherent for every window length `k ≥ 1`: on a non-empty string `FastHash`
    is the fold `FastHashBetween` computes on a window. -/
theorem djb2_coherent (k : Nat) (hk : 1 ≤ k) : djb2.Coherent k := by
  intro s i h
  have hlen : ((s.drop i).take k).length = k := by rw [List.length_take, List.length_drop]; omega
  have hne : ((s.drop i).take k).isEmpty = false := by
    rw [List.isEmpty_eq_false_iff, ← List.length_pos_iff, hlen]; exact hk
  show fastHashBetween s i (i + k) = fastHash ((s.drop i).take k)
  unfold fastHash fastHashBetween
  rw [hne, hlen, Nat.add_sub_cancel_left, List.drop_zero, Nat.sub_zero, List.take_take, Nat.min_self]
  rfl

/-- Walking the parts of a name that is not empty and does not end in a dot rebuilds the name
    (`cur` holds the bytes of the current part read so far, reversed). -/
theorem subdomain_fold_go (s cur : Bytes) (hne : cur.reverse ++ s ≠ [])
    (hlast : (cur.reverse ++ s).getLast? ≠ some (ch '.')) :
    ((Bytes.splitByte.go (ch '.') s cur).foldr subdomainStep ([], [])).1 = cur.reverse ++ s := by
  induction s generalizing cur with
  | nil =>
    simp only [Bytes.splitByte.go, List.foldr_cons, List.foldr_nil, subdomainStep, List.isEmpty_nil,
      if_true, List.append_nil]
  | cons a t ih =>
    simp only [Bytes.splitByte.go]
    split
    · next ha =>
      have ha' : a = ch '.' := by simpa using ha
      -- the name does not end here, so the parts after the dot rebuild a non-empty `t`
      have htne : t ≠ [] := by
        rintro rfl
        simp [ha'] at hlast
      have hl : t.getLast? ≠ some (ch '.') := fun h =>
        hlast (by rw [List.getLast?_append, List.getLast?_cons_of_ne_nil htne, h]; rfl)
      have := ih [] (by simpa using htne) (by simpa using hl)
      simp only [List.reverse_nil, List.nil_append] at this
      simp only [List.foldr_cons, subdomainStep, this, List.isEmpty_eq_false_iff.2 htne, ha',
        Bool.false_eq_true, if_false]
    · have := ih (a :: cur) (by simp) (by simpa using hlast)
      simpa using this

theorem subdomainStep_snd_mono (p : Bytes) (acc : Bytes × List Bytes) (x : Bytes) (h : x ∈ acc.2) :
    x ∈ (subdomainStep p acc).2 := by
  simp [subdomainStep, h]

theorem subdomain_foldr_mono (ps : List Bytes) (acc : Bytes × List Bytes) (x : Bytes) (h : x ∈ acc.2) :
    x ∈ (ps.foldr subdomainStep acc).2 := by
  induction ps with
  | nil => exact h
  | cons p ps ih => exact subdomainStep_snd_mono _ _ _ ih

theorem subdomain_foldr_fst_mem (ps : List Bytes) (hps : ps ≠ []) (acc : Bytes × List Bytes) :
    (ps.foldr subdomainStep acc).1 ∈ (ps.foldr subdomainStep acc).2 := by
  cases ps with
  | nil => exact absurd rfl hps
  | cons p ps => simp [subdomainStep]

/-- A domain name `d` (non-empty, not ending in a dot) is among `getSubdomains host` whenever `host`
    is `d` or ends in `"." ++ d`. -/
theorem mem_getSubdomains (host d : Bytes) (hd : d ≠ []) (hdot : d.getLast? ≠ some (ch '.'))
    (h : host = d ∨ ∃ x, host = x ++ ch '.' :: d) : d ∈ getSubdomains host := by
  have hfold : ((Bytes.splitByte.go (ch '.') d []).foldr subdomainStep ([], [])).1 = d := by
    have := subdomain_fold_go d [] (by simpa using hd) (by simpa using hdot)
    simpa using this
  have hmem : d ∈ ((Bytes.splitByte.go (ch '.') d []).foldr subdomainStep ([], [])).2 := by
    have := subdomain_foldr_fst_mem (Bytes.splitByte.go (ch '.') d []) (H.splitByte_go_ne_nil _ _ _) ([], [])
    rwa [hfold] at this
  rcases h with rfl | ⟨x, rfl⟩
  · exact hmem
  · unfold getSubdomains Bytes.splitByte
    rw [H.splitByte_go_append_sep, List.foldr_append]
    exact subdomain_foldr_mono _ _ _ hmem

end UF.B
