import UF.Basic.Bytes
/- `hasPrefix` / `hasSub` as statements about factors (`s = x ++ sub ++ z`), how factors pass through `++` and
   `toLower`, and `forall_u8` for sweeps over all bytes by `decide`. -/
namespace UF.Bytes

/-- A statement about all bytes from one about the numbers below 256 (which `decide` can enumerate). -/
theorem forall_u8 (P : UInt8 → Prop) (h : ∀ n, n < 256 → P (UInt8.ofNat n)) : ∀ b, P b := by
  intro b
  have := h b.toNat b.toNat_lt
  simpa using this

theorem hasPrefix_iff : ∀ (s p : Bytes), hasPrefix s p = true ↔ ∃ z, s = p ++ z := by
  intro s p
  induction p generalizing s with
  | nil => simp [hasPrefix]
  | cons b p ih =>
    cases s with
    | nil => simp [hasPrefix]
    | cons a s =>
      simp only [hasPrefix, Bool.and_eq_true, beq_iff_eq, ih, List.cons_append, List.cons.injEq]
      constructor
      · rintro ⟨rfl, z, hz⟩; exact ⟨z, rfl, hz⟩
      · rintro ⟨z, rfl, hz⟩; exact ⟨rfl, z, hz⟩

theorem indexOf_go_isSome (sub : Bytes) : ∀ (s : Bytes) (i : Nat),
    (indexOf.go sub s i).isSome = true ↔ ∃ x z, s = x ++ sub ++ z := by
  intro s
  induction s with
  | nil =>
    intro i
    simp only [indexOf.go]
    constructor
    · intro h
      split at h
      · rename_i he
        have : sub = [] := by simpa using he
        exact ⟨[], [], by simp [this]⟩
      · simp at h
    · rintro ⟨x, z, h⟩
      have : sub = [] := by
        have := congrArg List.length h
        simp at this
        exact List.eq_nil_of_length_eq_zero (by omega)
      simp [this]
  | cons a t ih =>
    intro i
    simp only [indexOf.go]
    constructor
    · intro h
      split at h
      · rename_i hp
        obtain ⟨z, hz⟩ := (hasPrefix_iff _ _).1 hp
        exact ⟨[], z, by simpa using hz⟩
      · obtain ⟨x, z, hz⟩ := (ih _).1 h
        exact ⟨a :: x, z, by simp [hz]⟩
    · rintro ⟨x, z, h⟩
      cases x with
      | nil =>
        have : hasPrefix (a :: t) sub = true := (hasPrefix_iff _ _).2 ⟨z, by simpa using h⟩
        simp [this]
      | cons b x =>
        simp at h
        split
        · rfl
        · exact (ih _).2 ⟨x, z, by simpa using h.2⟩

/-- `strings.Contains s sub` ⇔ `sub` is a factor of `s`. -/
theorem hasSub_iff (s sub : Bytes) : hasSub s sub = true ↔ ∃ x z, s = x ++ sub ++ z := by
  simp [hasSub, indexOf, indexOf_go_isSome]

theorem hasSub_nil (s : Bytes) : hasSub s [] = true := (hasSub_iff _ _).2 ⟨[], s, by simp⟩

theorem hasSub_refl (s : Bytes) : hasSub s s = true := (hasSub_iff _ _).2 ⟨[], [], by simp⟩

theorem hasSub_trans {a b c : Bytes} (h1 : hasSub a b = true) (h2 : hasSub b c = true) : hasSub a c = true := by
  obtain ⟨x, z, rfl⟩ := (hasSub_iff _ _).1 h1
  obtain ⟨x', z', rfl⟩ := (hasSub_iff _ _).1 h2
  exact (hasSub_iff _ _).2 ⟨x ++ x', z' ++ z, by simp⟩

theorem hasSub_append_left {a c : Bytes} (b : Bytes) (h : hasSub a c = true) : hasSub (a ++ b) c = true := by
  obtain ⟨x, z, rfl⟩ := (hasSub_iff _ _).1 h
  exact (hasSub_iff _ _).2 ⟨x, z ++ b, by simp⟩

theorem hasSub_append_right {b c : Bytes} (a : Bytes) (h : hasSub b c = true) : hasSub (a ++ b) c = true := by
  obtain ⟨x, z, rfl⟩ := (hasSub_iff _ _).1 h
  exact (hasSub_iff _ _).2 ⟨a ++ x, z, by simp⟩

theorem toLower_append (a b : Bytes) : toLower (a ++ b) = toLower a ++ toLower b := by
  simp [toLower]

theorem toLower_length (a : Bytes) : (toLower a).length = a.length := by simp [toLower]

theorem hasSub_toLower {a b : Bytes} (h : hasSub a b = true) : hasSub (toLower a) (toLower b) = true := by
  obtain ⟨x, z, rfl⟩ := (hasSub_iff _ _).1 h
  exact (hasSub_iff _ _).2 ⟨toLower x, toLower z, by simp [toLower_append]⟩

end UF.Bytes
