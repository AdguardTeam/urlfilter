import UF.Proofs.ProgStep
/-
  Runs: one thread alone (`runThread`, `runQuery`, termination within the fuel bound), histories, and schedules
  of many threads.  The invariant carried through is

      SInv state  ∧  every thread: TInv ∧ RxOK (relative to the CURRENT shared state) ∧ not crashed ∧ P

  with `P = GoodEq` when no list is closed or the thread runs alone, and `P = Sound` (ProgSound.lean) in general.
-/
namespace UF.Prog
variable {R Re : Type}

/-- What a thread needs from itself and from the shared state. -/
def Good (env : Env R Re) (s : State R Re) (t : Thread R) : Prop := TInv env t ∧ RxOK s t ∧ t.pc ≠ .crash

/-- The thread's bookkeeping equals the stateless answer of its stage. -/
def GoodEq (env : Env R Re) (t : Thread R) : Prop :=
  t.pc ≠ .start → t.q.trivial = false → Tot env t = target env t

theorem good_init (env : Env R Re) (s : State R Re) (q : Query) : Good env s (Thread.init q) :=
  ⟨tinv_init env q, fun _ _ h => by simp [Thread.init] at h, by simp [Thread.init]⟩

theorem goodEq_init (env : Env R Re) (q : Query) : GoodEq env (Thread.init q : Thread R) :=
  fun h => absurd rfl h

section
variable {env : Env R Re} {s s' : State R Re} {t t' : Thread R}

theorem Step.good (h : Step env s t s' t') (hs : SInv env s) (hg : Good env s t) : Good env s' t' :=
  ⟨h.tinv hs.1 hg.1, h.rxOK, h.no_crash hg.2.1 hg.2.2⟩

/-- Rely: actions of OTHER threads keep a thread `Good`. -/
theorem good_mono (hle : CellsLe s s') (hg : Good env s t) : Good env s' t :=
  ⟨hg.1, rxOK_mono hle hg.2.1, hg.2.2⟩

/-- `Tot` stays EQUAL to the stateless answer of the engine with the indexes outside `av` struck out. -/
theorem Step.goodEq {av : Idx → Bool} (h : Step env s t s' t') (hs : SInv env s) (hg : Good env s t)
    (hav : AvOK env av s t) (he : GoodEq (env.restrict av) t) : GoodEq (env.restrict av) t' := by
  intro _ hq
  rw [h.q] at hq
  by_cases hst : t.pc = .start
  · exact (h.tot_start av hst hq).1
  · by_cases hm : t.pc = .mid
    · exact h.tot_mid av hg.1 hm (he hst hq)
    · rw [h.tot av hs hg.1 hg.2.1 hav hst hm]
      simp only [target, h.stage hst hm, h.q, h.req hst]
      exact he hst hq

end

theorem nets_nil : nets ([] : List (Item × R)) = [] := rfl
theorem hosts_nil : hosts ([] : List (Item × R)) = [] := rfl

/-- A finished thread has collected exactly its `Tot`, and is in the second stage (`env'` is `env` or `env` with
    indexes struck out). -/
theorem answer_of_goodEq {env env' : Env R Re} {t : Thread R} (hreq : env'.reqOf t.q = env.reqOf t.q)
    (ht : TInv env t) (he : GoodEq env' t) (hd : t.pc = .done) : t.answer = pureAnswer env' t.q := by
  have hs : t.pc ≠ .start := by rw [hd]; simp
  cases hq : t.q.trivial with
  | true =>
    have := (ht.triv hq hs).2
    simp [Thread.answer, pureAnswer, hq, this, nets_nil, hosts_nil]
  | false =>
    have h1 := he hs hq
    have h2 := ht.end_todo (Or.inr (Or.inr hd))
    have h3 := ht.done_stage hd hq
    have h4 := ht.req_eq hs hq
    simp only [Tot, pendAcc, hd, h2, pureFold_nil, target, h3, if_true] at h1
    simp [Thread.answer, pureAnswer, hq, h1, h4, hreq]

theorem items2_length (env : Env R Re) (q : Query) (req : Request) (nrs : List R) :
    (env.items2 q req nrs).length ≤ (env.hcands req).length := by
  unfold Env.items2
  cases q with
  | web _ => simp
  | dns _ => simp only; split <;> simp

/-- the part of the fuel bound that does not depend on the pending item -/
def Thread.tail (env : Env R Re) (t : Thread R) : Nat :=
  if t.stage then 1 else 6 * (env.hcands t.req).length + 3

theorem advance_fuel (env : Env R Re) (t : Thread R) : t.advance.fuel env ≤ 6 * t.todo.length + t.tail env := by
  unfold Thread.advance
  cases h : t.todo with
  | nil =>
    cases hs : t.stage <;> simp [Thread.fuel, Thread.tail, hs]
  | cons i rest =>
    cases i <;> simp [Thread.fuel, Thread.tail] <;> omega

theorem fuel_busy (env : Env R Re) (t : Thread R) (h : t.pc.busy = true) :
    1 + 6 * t.todo.length + t.tail env ≤ t.fuel env := by
  rcases t with ⟨q, pc, req, todo, acc, stage⟩
  cases pc <;> simp [PC.busy] at h <;> simp only [Thread.fuel, Thread.tail] <;> omega

/-- Every action of an unfinished, started thread consumes fuel. -/
theorem Step.fuel {env : Env R Re} {s s' : State R Re} {t t' : Thread R} (h : Step env s t s' t')
    (hs : t.pc ≠ .start) (hd : t.pc ≠ .done) (hc : t.pc ≠ .crash) :
    t'.fuel env + 1 ≤ t.fuel env ∨ t'.pc = .crash := by
  cases h with
  | idle h => exact absurd h (by simp [hd, hc])
  | start_triv h | start h => exact absurd h hs
  | goto h =>
    cases h with
    | rx_nil => exact Or.inr rfl
    | _ => left; simp only [Thread.fuel, *]; omega
  | @finish _ add h =>
    left
    have h1 := advance_fuel env (t.collect add)
    have h2 := fuel_busy env t h.busy
    simp only [Thread.tail, collect_todo, collect_stage, collect_req] at h1 h2
    omega
  | mid hpc =>
    left
    have h1 := advance_fuel env ({ t with todo := env.items2 t.q t.req (nets t.acc), stage := true } : Thread R)
    have h2 := items2_length env t.q t.req (nets t.acc)
    have h3 : t.fuel env = 6 * (env.hcands t.req).length + 2 := by simp only [Thread.fuel, hpc]
    simp only [Thread.tail, if_true] at h1
    omega
  | fin hpc => left; simp [Thread.fuel, hpc]

theorem step_idle (env : Env R Re) (s : State R Re) (t : Thread R) (h : t.pc = .done ∨ t.pc = .crash) :
    step env s t = (s, t) := by
  rcases t with ⟨q, pc, req, todo, acc, stage⟩
  rcases h with h | h <;> (simp at h; subst h; rfl)

/-- Totality: a started thread run alone for at least `fuel` actions has finished or crashed. -/
theorem runThread_done (env : Env R Re) : ∀ (n : Nat) (s : State R Re) (t : Thread R), t.pc ≠ .start →
    t.fuel env ≤ n → (runThread env n s t).2.pc = .done ∨ (runThread env n s t).2.pc = .crash := by
  intro n
  induction n with
  | zero =>
    intro s t hs hf
    rcases t with ⟨q, pc, req, todo, acc, stage⟩
    cases pc <;> simp_all [Thread.fuel, runThread]
  | succ n ih =>
    intro s t hs hf
    simp only [runThread]
    by_cases hi : t.pc = .done ∨ t.pc = .crash
    · rw [step_idle env s t hi]
      exact ih s t hs (by
        rcases t with ⟨q, pc, req, todo, acc, stage⟩
        rcases hi with h | h <;> (simp at h; subst h; simp [Thread.fuel]))
    · have hst := step_spec env s t
      rcases hst.fuel hs (fun h => hi (Or.inl h)) (fun h => hi (Or.inr h)) with h | h
      · exact ih _ _ hst.pc_ne_start (by omega)
      · exact ih _ _ hst.pc_ne_start (by
          generalize step env s t = p at h
          rcases p with ⟨s', ⟨q, pc, req, todo, acc, stage⟩⟩
          simp at h; subst h; simp [Thread.fuel])

/-- Invariants along a solo run (any predicate preserved by every action). -/
theorem runThread_inv (env : Env R Re) (P : State R Re → Thread R → Prop)
    (hstep : ∀ s t s' t', Step env s t s' t' → P s t → P s' t') :
    ∀ (n : Nat) (s : State R Re) (t : Thread R), P s t → P (runThread env n s t).1 (runThread env n s t).2 := by
  intro n
  induction n with
  | zero => intro s t h; exact h
  | succ n ih => intro s t h; simp only [runThread]; exact ih _ _ (hstep _ _ _ _ (step_spec env s t) h)

theorem runQuery_eq (env : Env R Re) (s : State R Re) (q : Query) :
    runQuery env s q = runThread env ((step env s (Thread.init q)).2.fuel env) (step env s (Thread.init q)).1
      (step env s (Thread.init q)).2 := rfl

/-- `runQuery` is a solo run of `fuel + 1` actions. -/
theorem runQuery_inv (env : Env R Re) (P : State R Re → Thread R → Prop)
    (hstep : ∀ s t s' t', Step env s t s' t' → P s t → P s' t') (s : State R Re) (q : Query)
    (h : P s (Thread.init q)) : P (runQuery env s q).1 (runQuery env s q).2 := by
  rw [runQuery_eq]
  exact runThread_inv env P hstep _ _ _ (hstep _ _ _ _ (step_spec env s _) h)

theorem runQuery_q (env : Env R Re) (s : State R Re) (q : Query) : (runQuery env s q).2.q = q :=
  runQuery_inv env (fun _ t => t.q = q) (fun _ _ _ _ h hp => by rw [h.q]; exact hp) s q rfl

theorem runQuery_closed (env : Env R Re) (s : State R Re) (q : Query) : (runQuery env s q).1.closed = s.closed :=
  runQuery_inv env (fun s' _ => s'.closed = s.closed) (fun _ _ _ _ h hp => by rw [h.closed]; exact hp) s q rfl

/-- Sequential, any fault state: the shared invariant and `Good` after a query; the query is finished. -/
theorem runQuery_good {env : Env R Re} {s : State R Re} (q : Query) (hs : SInv env s) :
    SInv env (runQuery env s q).1 ∧ Good env (runQuery env s q).1 (runQuery env s q).2 ∧
      (runQuery env s q).2.pc = .done := by
  have h := runQuery_inv env (fun s t => SInv env s ∧ Good env s t)
    (fun _ _ _ _ h hp => ⟨h.sinv hp.1 hp.2.1, h.good hp.1 hp.2⟩) s q ⟨hs, good_init env s q⟩
  refine ⟨h.1, h.2, ?_⟩
  have hdc : (runQuery env s q).2.pc = .done ∨ (runQuery env s q).2.pc = .crash := by
    rw [runQuery_eq]
    exact runThread_done env _ _ _ (step_spec env s _).pc_ne_start (Nat.le_refl _)
  rcases hdc with hd | hc
  · exact hd
  · exact absurd hc h.2.2.2

/-- Histories: a property `I` of the shared state that `close` events and solo queries preserve holds at the
    end, and what it gives for the thread of a solo query (`P`) holds of every thread of the history. -/
theorem runHistoryT_forall (env : Env R Re) (I : State R Re → Prop) (P : Thread R → Prop)
    (hclose : ∀ s l, I s → I { s with closed := l :: s.closed })
    (hq : ∀ s q, I s → I (runQuery env s q).1 ∧ P (runQuery env s q).2) (h : List HEv) :
    ∀ (s : State R Re), I s → I (runHistoryT env s h).1 ∧ ∀ t ∈ (runHistoryT env s h).2, P t := by
  induction h with
  | nil => intro s hs; exact ⟨hs, fun t ht => by cases ht⟩
  | cons e rest ih =>
    intro s hs
    cases e with
    | query q =>
      obtain ⟨h1, h2⟩ := hq s q hs
      obtain ⟨h3, h4⟩ := ih _ h1
      refine ⟨h3, fun t ht => ?_⟩
      simp only [runHistoryT, List.mem_cons] at ht
      rcases ht with rfl | ht
      · exact h2
      · exact h4 t ht
    | close l => exact ih _ (hclose s l hs)

/-- Global invariant of a configuration, with a per-thread predicate `P`. -/
def CInv (P : Thread R → Prop) (env : Env R Re) (c : Config R Re) : Prop :=
  SInv env c.state ∧ ∀ t ∈ c.threads, Good env c.state t ∧ P t

theorem cinv_init (P : Thread R → Prop) (env : Env R Re) (s : State R Re) (qs : List Query) (hs : SInv env s)
    (hP : ∀ q, P (Thread.init q)) : CInv P env ⟨s, qs.map Thread.init⟩ := by
  refine ⟨hs, ?_⟩
  intro t ht
  simp only [List.mem_map] at ht
  obtain ⟨q, _, rfl⟩ := ht
  exact ⟨good_init env s q, hP q⟩

/-- One action of one thread preserves the invariant of the configuration, provided that thread's own
    action preserves `P` (the other threads are untouched; their `Good` survives by `good_mono`). -/
theorem exec_run_cinv {P : Thread R → Prop} {env : Env R Re} {c : Config R Re} (tid : Nat)
    (hP : ∀ t s' t', Step env c.state t s' t' → Good env c.state t → P t → P t') (h : CInv P env c) :
    CInv P env (c.exec env (.run tid)) := by
  simp only [Config.exec, Config.execG]
  cases ht : c.threads[tid]? with
  | none => exact h
  | some t =>
    have hm : t ∈ c.threads := List.mem_of_getElem? ht
    have hg := h.2 t hm
    have hst := step_spec env c.state t
    refine ⟨hst.sinv h.1 hg.1.1, ?_⟩
    intro t' ht'
    rcases List.mem_or_eq_of_mem_set ht' with h1 | h1
    · exact ⟨good_mono hst.cellsLe (h.2 t' h1).1, (h.2 t' h1).2⟩
    · rw [h1]; exact ⟨hst.good h.1 hg.1, hP t _ _ hst hg.1 hg.2⟩

/-- Threads keep their place and their query. -/
theorem run_threads_q (env : Env R Re) (sched : List Ev) : ∀ (c : Config R Re),
    (c.run env sched).threads.map (·.q) = c.threads.map (·.q) := by
  induction sched with
  | nil => intro c; rfl
  | cons e rest ih =>
    intro c
    refine (ih (c.exec env e)).trans ?_
    cases e with
    | close l => rfl
    | run tid =>
      simp only [Config.exec, Config.execG]
      cases ht : c.threads[tid]? with
      | none => rfl
      | some t =>
        obtain ⟨hlt, rfl⟩ := List.getElem?_eq_some_iff.1 ht
        rw [List.map_set, (step_spec env c.state _).q]
        have : (c.threads[tid]).q = (c.threads.map (·.q))[tid]'(by simpa using hlt) := by simp
        rw [this, List.set_getElem_self]

theorem run_cinv_eq {env : Env R Re} (sched : List Nat) : ∀ (c : Config R Re),
    CInv (GoodEq env) env c ∧ c.state.closed = [] →
    CInv (GoodEq env) env (c.run env (sched.map Ev.run)) ∧ (c.run env (sched.map Ev.run)).state.closed = [] := by
  induction sched with
  | nil => intro c h; exact h
  | cons e rest ih =>
    intro c h
    refine ih _ ⟨exec_run_cinv e
      (fun t _ _ hst hg he => hst.goodEq (av := fun _ => true) h.1.1 hg (avOK_true h.2) he) h.1, ?_⟩
    simp only [Config.exec, Config.execG]
    cases c.threads[e]? with
    | none => exact h.2
    | some t => exact (step_spec env c.state t).closed.trans h.2

end UF.Prog
