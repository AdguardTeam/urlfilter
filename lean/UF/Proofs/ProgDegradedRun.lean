import UF.Proofs.ProgDegraded
/-
  A query run ALONE in any fault state answers exactly what the fault-free engine answers with the unavailable
  indexes struck out (`runQuery_degraded`).  Invariant of the solo run (`Solo`): availability is what it was when
  the query started (the only cache insertion is the thread's own `put`, after ITS successful `read` of an open
  list); a thread at `read` has just missed the cache; a thread at `put` has just read an open list.
-/
namespace UF.Prog
variable {R Re : Type}

/-- What a query running alone knows about the shared state. -/
structure Solo (env : Env R Re) (av : Idx → Bool) (s : State R Re) (t : Thread R) : Prop where
  av_eq : ∀ idx, avail env s idx = av idx
  read_miss : ∀ src idx, t.pc = .read src idx → cacheLookup s.cache idx = none
  put_open : ∀ src idx r, t.pc = .put src idx r → s.closed.contains (env.listOf idx) = false

theorem solo_init (env : Env R Re) (s : State R Re) (q : Query) : Solo env (avail env s) s (Thread.init q) :=
  ⟨fun _ => rfl, fun _ _ h => by simp [Thread.init] at h, fun _ _ _ h => by simp [Thread.init] at h⟩

theorem advance_pc_ne_read (t : Thread R) (src : Src) (idx : Idx) : t.advance.pc ≠ .read src idx := by
  fun_cases Thread.advance t <;> simp

theorem advance_pc_ne_put (t : Thread R) (src : Src) (idx : Idx) (r : R) : t.advance.pc ≠ .put src idx r := by
  fun_cases Thread.advance t <;> simp

section
variable {env : Env R Re} {av : Idx → Bool} {s s' : State R Re} {t t' : Thread R}

/-- Availability does not change during a solo run: the only insertion into the cache is the thread's own
    `put`, of a rule it has just read from an open list. -/
theorem Step.avail (h : Step env s t s' t') (hso : Solo env av s t) (j : Idx) : avail env s' j = avail env s j := by
  unfold Prog.avail
  rw [h.closed]
  rcases h.cache with h1 | ⟨src, idx, r, hpc, _, h1⟩
  · rw [h1]
  · rw [h1, cacheLookup_cacheInsert]
    split
    · next hj => rw [hj, hso.put_open src idx r hpc]; simp
    · rfl

/-- `read` is entered only from a cache miss, `put` only from a successful read of an open list; both are
    still true at the thread's next action (nobody else is running). -/
theorem Step.solo (h : Step env s t s' t') (hso : Solo env av s t) : Solo env av s' t' := by
  refine ⟨fun j => by rw [h.avail hso j]; exact hso.av_eq j, fun src idx e => ?_, fun src idx r e => ?_⟩
  · cases h with
    | idle => exact hso.read_miss src idx e
    | goto h =>
      cases h with
      | get_miss _ hl => cases e; exact hl
      | _ => cases e
    | start_triv | fin => cases e
    | _ => exact absurd e (advance_pc_ne_read _ _ _)
  · cases h with
    | idle => exact hso.put_open src idx r e
    | goto h =>
      cases h with
      | read_some _ hc => cases e; exact hc
      | _ => cases e
    | start_triv | fin => cases e
    | _ => exact absurd e (advance_pc_ne_put _ _ _ _)

theorem Solo.avOK (hso : Solo env av s t) : AvOK env av s t :=
  ⟨fun idx r hl => by rw [← hso.av_eq idx, avail, hl]; rfl,
   fun src idx hpc => by rw [← hso.av_eq idx, avail, hso.read_miss src idx hpc]; rfl⟩

end

/-- THE DEGRADED ANSWER, EXACTLY: a query run alone from any state satisfying the shared invariant -- any lists
    closed, any cache, any lazy-compile cells -- answers what the fault-free engine answers when the indexes
    that are neither cached nor in an open list are struck out. -/
theorem runQuery_degraded {env : Env R Re} {s : State R Re} (q : Query) (hs : SInv env s) :
    (runQuery env s q).2.answer = pureAnswer (env.restrict (avail env s)) q := by
  obtain ⟨-, ⟨ht, -, -⟩, -, he⟩ := runQuery_inv env
    (fun s' t => SInv env s' ∧ Good env s' t ∧ Solo env (avail env s) s' t ∧ GoodEq (env.restrict (avail env s)) t)
    (fun _ _ _ _ h hp => by
      obtain ⟨hs', hg, hso, he⟩ := hp
      exact ⟨h.sinv hs' hg.1, h.good hs' hg, h.solo hso, h.goodEq hs' hg hso.avOK he⟩)
    s q ⟨hs, good_init env s q, solo_init env s q, goodEq_init _ q⟩
  rw [answer_of_goodEq (restrict_reqOf env _ _) ht he (runQuery_good q hs).2.2, runQuery_q]

/-- Sequential, no faults (C13): every index is available, so the answer is the stateless `pureAnswer` of the
    engine itself; the query finishes and re-establishes the invariant. -/
theorem runQuery_pure {env : Env R Re} {s : State R Re} (q : Query) (hs : SInv env s) (h0 : s.closed = []) :
    (runQuery env s q).2.pc = .done ∧ (runQuery env s q).2.answer = pureAnswer env q ∧
      SInv env (runQuery env s q).1 ∧ (runQuery env s q).1.closed = [] := by
  have hav : avail env s = fun _ => true := by
    funext i; simp only [avail, h0, List.contains_nil, Bool.not_false, Bool.or_true]
  refine ⟨(runQuery_good q hs).2.2, ?_, (runQuery_good q hs).1, by rw [runQuery_closed]; exact h0⟩
  rw [runQuery_degraded q hs, hav, restrict_true]

/-- … and so does every history of queries: answer by answer the stateless one. -/
theorem runHistory_pure {env : Env R Re} (qs : List Query) : ∀ (s : State R Re), SInv env s → s.closed = [] →
    (runHistory env s (qs.map HEv.query)).2 = qs.map (pureAnswer env) ∧
      SInv env (runHistory env s (qs.map HEv.query)).1 ∧ (runHistory env s (qs.map HEv.query)).1.closed = [] := by
  induction qs with
  | nil => intro s hs h0; exact ⟨rfl, hs, h0⟩
  | cons q rest ih =>
    intro s hs h0
    obtain ⟨_, ha, hs', h0'⟩ := runQuery_pure q hs h0
    have := ih _ hs' h0'
    simp only [runHistory] at this ⊢
    simp only [List.map_cons, runHistoryT, ha, this, and_self]

/-- ORDER: the network rules a sequentially run query returns in any fault state are a SUB-SEQUENCE of the
    fault-free answer; the host rules a sub-sequence of what the hosts table holds for the name. -/
theorem runQuery_sublist {env : Env R Re} {s : State R Re} (q : Query) (hs : SInv env s) :
    (runQuery env s q).2.answer.1.Sublist (pureAnswer env q).1 ∧
      (runQuery env s q).2.answer.2.Sublist (pureHosts env (env.reqOf q)) := by
  rw [runQuery_degraded q hs]
  exact ⟨nets_restrict_sublist env _ q, hosts_restrict_sublist env _ q⟩

/-- … spelled out for the network rules: exactly the entries of the fault-free first stage whose index is
    available (cached, or in an open list), in their order. -/
theorem runQuery_nets_exact {env : Env R Re} {s : State R Re} (q : Query) (hs : SInv env s) (hq : q.trivial = false) :
    (runQuery env s q).2.answer.1 = nets ((pure1 env (env.reqOf q)).filter (keep (avail env s))) := by
  rw [runQuery_degraded q hs, pureAnswer_nets _ q hq, restrict_reqOf, pure1_restrict]

/-- ORDER, lifted to histories with `close` events anywhere. -/
theorem history_sublist {env : Env R Re} (h : List HEv) (s : State R Re) (hs : SInv env s) :
    ∀ t ∈ (runHistoryT env s h).2, t.answer.1.Sublist (pureAnswer env t.q).1 ∧
      t.answer.2.Sublist (pureHosts env (env.reqOf t.q)) :=
  (runHistoryT_forall env (SInv env) _ (fun _ _ h => h)
    (fun _ q hI => ⟨(runQuery_good q hI).1, by rw [runQuery_q]; exact runQuery_sublist q hI⟩) h s hs).2

end UF.Prog
