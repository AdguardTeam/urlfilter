import UF.Proofs.EngineMatch
import UF.Spec.DnsEngine
/-
  Lemmas for C02: the mask idiom of `IsHostLevelNetworkRule`, the structure of the DNS engine
  built from a rule list, the host-name table, the assembly of the answer.
-/
namespace UF.B
open UF UF.Bytes

theorem or_mask (e H : Nat) : (e ||| H) = H ↔ ∀ i, e.testBit i = true → H.testBit i = true := by
  constructor
  · intro h i hi
    have := congrArg (fun n => n.testBit i) h
    simp only [Nat.testBit_or, hi, Bool.true_or] at this
    exact this.symm
  · intro h
    apply Nat.eq_of_testBit_eq
    intro i
    simp only [Nat.testBit_or]
    cases he : e.testBit i with
    | false => simp
    | true => simp [h i he]

/-- `((e & H) | (e ^ H)) == H` says exactly that `e` has no bit outside `H`: the left side is `e | H`. -/
theorem mask_idiom (e H : Nat) :
    ((e &&& H) ||| (e ^^^ H)) = H ↔ ∀ i, e.testBit i = true → H.testBit i = true := by
  have : (e &&& H) ||| (e ^^^ H) = e ||| H := by
    apply Nat.eq_of_testBit_eq
    intro i
    simp only [Nat.testBit_or, Nat.testBit_and, Nat.testBit_xor]
    cases e.testBit i <;> cases H.testBit i <;> rfl
  rw [this]
  exact or_mask e H

theorem isHostLevel_iff' (r : NetRule) :
    isHostLevel r = true ↔
      r.permDomains = [] ∧ r.restrDomains = [] ∧ ¬(r.permTypes ≠ 0 ∧ r.restrTypes ≠ 0) ∧ r.disabled = 0 ∧
      (∀ i, r.enabled.testBit i = true → Facts.OptionHostLevelRulesOnly.testBit i = true) := by
  have hen : (if r.enabled != 0 then
      ((r.enabled &&& Facts.OptionHostLevelRulesOnly) ||| (r.enabled ^^^ Facts.OptionHostLevelRulesOnly))
        == Facts.OptionHostLevelRulesOnly else true) = true ↔
      ∀ i, r.enabled.testBit i = true → Facts.OptionHostLevelRulesOnly.testBit i = true := by
    by_cases h : r.enabled = 0
    · simp [h]
    · simp only [bne_iff_ne, ne_eq, h, not_false_eq_true, if_true, beq_iff_eq, mask_idiom]
  -- the chain `if c then false else …` is the conjunction of the negated conditions
  unfold isHostLevel
  simp only [Bool.if_false_left, Bool.and_eq_true, hen]
  simp only [Bool.not_eq_true', decide_eq_false_iff_not, Bool.or_eq_true, not_or, decide_eq_true_eq,
    List.length_pos_iff, bne_iff_ne, ne_eq, Decidable.not_not, and_assoc, gt_iff_lt]

theorem dnsApplicable_eq (r : NetRule) : dnsApplicable r = isHostLevel r := by
  have hH : Facts.OptionImportant ||| Facts.OptionBadfilter = Facts.OptionHostLevelRulesOnly := by decide
  apply Bool.eq_iff_iff.2
  rw [isHostLevel_iff']
  unfold dnsApplicable
  rw [hH]
  simp only [Bool.and_eq_true, List.isEmpty_iff, Bool.not_eq_true', beq_iff_eq, or_mask]
  constructor
  · rintro ⟨⟨⟨⟨h1, h2⟩, h3⟩, h4⟩, h5⟩
    refine ⟨h1, h2, ?_, h4, h5⟩
    rintro ⟨a, b⟩
    simp [a, b] at h3
  · rintro ⟨h1, h2, h3, h4, h5⟩
    refine ⟨⟨⟨⟨h1, h2⟩, ?_⟩, h4⟩, h5⟩
    cases hc : (r.permTypes != 0 && r.restrTypes != 0) with
    | false => rfl
    | true => simp at hc; exact absurd hc h3

theorem hostRule_matches_iff (r : HostRule) (host : Bytes) :
    hostRuleMatches r host = true ↔ host ∈ r.hostnames := by
  unfold hostRuleMatches
  simp only [Bool.or_eq_true, Bool.and_eq_true, decide_eq_true_eq, beq_iff_eq, List.any_eq_true]
  constructor
  · rintro (⟨_, h⟩ | ⟨x, hx, rfl⟩)
    · exact List.mem_of_mem_head? h
    · exact hx
  · intro h; exact Or.inr ⟨host, h, rfl⟩

theorem dns_build_net (hf : HashFns) (k : Nat) (L : List (Rule × Idx)) :
    (DnsEngine.build hf k L).net = Engine.build hf k (hostLevelNet L) := by
  suffices ∀ d : DnsEngine, (L.foldl (fun d p => d.addRule hf k p.1 p.2) d).net =
      (hostLevelNet L).foldl (fun e p => e.addRule hf k p.1 p.2) d.net from this {}
  induction L with
  | nil => intro d; rfl
  | cons p L ih =>
    intro d
    simp only [List.foldl_cons, ih]
    obtain ⟨rule, idx⟩ := p
    cases rule with
    | net r => by_cases h : isHostLevel r = true <;> simp [hostLevelNet, DnsEngine.addRule, h]
    | host hr => simp [hostLevelNet, DnsEngine.addRule]
    | cos c => simp [hostLevelNet, DnsEngine.addRule]

theorem DnsEngine.addRule_hosts (hf : HashFns) (k : Nat) (d : DnsEngine) (rule : Rule) (idx i : Idx) (x : UInt32) :
    i ∈ hget [] (d.addRule hf k rule idx).hosts x ↔
      i ∈ hget [] d.hosts x ∨ ∃ hr, rule = .host hr ∧ ∃ n ∈ hr.hostnames, x = hf.h n ∧ i = idx := by
  cases rule with
  | net r =>
    have : (d.addRule hf k (.net r) idx).hosts = d.hosts := by
      simp only [DnsEngine.addRule]; split <;> rfl
    simp [this]
  | cos c => simp [DnsEngine.addRule]
  | host hr => simp [DnsEngine.addRule, mem_foldl_pushIdx]

theorem dns_build_hosts (hf : HashFns) (k : Nat) (L : List (Rule × Idx)) (i : Idx) (x : UInt32) :
    i ∈ hget [] (DnsEngine.build hf k L).hosts x ↔
      ∃ hr, (Rule.host hr, i) ∈ L ∧ ∃ n ∈ hr.hostnames, x = hf.h n := by
  unfold DnsEngine.build
  rw [mem_foldl_iff (proj := fun d => hget [] d.hosts x) (fun d p i => DnsEngine.addRule_hosts hf k d p.1 p.2 i x)]
  constructor
  · rintro (h | ⟨⟨_, _⟩, hp, hr, rfl, n, hn, hx, rfl⟩)
    · cases h
    · exact ⟨hr, hp, n, hn, hx⟩
  · rintro ⟨hr, hp, n, hn, hx⟩
    exact Or.inr ⟨_, hp, hr, rfl, n, hn, hx, rfl⟩

theorem mem_hostLevelNet (L : List (Rule × Idx)) (r : NetRule) (i : Idx) :
    (r, i) ∈ hostLevelNet L ↔ (Rule.net r, i) ∈ L ∧ isHostLevel r = true := by
  unfold hostLevelNet
  simp only [List.mem_filterMap]
  constructor
  · rintro ⟨⟨rule, idx⟩, hp, h⟩
    cases rule with
    | net r' =>
      simp only at h
      split at h
      · rename_i hl; cases h; exact ⟨hp, hl⟩
      · cases h
    | host _ => cases h
    | cos _ => cases h
  · rintro ⟨hp, hl⟩
    exact ⟨(Rule.net r, i), hp, by simp [hl]⟩

theorem mem_netRulesOf (L : List Rule) (r : NetRule) : r ∈ netRulesOf L ↔ Rule.net r ∈ L :=
  mem_filterMap_sel (fun a b => by cases a <;> simp) L r

theorem mem_hostRulesOf (L : List Rule) (r : HostRule) : r ∈ hostRulesOf L ↔ Rule.host r ∈ L :=
  mem_filterMap_sel (fun a b => by cases a <;> simp) L r

theorem hostLevelNet_sub {L : List (Rule × Idx)} {p : NetRule × Idx} (hp : p ∈ hostLevelNet L) :
    p.1 ∈ netRulesOf (L.map (·.1)) :=
  (mem_netRulesOf _ _).2 (List.mem_map.2 ⟨(.net p.1, p.2), ((mem_hostLevelNet L p.1 p.2).1 hp).1, rfl⟩)

theorem hostLevelNet_length (L : List (Rule × Idx)) : (hostLevelNet L).length ≤ L.length := by
  unfold hostLevelNet; exact List.length_filterMap_le _ _

/-- The host-name table: bucket, retrieval and re-`Match` return exactly the host rules naming `host`
    (whatever collides in the bucket is filtered out). -/
theorem mem_matchLookupTable (hf : HashFns) (k : Nat) (retrieve : Idx → Option Rule)
    (L : List (Rule × Idx)) (hret : RetrievalOK retrieve L) (host : Bytes) (hr : HostRule) :
    hr ∈ (DnsEngine.build hf k L).matchLookupTable hf retrieve host ↔
      hr ∈ (hostRulesOf (L.map (·.1))).filter (fun hr => hr.hostnames.contains host) := by
  unfold DnsEngine.matchLookupTable
  simp only [List.mem_filterMap, List.mem_filter, mem_hostRulesOf, List.contains_iff_mem, List.mem_map]
  constructor
  · rintro ⟨idx, hidx, h⟩
    obtain ⟨hr0, h0, _⟩ := (dns_build_hosts hf k L idx _).1 hidx
    have hr0' := hret _ h0
    simp only at hr0'
    simp only [retrieveHost, hr0'] at h
    split at h
    · rename_i hm; cases h
      exact ⟨⟨_, h0, rfl⟩, (hostRule_matches_iff _ _).1 hm⟩
    · cases h
  · rintro ⟨⟨⟨rule, idx⟩, hp, hrule⟩, hmem⟩
    simp only at hrule
    subst hrule
    refine ⟨idx, (dns_build_hosts hf k L idx _).2 ⟨hr, hp, host, hmem, rfl⟩, ?_⟩
    have := hret _ hp
    simp only at this
    simp [retrieveHost, this, (hostRule_matches_iff hr host).2 hmem]

theorem retrievalOK_hostLevelNet {retrieve : Idx → Option Rule} {L : List (Rule × Idx)}
    (hret : RetrievalOK retrieve L) : RetrievalOK (retrieveNet retrieve) (hostLevelNet L) := by
  intro p hp
  have := hret _ ((mem_hostLevelNet L p.1 p.2).1 hp).1
  simp only at this
  simp [retrieveNet, this]

theorem domainsWF_hostLevelNet (L : List (Rule × Idx)) : ∀ p ∈ hostLevelNet L, DomainsWF p.1 := by
  intro p hp d hd
  rw [((isHostLevel_iff' p.1).1 ((mem_hostLevelNet L p.1 p.2).1 hp).2).1] at hd
  cases hd

theorem mem_specMatchAll_hostLevelNet (ext : Ext) (L : List (Rule × Idx)) (q : Request) (r : NetRule) :
    r ∈ specMatchAll ext ((hostLevelNet L).map (·.1)) q ↔
      r ∈ (netRulesOf (L.map (·.1))).filter (fun r => dnsApplicable r && r.matches ext q) := by
  simp only [specMatchAll, List.mem_filter, mem_netRulesOf, List.mem_map, Bool.and_eq_true, dnsApplicable_eq]
  constructor
  · rintro ⟨⟨⟨r', i⟩, hp, rfl⟩, hm⟩
    obtain ⟨h1, h2⟩ := (mem_hostLevelNet L r' i).1 hp
    exact ⟨⟨(Rule.net r', i), h1, rfl⟩, h2, hm⟩
  · rintro ⟨⟨⟨rule, i⟩, hp, rfl⟩, hl, hm⟩
    exact ⟨⟨(r, i), (mem_hostLevelNet L r i).2 ⟨hp, hl⟩, rfl⟩, hm⟩

theorem DnsResult.equiv_of {nrs nrs' : List NetRule} {bm bs : Option NetRule} {rr hs : List HostRule}
    (htexts : ∀ t, t ∈ nrs.map (·.text) ↔ t ∈ nrs'.map (·.text)) (hb : bm.map netCls = bs.map netCls)
    (hhost : ∀ h, h ∈ rr ↔ h ∈ hs) :
    DnsResult.Equiv
      (match (generalizing := false) bm with
        | some r => { networkRules := nrs, networkRule := some r, matched := true }
        | none =>
          if rr.isEmpty then { networkRules := nrs }
          else { networkRules := nrs, v4 := rr.filter (·.ip.is4), v6 := rr.filter (!·.ip.is4), matched := true })
      (match (generalizing := false) bs with
        | some r => { networkRules := nrs', networkRule := some r, matched := true }
        | none => { networkRules := nrs', v4 := hs.filter (·.ip.is4), v6 := hs.filter (!·.ip.is4),
                    matched := !hs.isEmpty }) := by
  have hemp : rr.isEmpty = hs.isEmpty := by
    rw [Bool.eq_iff_iff, List.isEmpty_iff, List.isEmpty_iff, List.eq_nil_iff_forall_not_mem,
      List.eq_nil_iff_forall_not_mem]
    exact forall_congr' fun h => not_congr (hhost h)
  rcases bm with _ | rM <;> rcases bs with _ | rS
  · cases he : hs.isEmpty <;> rw [he] at hemp <;> simp only [hemp, if_true, Bool.false_eq_true, if_false]
    · exact ⟨htexts, rfl, fun h => by simp only [List.mem_filter, hhost],
        fun h => by simp only [List.mem_filter, hhost], rfl⟩
    · rw [List.isEmpty_iff.1 he]
      exact ⟨htexts, rfl, fun _ => Iff.rfl, fun _ => Iff.rfl, rfl⟩
  · cases hb
  · cases hb
  · exact ⟨htexts, hb, fun _ => Iff.rfl, fun _ => Iff.rfl, rfl⟩

end UF.B
