import UF.Proofs.Shortcut
/-
  Merged required literals (`litInfo`, `requiredRuns`): every run is a factor of the lower-cased
  subject of every successful match (`search_runs`).
-/
namespace UF
open Bytes Re

/-- What `litInfo r = i` promises about the lower-cased text `lw` consumed by a match of `r`. -/
def LitInfo.Good (i : LitInfo) (lw : Bytes) : Prop :=
  (i.exact = true → lw = i.pre) ∧ (∃ z, lw = i.pre ++ z) ∧ (∃ z, lw = z ++ i.suf) ∧
    ∀ l ∈ i.inner, hasSub lw l = true

theorem LitInfo.good_trivial (lw : Bytes) : LitInfo.Good ⟨false, [], [], []⟩ lw :=
  ⟨by simp, ⟨lw, by simp⟩, ⟨lw, by simp⟩, by simp⟩

theorem litInfo_exact (r : Re) : (litInfo r).exact = true →
    (litInfo r).suf = (litInfo r).pre ∧ (litInfo r).inner = [] := by
  induction r with
  | cat a b iha ihb =>
    simp only [litInfo, Bool.and_eq_true]
    rintro ⟨ha, hb⟩
    obtain ⟨a1, a2⟩ := iha ha
    obtain ⟨b1, b2⟩ := ihb hb
    simp [ha, hb, a1, a2, b1, b2]
  | grp a iha => simpa [litInfo] using iha
  | rep a m mx iha =>
    simp only [litInfo]
    split <;> simp
  | _ => simp [litInfo]

/-- Iterations of `a` (what follows the first iteration of `a+`, `a{m,}`, `a{m,n}`). -/
inductive Iter (a : Re) : St → St → Prop
  | nil {s} : Iter a s s
  | step {s t u} : Den a s t → Iter a t u → Iter a s u

theorem Iter.shape {a : Re} {s t : St} (h : Iter a s t) : ∃ x, s.post = x ++ t.post := by
  induction h with
  | nil => exact ⟨[], by simp⟩
  | step h1 _ ih =>
    obtain ⟨x, hx, _⟩ := h1.shape
    obtain ⟨y, hy⟩ := ih
    exact ⟨x ++ y, by simp [hx, hy]⟩

theorem den_iter {r : Re} {s t : St} (h : Den r s t) :
    ∀ a, (r = .star a ∨ ∃ m mx, r = .rep a m mx) → Iter a s t := by
  induction h with
  | star0 => intro a _; exact .nil
  | starS h1 _ _ ih2 =>
    intro a hr
    rcases hr with hr | ⟨_, _, hr⟩ <;> cases hr
    exact .step h1 (ih2 _ (.inl rfl))
  | repU0 _ ih =>
    intro a hr
    rcases hr with hr | ⟨_, _, hr⟩ <;> cases hr
    exact ih _ (.inl rfl)
  | repUS h1 _ _ ih2 =>
    intro a hr
    rcases hr with hr | ⟨_, _, hr⟩ <;> cases hr
    exact .step h1 (ih2 _ (.inr ⟨_, _, rfl⟩))
  | repB0 => intro a _; exact .nil
  | repBO h1 _ _ ih2 =>
    intro a hr
    rcases hr with hr | ⟨_, _, hr⟩ <;> cases hr
    exact .step h1 (ih2 _ (.inr ⟨_, _, rfl⟩))
  | repBS h1 _ _ ih2 =>
    intro a hr
    rcases hr with hr | ⟨_, _, hr⟩ <;> cases hr
    exact .step h1 (ih2 _ (.inr ⟨_, _, rfl⟩))
  | _ => intro a hr; rcases hr with hr | ⟨_, _, hr⟩ <;> cases hr

/-- The text consumed by further iterations is empty or ends with the suffix of `a`. -/
theorem iter_tail {a : Re} {sa : Bytes}
    (hA : ∀ s t w, Den a s t → s.post = w ++ t.post → ∃ z, toLower w = z ++ sa)
    {t u : St} (h : Iter a t u) : ∀ w, t.post = w ++ u.post → w = [] ∨ ∃ z, toLower w = z ++ sa := by
  induction h with
  | @nil s =>
    intro w hw
    exact .inl (nil_of_post_eq hw)
  | @step s m u h1 h2 ih =>
    intro w hw
    obtain ⟨w1, e1, _⟩ := h1.shape
    obtain ⟨w2, e2⟩ := h2.shape
    obtain rfl := word_split e1 e2 hw
    right
    obtain ⟨z1, hz1⟩ := hA _ _ _ h1 e1
    rcases ih w2 e2 with rfl | ⟨z2, hz2⟩
    · exact ⟨z1, by simpa using hz1⟩
    · exact ⟨toLower w1 ++ z2, by rw [toLower_append, hz2]; simp⟩

/-- first iteration + further iterations (`a+`, `a{m+1,…}`) -/
theorem good_first_iter {a : Re} (iha : ∀ s t, Den a s t → ∀ w, s.post = w ++ t.post → (litInfo a).Good (toLower w))
    {s t u : St} (h1 : Den a s t) (h2 : Iter a t u) (w : Bytes) (hw : s.post = w ++ u.post) :
    LitInfo.Good ⟨false, (litInfo a).pre, (litInfo a).suf, (litInfo a).inner⟩ (toLower w) := by
  obtain ⟨w1, e1, _⟩ := h1.shape
  obtain ⟨w2, e2⟩ := h2.shape
  obtain rfl := word_split e1 e2 hw
  obtain ⟨_, ⟨zp, hp⟩, ⟨zs, hs⟩, hin⟩ := iha _ _ h1 _ e1
  have htail := iter_tail (sa := (litInfo a).suf) (fun s t w hd hw => (iha s t hd w hw).2.2.1) h2 w2 e2
  rw [toLower_append]
  refine ⟨by simp, ⟨zp ++ toLower w2, by rw [hp]; simp⟩, ?_, ?_⟩
  · rcases htail with rfl | ⟨z, hz⟩
    · exact ⟨zs, by simpa [toLower] using hs⟩
    · exact ⟨toLower w1 ++ z, by rw [hz]; simp⟩
  · intro l hl
    exact hasSub_append_left _ (hin l hl)

theorem den_info (r : Re) : ∀ (s t : St), Den r s t → ∀ w, s.post = w ++ t.post →
    (litInfo r).Good (toLower w) := by
  induction r with
  | lit bs fold =>
    intro s t h w hw
    simp only [litInfo, h.lit_word hw]
    exact ⟨fun _ => rfl, ⟨[], by simp⟩, ⟨[], by simp⟩, by simp⟩
  | empty | bol | eol | wordB | nwordB =>
    intro s t h w hw
    cases h
    rw [nil_of_post_eq hw]
    exact ⟨fun _ => rfl, ⟨[], rfl⟩, ⟨[], rfl⟩, fun _ hl => nomatch hl⟩
  | grp a iha =>
    intro s t h w hw
    cases h with
    | grp h => exact iha _ _ h w hw
  | cat a b iha ihb =>
    intro s u h w hw
    cases h with
    | cat h1 h2 =>
      obtain ⟨w1, w2, rfl, e1, e2⟩ := h1.split h2 hw
      obtain ⟨ea, ⟨zpa, hpa⟩, ⟨zsa, hsa⟩, hia⟩ := iha _ _ h1 _ e1
      obtain ⟨eb, ⟨zpb, hpb⟩, ⟨zsb, hsb⟩, hib⟩ := ihb _ _ h2 _ e2
      rw [toLower_append]
      simp only [litInfo]
      refine ⟨?_, ?_, ?_, ?_⟩
      · simp only [Bool.and_eq_true]
        rintro ⟨ha, hb⟩
        simp [ha, ea ha, eb hb]
      · cases ha : (litInfo a).exact with
        | true => exact ⟨zpb, by simp [ea ha, hpb]⟩
        | false => exact ⟨zpa ++ toLower w2, by simp [hpa]⟩
      · cases hb : (litInfo b).exact with
        | true =>
          have := (litInfo_exact b hb).1
          exact ⟨zsa, by simp [eb hb, hsa, this]⟩
        | false => exact ⟨toLower w1 ++ zsb, by simp [hsb]⟩
      · intro l hl
        have hL : ∀ l ∈ (litInfo a).inner, hasSub (toLower w1 ++ toLower w2) l = true :=
          fun l hl => hasSub_append_left _ (hia l hl)
        have hR : ∀ l ∈ (litInfo b).inner, hasSub (toLower w1 ++ toLower w2) l = true :=
          fun l hl => hasSub_append_right _ (hib l hl)
        have hl' : l ∈ (if ((litInfo a).exact || (litInfo b).exact) = true
            then (litInfo a).inner ++ (litInfo b).inner
            else (litInfo a).inner ++ ((litInfo a).suf ++ (litInfo b).pre) :: (litInfo b).inner) := hl
        by_cases hx : ((litInfo a).exact || (litInfo b).exact) = true
        · rw [if_pos hx] at hl'
          rcases List.mem_append.1 hl' with hl | hl
          · exact hL l hl
          · exact hR l hl
        · rw [if_neg hx] at hl'
          simp only [List.mem_append, List.mem_cons] at hl'
          rcases hl' with hl | rfl | hl
          · exact hL l hl
          · exact (hasSub_iff _ _).2 ⟨zsa, zpb, by rw [hsa, hpb]; simp⟩
          · exact hR l hl
  | plus a iha =>
    intro s u h w hw
    cases h with
    | plus h1 h2 => exact good_first_iter iha h1 (den_iter h2 _ (.inl rfl)) w hw
  | rep a m mx iha =>
    intro s u h w hw
    cases h with
    | repU0 _ | repB0 | repBO _ _ => exact LitInfo.good_trivial _
    | repUS h1 h2 | repBS h1 h2 =>
      simp only [litInfo, Nat.succ_pos, if_true, gt_iff_lt]
      exact good_first_iter iha h1 (den_iter h2 _ (.inr ⟨_, _, rfl⟩)) w hw
  | _ => intro s t _ w _; exact LitInfo.good_trivial _

/-- Every merged run is a factor of the lower-cased subject of any successful search. -/
theorem search_runs (r : Re) (u : Bytes) (h : search r u = true) :
    ∀ l ∈ requiredRuns r, hasSub (toLower u) l = true := by
  intro l hl
  obtain ⟨x, y, z, rfl, hd⟩ := (search_iff r _).1 h
  obtain ⟨_, ⟨zp, hp⟩, ⟨zs, hs⟩, hin⟩ := den_info r _ _ hd y rfl
  have : hasSub (toLower y) l = true := by
    simp only [requiredRuns, List.mem_cons] at hl
    rcases hl with rfl | rfl | hl
    · exact (hasSub_iff _ _).2 ⟨[], zp, by simpa using hp⟩
    · exact (hasSub_iff _ _).2 ⟨zs, [], by simpa using hs⟩
    · exact hin l hl
  rw [toLower_append, toLower_append]
  exact hasSub_append_left _ (hasSub_append_right _ this)

end UF
