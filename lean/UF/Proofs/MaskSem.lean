import UF.Model.Mask
import UF.Proofs.ShortcutBytes
import UF.Proofs.Regex
/-
  C03, semantic level (part (A) of UF/Props/C03.lean, `maskAst_sem`): the expression `maskAst p mc` accepts,
  under unanchored search, exactly the strings of the documented mask language `maskAccepts p mc` -- for subjects without a
  line feed (`.` does not match `\n`; the property quantifies over printable ASCII).
-/
namespace UF.Mask
open UF UF.Re UF.MaskSpec

def NoNL (u : Bytes) : Prop := ∀ b ∈ u, b ≠ 10

theorem NoNL.tail {b : UInt8} {u : Bytes} (h : NoNL (b :: u)) : NoNL u :=
  fun x hx => h x (List.mem_cons_of_mem _ hx)

theorem NoNL.head {b : UInt8} {u : Bytes} (h : NoNL (b :: u)) : b ≠ 10 := h b (by simp)

/-! ### Matching a list of atoms in sequence -/

def catK : List Re → (St → Bool) → St → Bool
  | [], k, s => k s
  | a :: rest, k, s => a.m s (catK rest k)

theorem mkCat_m (l : List Re) (s : St) (k : St → Bool) : (mkCat l).m s k = catK l k s := by
  induction l generalizing s k with
  | nil => simp [mkCat, Re.m, catK]
  | cons a t ih =>
    cases t with
    | nil => simp [mkCat, catK]
    | cons b t' =>
      simp only [mkCat, Re.m, catK]
      congr 1
      funext u
      rw [ih]; rfl

theorem catK_append (l1 l2 : List Re) (k : St → Bool) (s : St) :
    catK (l1 ++ l2) k s = catK l1 (catK l2 k) s := by
  induction l1 generalizing s with
  | nil => rfl
  | cons a t ih =>
    simp only [List.cons_append, catK]
    congr 1
    funext u
    exact ih u

/-- `(?i)` or not, atom by atom. -/
def fcAtom (mc : Bool) (a : Re) : Re := if mc then a else a.foldCase

theorem maskAst_eq (p : MaskPat) (mc : Bool) : maskAst p mc = mkCat ((maskAtoms p).map (fcAtom mc)) := by
  cases mc with
  | true =>
    have : (fcAtom true) = id := by funext a; simp [fcAtom]
    simp [maskAst, this]
  | false =>
    have : (fcAtom false) = foldCase := by funext a; simp [fcAtom]
    simp [maskAst, this, foldCase_mkCat]

/-! ### Facts about bytes, by evaluation -/

theorem sepCls_eq (f : Bool) : ∀ b : UInt8,
    clsMatch true [(32, 32), (97, 122), (65, 90), (48, 57), (46, 46), (37, 37), (95, 95), (45, 45)] f b = isSep b := by
  cases f <;> (apply Bytes.forall_u8; decide +kernel)

theorem hostCls_eq (mc : Bool) : ∀ b : UInt8,
    clsMatch false [(97, 122), (48, 57), (45, 45), (95, 95), (46, 46)] (!mc) b = isHostChar mc b := by
  cases mc <;> (apply Bytes.forall_u8; decide +kernel)

theorem byteEq_dot (f : Bool) : ∀ b : UInt8, byteEq f b 46 = (b == 46) := by
  cases f <;> (apply Bytes.forall_u8; decide +kernel)

theorem byteEq_eqc (mc : Bool) (b c : UInt8) : byteEq (!mc) b c = eqc mc c b := by
  cases mc
  · by_cases h : b = c <;> simp [byteEq, eqc, h, Bool.beq_comm (a := Bytes.lowerByte c)]
  · simp [byteEq, eqc, Bool.beq_comm (a := b)]

/-! ### The body tokens -/

theorem lit_m (f : Bool) (c : UInt8) (pre post : Bytes) (k : St → Bool) :
    (Re.lit [c] f).m ⟨pre, post⟩ k =
      match post with
      | [] => false
      | b :: post' => byteEq f b c && k ⟨b :: pre, post'⟩ := by
  cases post with
  | nil => simp [Re.m, litStep]
  | cons b post' =>
    simp only [Re.m, litStep]
    cases byteEq f b c <;> simp

theorem single_m (p : UInt8 → Bool) (pre post : Bytes) (k : St → Bool) :
    single p ⟨pre, post⟩ k =
      match post with
      | [] => false
      | b :: post' => p b && k ⟨b :: pre, post'⟩ := by
  cases post <;> simp [single]

/-- `.*` tries every suffix (no line feed in the way).  The step `f` is a variable so that `simp` does
    not unfold it inside the loop. -/
theorem starAny_m (f : St → (St → Bool) → Bool) (hf : ∀ s k, f s k = single (fun b => b != 10) s k)
    (k : St → Bool) (g : Bytes → Bool)
    (hk : ∀ pre post, NoNL post → k ⟨pre, post⟩ = g post) :
    ∀ (n : Nat) (pre post : Bytes), post.length ≤ n → NoNL post →
      starLoop f n ⟨pre, post⟩ k = anySuffix g post := by
  intro n
  induction n with
  | zero =>
    intro pre post hl hn
    have : post = [] := List.eq_nil_of_length_eq_zero (by omega)
    subst this
    simp [starLoop, anySuffix, hk pre [] hn]
  | succ n ih =>
    intro pre post hl hn
    cases post with
    | nil => simp [starLoop, anySuffix, hk pre [] hn, hf, single]
    | cons b post' =>
      have hb : (b != 10) = true := by simpa using hn.head
      simp only [starLoop, hf, single_m, anySuffix, hk pre _ hn, hb, Bool.true_and]
      rw [ih (b :: pre) post' (by simpa using hl) hn.tail]
      simp

theorem fcAtom_lit (mc : Bool) (c : UInt8) : fcAtom mc (litAtom c) = .lit [c] (!mc) := by
  cases mc <;> rfl

theorem fcAtom_star (mc : Bool) : fcAtom mc (.star .any) = .star .any := by cases mc <;> rfl

theorem fcAtom_sep (mc : Bool) : fcAtom mc sepAst =
    .grp (.alt (.cls true [(32, 32), (97, 122), (65, 90), (48, 57), (46, 46), (37, 37), (95, 95), (45, 45)] (!mc)) .eol) := by
  cases mc <;> rfl

theorem fcAtom_eol (mc : Bool) : fcAtom mc .eol = .eol := by cases mc <;> rfl
theorem fcAtom_bol (mc : Bool) : fcAtom mc .bol = .bol := by cases mc <;> rfl

/-- The atoms of the body tokens (and the end marker) accept exactly what `matchBody` accepts. -/
theorem body_sem (mc e : Bool) : ∀ (ts : List Tok) (pre post : Bytes), NoNL post →
    catK ((ts.map tokAtom ++ endAtoms e).map (fcAtom mc)) (fun _ => true) ⟨pre, post⟩
      = matchBody mc e ts post := by
  intro ts
  induction ts with
  | nil =>
    intro pre post _
    cases e with
    | true => simp [endAtoms, fcAtom_eol, catK, Re.m, matchBody]
    | false => simp [endAtoms, catK, matchBody]
  | cons t ts ih =>
    intro pre post hn
    cases t with
    | lit c =>
      simp only [List.map_cons, List.cons_append, tokAtom, fcAtom_lit, catK, lit_m]
      cases post with
      | nil => simp [matchBody]
      | cons b post' => simp only [matchBody, byteEq_eqc]; rw [ih (b :: pre) post' hn.tail]
    | star =>
      simp only [List.map_cons, List.cons_append, tokAtom, fcAtom_star, catK, Re.m, matchBody]
      exact starAny_m _ (fun _ _ => rfl) _ _ (fun pre post hn => ih pre post hn) _ pre post (Nat.le_refl _) hn
    | sep =>
      simp only [List.map_cons, List.cons_append, tokAtom, fcAtom_sep, catK, Re.m, single_m]
      cases post with
      | nil =>
        simp only [matchBody, List.isEmpty_nil, Bool.true_and, Bool.false_or]
        exact ih pre [] hn
      | cons b post' =>
        simp only [matchBody, sepCls_eq, List.isEmpty_cons, Bool.false_and, Bool.or_false]
        rw [ih (b :: pre) post' hn.tail]

/-! ### Unanchored search, start markers -/

theorem searchFrom_any (r : Re) (g : Bytes → Bool)
    (hr : ∀ pre post, NoNL post → r.m ⟨pre, post⟩ (fun _ => true) = g post) :
    ∀ (post pre : Bytes), NoNL post → searchFrom r pre post = anySuffix g post := by
  intro post
  induction post with
  | nil => intro pre hn; simp [searchFrom, anySuffix, hr pre [] hn]
  | cons b post ih =>
    intro pre hn
    simp only [searchFrom, anySuffix, hr pre _ hn, ih (b :: pre) hn.tail]

/-- An expression that starts with `^` cannot match at a later position. -/
theorem searchFrom_bol (r : Re) (hr : ∀ pre post, pre ≠ [] → r.m ⟨pre, post⟩ (fun _ => true) = false) :
    ∀ (post pre : Bytes), pre ≠ [] → searchFrom r pre post = false := by
  intro post
  induction post with
  | nil => intro pre hp; simp [searchFrom, hr pre [] hp]
  | cons b post ih =>
    intro pre hp
    simp only [searchFrom, hr pre _ hp, ih (b :: pre) (by simp), Bool.or_false]

theorem search_bol (r : Re) (hr : ∀ pre post, pre ≠ [] → r.m ⟨pre, post⟩ (fun _ => true) = false) (u : Bytes) :
    search r u = r.m ⟨[], u⟩ (fun _ => true) := by
  unfold search
  cases u with
  | nil => rfl
  | cons b post => simp only [searchFrom, searchFrom_bol r hr post [b] (by simp), Bool.or_false]

/-- A run of one-character literals is a prefix test. -/
theorem lits_sem (mc : Bool) (k : St → Bool) (g : Bytes → Bool)
    (hk : ∀ pre post, NoNL post → k ⟨pre, post⟩ = g post) :
    ∀ (bs pre post : Bytes), NoNL post →
      catK (bs.map fun c => Re.lit [c] (!mc)) k ⟨pre, post⟩ =
        match stripPrefix mc bs post with
        | some r => g r
        | none => false := by
  intro bs
  induction bs with
  | nil => intro pre post hn; simp [catK, stripPrefix, hk pre post hn]
  | cons c bs ih =>
    intro pre post hn
    simp only [List.map_cons, catK, lit_m]
    cases post with
    | nil => simp [stripPrefix]
    | cons b post' =>
      simp only [stripPrefix, byteEq_eqc]
      cases h : eqc mc c b with
      | false => simp
      | true => simp only [Bool.true_and, ↓reduceIte]; exact ih (b :: pre) post' hn.tail

theorem afterSubdomains_pos (mc : Bool) (f : Bytes → Bool) :
    ∀ (s : Bytes) (n m : Nat), n > 0 → m > 0 → afterSubdomains mc f n s = afterSubdomains mc f m s := by
  intro s
  induction s with
  | nil => intros; rfl
  | cons x s ih =>
    intro n m hn hm
    simp only [afterSubdomains, hn, hm, decide_true, Bool.and_true]
    rw [ih (n + 1) (m + 1) (by omega) (by omega)]

/-- `[a-z0-9-_.]*` followed by `\.`, as the loop of the subdomain part. -/
theorem hostLoop_sem (mc : Bool) (f : St → (St → Bool) → Bool)
    (hf : ∀ s k, f s k = single (clsMatch false [(97, 122), (48, 57), (45, 45), (95, 95), (46, 46)] (!mc)) s k)
    (k : St → Bool) (g : Bytes → Bool) (hk : ∀ pre post, NoNL post → k ⟨pre, post⟩ = g post) :
    ∀ (n : Nat) (pre post : Bytes), post.length ≤ n → NoNL post →
      starLoop f n ⟨pre, post⟩ (fun t => (Re.lit [46] (!mc)).m t k) = afterSubdomains mc g 1 post := by
  intro n
  induction n with
  | zero =>
    intro pre post hl hn
    have : post = [] := List.eq_nil_of_length_eq_zero (by omega)
    subst this
    simp [starLoop, lit_m, afterSubdomains]
  | succ n ih =>
    intro pre post hl hn
    cases post with
    | nil => simp [starLoop, lit_m, afterSubdomains, hf, single]
    | cons b post' =>
      simp only [starLoop, lit_m, hf, single_m, afterSubdomains, byteEq_dot, hostCls_eq,
        hk (b :: pre) post' hn.tail]
      rw [ih (b :: pre) post' (by simpa using hl) hn.tail,
        afterSubdomains_pos mc g post' (1 + 1) 1 (by omega) (by omega)]
      simp

theorem quest_m (a : Re) (s : St) (k : St → Bool) : (Re.quest a).m s k = (k s || a.m s k) := by simp [Re.m]
theorem grp_m (a : Re) (s : St) (k : St → Bool) : (Re.grp a).m s k = a.m s k := by simp [Re.m]
theorem alt_m (a b : Re) (s : St) (k : St → Bool) : (Re.alt a b).m s k = (a.m s k || b.m s k) := by simp [Re.m]
theorem cat_m (a b : Re) (s : St) (k : St → Bool) : (Re.cat a b).m s k = a.m s (fun t => b.m t k) := by simp [Re.m]
theorem plus_m (a : Re) (s : St) (k : St → Bool) :
    (Re.plus a).m s k = a.m s (fun t => starLoop a.m t.post.length t k) := by simp [Re.m]
theorem bol_m (s : St) (k : St → Bool) : Re.bol.m s k = (s.pre.isEmpty && k s) := by simp [Re.m]
theorem cls_m (neg : Bool) (rs : List (UInt8 × UInt8)) (f : Bool) (s : St) (k : St → Bool) :
    (Re.cls neg rs f).m s k = single (clsMatch neg rs f) s k := by simp [Re.m]

/-- One-character literal atoms under the current case mode. -/
def litsF (mc : Bool) (bs : Bytes) : List Re := bs.map fun c => Re.lit [c] (!mc)

/-- `([a-z0-9-_.]+\.)?` under the current case mode. -/
def subdomAst (mc : Bool) : Re :=
  .quest (.grp (.cat (.plus (.cls false [(97, 122), (48, 57), (45, 45), (95, 95), (46, 46)] (!mc))) (.lit [46] (!mc))))

theorem startUrlAtoms_fc (mc : Bool) : startUrlAtoms.map (fcAtom mc) =
    [ .bol,
      .grp (.alt (mkCat (litsF mc [104, 116, 116, 112])) (.alt (mkCat (litsF mc [104, 116, 116, 112, 115]))
        (.alt (mkCat (litsF mc [119, 115])) (mkCat (litsF mc [119, 115, 115]))))),
      .lit [58] (!mc), .lit [47] (!mc), .lit [47] (!mc), subdomAst mc ] := by
  cases mc <;> rfl

theorem subdom_sem (mc : Bool) (k : St → Bool) (g : Bytes → Bool)
    (hk : ∀ pre post, NoNL post → k ⟨pre, post⟩ = g post) (pre post : Bytes) (hn : NoNL post) :
    (subdomAst mc).m ⟨pre, post⟩ k = (g post || afterSubdomains mc g 0 post) := by
  simp only [subdomAst, quest_m, grp_m, cat_m, plus_m, cls_m, single_m, hk pre post hn]
  cases post with
  | nil => simp [afterSubdomains]
  | cons b post' =>
    simp only [hostCls_eq, afterSubdomains]
    rw [hostLoop_sem mc _ (fun s k => cls_m _ _ _ s k) k g hk _ (b :: pre) post' (Nat.le_refl _) hn.tail]
    simp

theorem startUrl_sem (mc : Bool) (rest : List Re) (g : Bytes → Bool)
    (hrest : ∀ pre post, NoNL post → catK rest (fun _ => true) ⟨pre, post⟩ = g post)
    (pre post : Bytes) (hn : NoNL post) :
    catK (startUrlAtoms.map (fcAtom mc) ++ rest) (fun _ => true) ⟨pre, post⟩
      = (pre.isEmpty && afterStartURL mc g post) := by
  rw [startUrlAtoms_fc]
  -- continuation after the scheme group: `://`, the optional subdomains, the rest
  let K5 : St → Bool := fun s => (subdomAst mc).m s (catK rest (fun _ => true))
  have hK5 : ∀ pre post, NoNL post → K5 ⟨pre, post⟩ = (g post || afterSubdomains mc g 0 post) :=
    fun pre post hn => subdom_sem mc _ g hrest pre post hn
  have hsc : ∀ (sc : Bytes),
      (mkCat (litsF mc sc)).m ⟨pre, post⟩
        (catK (Re.lit [58] (!mc) :: Re.lit [47] (!mc) :: Re.lit [47] (!mc) :: subdomAst mc :: rest) (fun _ => true))
      = afterScheme mc g post sc := by
    intro sc
    unfold afterScheme
    rw [mkCat_m]
    have : catK (Re.lit [58] (!mc) :: Re.lit [47] (!mc) :: Re.lit [47] (!mc) :: subdomAst mc :: rest) (fun _ => true)
        = catK (litsF mc [58, 47, 47]) K5 := rfl
    rw [this, ← catK_append, litsF, litsF, ← List.map_append]
    exact lits_sem mc K5 _ hK5 _ pre post hn
  simp only [List.cons_append, List.nil_append]
  rw [catK, bol_m, catK, grp_m, alt_m, alt_m, alt_m, hsc, hsc, hsc, hsc]
  simp [afterStartURL, schemes]

theorem maskAst_sem (p : MaskPat) (mc : Bool) (u : Bytes) (hany : p.isAny = false) (hn : NoNL u) :
    search (maskAst p mc) u = maskAccepts p mc u := by
  obtain ⟨st, body, e⟩ := p
  have hbody := body_sem mc e body
  unfold maskAccepts
  rw [hany, maskAst_eq]
  simp only [Bool.false_eq_true, ↓reduceIte, maskAtoms, List.append_assoc, List.map_append]
  have hrest : ∀ pre post, NoNL post →
      catK (List.map (fcAtom mc) (List.map tokAtom body) ++ List.map (fcAtom mc) (endAtoms e)) (fun _ => true) ⟨pre, post⟩
        = matchBody mc e body post := by
    intro pre post h
    rw [← List.map_append]; exact hbody pre post h
  cases st with
  | none =>
    simp only [startAtoms, List.map_nil, List.nil_append]
    unfold search
    exact searchFrom_any _ _ (fun pre post h => by rw [mkCat_m]; exact hrest pre post h) u [] hn
  | pipe =>
    simp only [startAtoms, List.map_cons, List.map_nil, fcAtom_bol, List.cons_append, List.nil_append]
    rw [search_bol]
    · rw [mkCat_m, catK, bol_m]; simp only [List.isEmpty_nil, Bool.true_and]; exact hrest [] u hn
    · intro pre post hp
      rw [mkCat_m, catK, bol_m]
      cases pre with
      | nil => exact absurd rfl hp
      | cons _ _ => rfl
  | dbl =>
    simp only [startAtoms]
    rw [search_bol]
    · rw [mkCat_m, startUrl_sem mc _ _ hrest [] u hn]; rfl
    · intro pre post hp
      rw [mkCat_m, startUrlAtoms_fc]
      simp only [List.cons_append]
      rw [catK, bol_m]
      cases pre with
      | nil => exact absurd rfl hp
      | cons _ _ => rfl

end UF.Mask
