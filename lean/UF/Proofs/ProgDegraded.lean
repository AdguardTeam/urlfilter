import UF.Proofs.ProgSound
/-
  C19, "results are a subset of the fault-free results" WITH ORDER, the stateless side.  Striking the
  unavailable indexes out of the lists (`Env.restrict`; an index is available when its rule is cached or its list
  is open, `avail`) FILTERS what the stateless fold collects (`pureFold_restrict`: `ruleIn` keeps the first
  occurrence, and all occurrences of an index are struck out together), so the answer of the restricted engine is
  a SUB-SEQUENCE of the full one.  Under concurrency the degraded answer need not be one (witness in
  Props/C19Composed.lean).
-/
namespace UF.Prog
variable {R Re : Type}

theorem ruleIn_filter_keep (av : Idx → Bool) (idx : Idx) (acc : List (Item × R)) (h : av idx = true) :
    ruleIn idx (acc.filter (keep av)) = ruleIn idx acc := by
  induction acc with
  | nil => rfl
  | cons e rest ih =>
    simp only [ruleIn] at ih ⊢
    by_cases he : e.1 = Item.st .sc idx
    · have hk : keep av e = true := by simp [keep, he, h]
      simp [hk, he]
    · have hb : (e.1 == Item.st .sc idx) = false := by simpa using he
      by_cases hk : keep av e = true
      · simp only [List.filter_cons, hk, if_true, List.any_cons, hb, Bool.false_or]; exact ih
      · simp only [List.filter_cons, hk, List.any_cons, hb, Bool.false_or]; exact ih

theorem pureStep_restrict (env : Env R Re) (av : Idx → Bool) (req : Request) (acc : List (Item × R)) (it : Item) :
    pureStep (env.restrict av) req (acc.filter (keep av)) it = (pureStep env req acc it).filter (keep av) := by
  cases it with
  | st src idx =>
    simp only [pureStep, restrict_truth, restrict_wants, useStep_restrict]
    cases hav : av idx with
    | false =>
      simp only [Bool.false_eq_true, if_false, Option.filter_none]
      cases ho : (env.truth idx).filter (env.wants src) with
      | none => rfl
      | some r =>
        simp only [useStep]
        split
        · rfl
        · split
          · simp [List.filter_append, keep, hav]
          · rfl
    | true =>
      simp only [if_true]
      cases ho : (env.truth idx).filter (env.wants src) with
      | none => rfl
      | some r =>
        simp only [useStep, ruleIn_filter_keep av idx acc hav]
        split
        · rfl
        · split
          · simp [List.filter_append, keep, hav]
          · rfl
  | seq k =>
    simp only [pureStep]
    rw [seqStep_restrict]
    simp only [seqStep]
    cases env.resident[k]? with
    | none => rfl
    | some r =>
      simp only
      by_cases hm : env.mtch r req = true
      · have hk : keep av (Item.seq k, r) = true := rfl
        simp [hm, List.filter_append, hk]
      · simp [hm]

/-- Striking out indexes filters what the stateless fold collects. -/
theorem pureFold_restrict (env : Env R Re) (av : Idx → Bool) (req : Request) (items : List Item) :
    ∀ (acc : List (Item × R)),
      pureFold (env.restrict av) req (acc.filter (keep av)) items = (pureFold env req acc items).filter (keep av) := by
  induction items with
  | nil => intro acc; rfl
  | cons it rest ih => intro acc; rw [pureFold_cons, pureFold_cons, pureStep_restrict, ih]

theorem pure1_restrict (env : Env R Re) (av : Idx → Bool) (req : Request) :
    pure1 (env.restrict av) req = (pure1 env req).filter (keep av) := by
  unfold pure1
  rw [restrict_items1]
  exact pureFold_restrict env av req _ []

theorem nets_append (a b : List (Item × R)) : nets (a ++ b) = nets a ++ nets b := by simp [nets]
theorem hosts_append (a b : List (Item × R)) : hosts (a ++ b) = hosts a ++ hosts b := by simp [hosts]

/-- Host items add nothing to the network rules … -/
theorem nets_pureFold_host (env : Env R Re) (req : Request) (items : List Item) (hi : ∀ it ∈ items, it.isHost = true) :
    ∀ (acc : List (Item × R)), nets (pureFold env req acc items) = nets acc := by
  induction items with
  | nil => intro acc; rfl
  | cons it rest ih =>
    intro acc
    rw [pureFold_cons, ih (fun i h => hi i (List.mem_cons_of_mem _ h))]
    have hh := hi it List.mem_cons_self
    rcases pureStep_shape env req acc it with h | ⟨r, h, _⟩
    · rw [h]
    · rw [h, nets_append]; simp [nets, hh]

/-- … and items of the network tables nothing to the host rules. -/
theorem hosts_pureFold_net (env : Env R Re) (req : Request) (items : List Item) (hi : ∀ it ∈ items, it.isHost = false) :
    ∀ (acc : List (Item × R)), hosts (pureFold env req acc items) = hosts acc := by
  induction items with
  | nil => intro acc; rfl
  | cons it rest ih =>
    intro acc
    rw [pureFold_cons, ih (fun i h => hi i (List.mem_cons_of_mem _ h))]
    have hh := hi it List.mem_cons_self
    rcases pureStep_shape env req acc it with h | ⟨r, h, _⟩
    · rw [h]
    · rw [h, hosts_append]; simp [hosts, hh]

/-- Only the shortcuts table looks at what was collected before (`ruleIn`): the other items append what they
    would collect on their own. -/
theorem pureStep_append_of_not_sc (env : Env R Re) (req : Request) (acc : List (Item × R)) (it : Item)
    (h : ∀ idx, it ≠ .st .sc idx) : pureStep env req acc it = acc ++ pureStep env req [] it := by
  cases it with
  | st src idx =>
    have hs : (src == Src.sc) = false := by
      cases src with
      | sc => exact absurd rfl (h idx)
      | dom => rfl
      | host => rfl
    simp only [pureStep, useStep, hs, Bool.false_and, Bool.false_eq_true, if_false]
    split
    · simp
    · split <;> simp
  | seq j =>
    simp only [pureStep, seqStep]
    split
    · simp
    · split <;> simp

theorem pureFold_append_of_not_sc (env : Env R Re) (req : Request) (items : List Item)
    (h : ∀ it ∈ items, ∀ idx, it ≠ .st .sc idx) :
    ∀ (acc : List (Item × R)), pureFold env req acc items = acc ++ pureFold env req [] items := by
  induction items with
  | nil => intro acc; simp [pureFold_nil]
  | cons it rest ih =>
    intro acc
    have h1 := h it (List.mem_cons_self)
    have h2 : ∀ it' ∈ rest, ∀ idx, it' ≠ .st .sc idx := fun it' hi => h it' (List.mem_cons_of_mem _ hi)
    rw [pureFold_cons, pureStep_append_of_not_sc env req acc it h1, ih h2, pureFold_cons, ih h2 (pureStep env req [] it)]
    simp [List.append_assoc]

theorem items2_isHost {env : Env R Re} {q : Query} {req : Request} {nrs : List R} :
    ∀ it ∈ env.items2 q req nrs, it.isHost = true := by
  intro it h
  obtain ⟨idx, _, rfl⟩ := known_items2 h
  rfl

theorem hosts_pure1 (env : Env R Re) (req : Request) : hosts (pure1 env req) = [] := by
  unfold pure1
  rw [hosts_pureFold_net _ _ _ (fun it h => items1_not_host h)]
  rfl

theorem nets_pure1 (env : Env R Re) (req : Request) : nets (pure1 env req) = (pure1 env req).map (·.2) := by
  have h := hosts_pure1 env req
  simp only [hosts, List.map_eq_nil_iff, List.filter_eq_nil_iff] at h
  simp only [nets]
  rw [List.filter_eq_self.2 (fun e he => by simpa using h e he)]

/-- The network rules of the stateless answer are those of the first stage. -/
theorem pureAnswer_nets (env : Env R Re) (q : Query) (hq : q.trivial = false) :
    (pureAnswer env q).1 = nets (pure1 env (env.reqOf q)) := by
  simp only [pureAnswer, hq, Bool.false_eq_true, if_false, pure2]
  exact nets_pureFold_host env _ _ items2_isHost _

/-- The host rules of the stateless answer are those of the second stage alone. -/
theorem pureAnswer_hosts (env : Env R Re) (q : Query) (hq : q.trivial = false) :
    (pureAnswer env q).2 =
      hosts (pureFold env (env.reqOf q) [] (env.items2 q (env.reqOf q) (nets (pure1 env (env.reqOf q))))) := by
  have hns : ∀ it ∈ env.items2 q (env.reqOf q) (nets (pure1 env (env.reqOf q))), ∀ idx, it ≠ .st .sc idx := by
    intro it hit idx e
    have := items2_isHost it hit
    rw [e] at this; cases this
  simp only [pureAnswer, hq, Bool.false_eq_true, if_false, pure2]
  rw [pureFold_append_of_not_sc env _ _ hns, hosts_append, hosts_pure1, List.nil_append]

theorem sublist_nets_filter (p : Item × R → Bool) (l : List (Item × R)) : (nets (l.filter p)).Sublist (nets l) := by
  unfold nets
  exact (List.Sublist.filter _ List.filter_sublist).map _

theorem sublist_hosts_filter (p : Item × R → Bool) (l : List (Item × R)) : (hosts (l.filter p)).Sublist (hosts l) := by
  unfold hosts
  exact (List.Sublist.filter _ List.filter_sublist).map _

/-- ORDER, network rules: the answer of the engine with indexes struck out is a sub-sequence of the full one. -/
theorem nets_restrict_sublist (env : Env R Re) (av : Idx → Bool) (q : Query) :
    (pureAnswer (env.restrict av) q).1.Sublist (pureAnswer env q).1 := by
  cases hq : q.trivial with
  | true => simp [pureAnswer, hq]
  | false =>
    rw [pureAnswer_nets _ q hq, pureAnswer_nets _ q hq, restrict_reqOf, pure1_restrict]
    exact sublist_nets_filter _ _

/-- ORDER, host rules: a sub-sequence of what the hosts table holds for the name (the fault-free answer itself
    may hold NO host rule: it stops at a deciding network rule that the degraded run cannot read). -/
theorem hosts_restrict_sublist (env : Env R Re) (av : Idx → Bool) (q : Query) :
    (pureAnswer (env.restrict av) q).2.Sublist (pureHosts env (env.reqOf q)) := by
  cases hq : q.trivial with
  | true => simp [pureAnswer, hq]
  | false =>
    rw [pureAnswer_hosts _ q hq, restrict_reqOf]
    cases q with
    | web w => exact List.nil_sublist _
    | dns d =>
      simp only [Env.items2]
      split
      · exact List.nil_sublist _
      · have := pureFold_restrict env av (env.reqOf (.dns d)) ((env.hcands (env.reqOf (.dns d))).map (Item.st .host)) []
        simp only [List.filter_nil] at this
        rw [restrict_hcands, this]
        exact sublist_hosts_filter _ _

end UF.Prog
