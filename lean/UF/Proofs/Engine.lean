import UF.Proofs.Lookup
import UF.Model.Engine
/-
  The build invariant of the network engine and the generic soundness / completeness of
  `Engine.matchAllG`, for an arbitrary pair of hash functions and window length.
-/
namespace UF.B
open UF UF.Bytes

/-- Where rule `r` with storage index `idx` can be found again in engine `e`. -/
def Placed (hf : HashFns) (k : Nat) (e : Engine) (r : NetRule) (idx : Idx) : Prop :=
  (∃ w ∈ windows k r.shortcut, idx ∈ hget [] e.sc.lookup (hf.h w)) ∨
  (r.permDomains ≠ [] ∧ (∀ d ∈ r.permDomains, Bytes.hasSuffix d (lit ".*") = false) ∧
    ∀ d ∈ r.permDomains, idx ∈ hget [] e.dom.lookup (hf.h d)) ∨
  (∃ r' ∈ e.seq, r'.text = r.text)

/-- Tables only grow. -/
structure Le (e e' : Engine) : Prop where
  sc : ∀ hs i, i ∈ hget [] e.sc.lookup hs → i ∈ hget [] e'.sc.lookup hs
  dom : ∀ hs i, i ∈ hget [] e.dom.lookup hs → i ∈ hget [] e'.dom.lookup hs
  seq : ∀ r, r ∈ e.seq → r ∈ e'.seq

theorem Placed.mono {hf : HashFns} {k : Nat} {e e' : Engine} {r : NetRule} {idx : Idx}
    (hle : Le e e') (h : Placed hf k e r idx) : Placed hf k e' r idx := by
  rcases h with ⟨w, hw, h⟩ | ⟨h1, h2, h3⟩ | ⟨r', hr', h⟩
  · exact Or.inl ⟨w, hw, hle.sc _ _ h⟩
  · exact Or.inr (Or.inl ⟨h1, h2, fun d hd => hle.dom _ _ (h3 d hd)⟩)
  · exact Or.inr (Or.inr ⟨r', hle.seq _ hr', h⟩)

/-- The invariant of `NewNetworkEngine` after the rules `P` have been offered. -/
structure Inv (hf : HashFns) (k : Nat) (e : Engine) (P : List (NetRule × Idx)) : Prop where
  scIdx : ∀ hs i, i ∈ hget [] e.sc.lookup hs → ∃ r, (r, i) ∈ P
  domIdx : ∀ hs i, i ∈ hget [] e.dom.lookup hs → ∃ r, (r, i) ∈ P
  seqMem : ∀ r, r ∈ e.seq → ∃ i, (r, i) ∈ P
  placed : ∀ p, p ∈ P → Placed hf k e p.1 p.2
  hist : ∀ hs, hget 0 e.sc.hist hs ≤ P.length

theorem Inv.step_of {hf : HashFns} {k : Nat} {e e' : Engine} {P : List (NetRule × Idx)} {r : NetRule} {idx : Idx}
    (inv : Inv hf k e P) (hle : Le e e')
    (hsc : ∀ hs i, i ∈ hget [] e'.sc.lookup hs → i ∈ hget [] e.sc.lookup hs ∨ i = idx)
    (hdom : ∀ hs i, i ∈ hget [] e'.dom.lookup hs → i ∈ hget [] e.dom.lookup hs ∨ i = idx)
    (hseq : ∀ r0, r0 ∈ e'.seq → r0 ∈ e.seq ∨ r0 = r)
    (hhist : ∀ hs, hget 0 e'.sc.hist hs ≤ hget 0 e.sc.hist hs + 1)
    (hpl : Placed hf k e' r idx) : Inv hf k e' (P ++ [(r, idx)]) where
  scIdx hs i h := (hsc hs i h).elim (fun h => (inv.scIdx hs i h).imp fun _ => List.mem_append_left _)
    (fun h => ⟨r, by simp [h]⟩)
  domIdx hs i h := (hdom hs i h).elim (fun h => (inv.domIdx hs i h).imp fun _ => List.mem_append_left _)
    (fun h => ⟨r, by simp [h]⟩)
  seqMem r0 h := (hseq r0 h).elim (fun h => (inv.seqMem r0 h).imp fun _ => List.mem_append_left _)
    (fun h => ⟨idx, by simp [h]⟩)
  placed p hp := (List.mem_append.1 hp).elim (fun h => (inv.placed p h).mono hle)
    (fun h => by rw [List.mem_singleton.1 h]; exact hpl)
  hist hs := by
    have := inv.hist hs
    have := hhist hs
    simp only [List.length_append, List.length_singleton]
    omega

theorem Inv.step {hf : HashFns} {k : Nat} {e : Engine} {P : List (NetRule × Idx)}
    (inv : Inv hf k e P) (hlen : P.length < maxInt32) (r : NetRule) (idx : Idx) :
    Inv hf k (e.addRule hf k r idx) (P ++ [(r, idx)]) := by
  unfold Engine.addRule
  cases hsc : e.sc.tryAdd hf k r idx with
  | some sc' =>
    obtain ⟨w, hw, rfl⟩ := ShortcutsTable.tryAdd_eq_some (fun x => Nat.lt_of_le_of_lt (inv.hist x) hlen) hsc
    exact inv.step_of ⟨fun _ _ h => (mem_pushIdx ..).2 (Or.inl h), fun _ _ h => h, fun _ h => h⟩
      (fun _ _ h => ((mem_pushIdx ..).1 h).imp id (·.2)) (fun _ _ h => Or.inl h) (fun _ h => Or.inl h)
      (fun hs => by
        show hget 0 (hset e.sc.hist (hf.h w) _) hs ≤ _
        rw [hget_hset]
        split
        · next h => rw [h]; exact Nat.le_refl _
        · exact Nat.le_succ _)
      (Or.inl ⟨w, hw, (mem_pushIdx ..).2 (Or.inr ⟨rfl, rfl⟩)⟩)
  | none =>
    cases hdom : e.dom.tryAdd hf r idx with
    | some dom' =>
      obtain ⟨hpd, hwild, rfl⟩ := DomainsTable.tryAdd_eq_some hdom
      exact inv.step_of ⟨fun _ _ h => h, fun _ _ h => (mem_foldl_pushIdx ..).2 (Or.inl h), fun _ h => h⟩
        (fun _ _ h => Or.inl h) (fun _ _ h => ((mem_foldl_pushIdx ..).1 h).imp id fun ⟨_, _, _, h⟩ => h)
        (fun _ h => Or.inl h) (fun _ => Nat.le_succ _)
        (Or.inr (Or.inl ⟨hpd, hwild, fun d hd => (mem_foldl_pushIdx ..).2 (Or.inr ⟨d, hd, rfl, rfl⟩)⟩))
    | none =>
      show Inv hf k (if containsRule e.seq r then e else { e with seq := e.seq ++ [r] }) _
      split
      · next hc =>
        exact inv.step_of ⟨fun _ _ h => h, fun _ _ h => h, fun _ h => h⟩ (fun _ _ h => Or.inl h)
          (fun _ _ h => Or.inl h) (fun _ h => Or.inl h) (fun _ => Nat.le_succ _)
          (Or.inr (Or.inr (by simpa [containsRule] using hc)))
      · exact inv.step_of ⟨fun _ _ h => h, fun _ _ h => h, fun _ h => List.mem_append_left _ h⟩
          (fun _ _ h => Or.inl h) (fun _ _ h => Or.inl h)
          (fun _ h => (List.mem_append.1 h).imp id List.mem_singleton.1) (fun _ => Nat.le_succ _)
          (Or.inr (Or.inr ⟨r, by simp, rfl⟩))

theorem Inv.foldl {hf : HashFns} {k : Nat} (L : List (NetRule × Idx)) (e : Engine) (P : List (NetRule × Idx))
    (inv : Inv hf k e P) (hlen : (P ++ L).length < maxInt32) :
    Inv hf k (L.foldl (fun e p => e.addRule hf k p.1 p.2) e) (P ++ L) := by
  induction L generalizing e P with
  | nil => simpa using inv
  | cons p L ih =>
    simp only [List.foldl_cons]
    have h1 : P.length < maxInt32 := by simp at hlen; omega
    have := ih _ (P ++ [p]) (inv.step h1 p.1 p.2) (by simpa using hlen)
    simpa using this

theorem build_inv (hf : HashFns) (k : Nat) (L : List (NetRule × Idx)) (hlen : L.length < maxInt32) :
    Inv hf k (Engine.build hf k L) L := by
  have := Inv.foldl (hf := hf) (k := k) L {} [] (by constructor <;> simp [hget]) (by simpa using hlen)
  simpa [Engine.build] using this

theorem matchAllG_sound (hf : HashFns) (k : Nat) (retrieve : Idx → Option NetRule) (m : NetRule → Bool)
    (url src : Bytes) (L : List (NetRule × Idx)) (hlen : L.length < maxInt32)
    (hret : ∀ p ∈ L, retrieve p.2 = some p.1) :
    ∀ r ∈ (Engine.build hf k L).matchAllG hf k retrieve m url src, (∃ i, (r, i) ∈ L) ∧ m r = true := by
  have inv := build_inv hf k L hlen
  -- an index found in a table belongs to a rule of `L`, and that rule is what it retrieves
  have key : ∀ i r, (∃ r0, (r0, i) ∈ L) → retrieve i = some r → (r, i) ∈ L := by
    rintro i r ⟨r0, h0⟩ h1
    have := hret _ h0
    rw [h1] at this
    cases this
    exact h0
  intro r hr
  unfold Engine.matchAllG at hr
  rcases List.mem_append.1 hr with hr | hr
  · rcases List.mem_append.1 hr with hr | hr
    · obtain ⟨⟨i, r'⟩, hx, rfl⟩ := List.mem_map.1 hr
      obtain ⟨h1, h2, hs, h3⟩ := sc_matchAllG_sound hf k retrieve m url _ _ hx
      exact ⟨⟨i, key i r' (inv.scIdx hs i h3) h1⟩, h2⟩
    · obtain ⟨_, d, _, i, hi, h1, h2⟩ := (mem_dom_matchAllG _ _ _ _ _ _).1 hr
      exact ⟨⟨i, key i r (inv.domIdx _ i hi) h1⟩, h2⟩
  · obtain ⟨h1, h2⟩ := List.mem_filter.1 hr
    exact ⟨inv.seqMem r h1, h2⟩

/-- Generic completeness: a rule of the list satisfying the predicate is reported (up to its text),
    given a coherent hash pair (hashing a window of the URL in place gives the key the window was filed
    under), (H1) the predicate implies the shortcut is a factor of the URL, (H2) for a rule filed by
    its domains the predicate implies that one of them is among `getSubdomains src`, and that rules
    of the list with equal text agree on the predicate. -/
theorem matchAllG_complete (hf : HashFns) (k : Nat) (hcoh : hf.Coherent k)
    (retrieve : Idx → Option NetRule) (m : NetRule → Bool)
    (url src : Bytes) (L : List (NetRule × Idx)) (hlen : L.length < maxInt32)
    (hret : ∀ p ∈ L, retrieve p.2 = some p.1)
    (H1 : ∀ p ∈ L, m p.1 = true → Bytes.hasSub url p.1.shortcut = true)
    (H2 : ∀ p ∈ L, m p.1 = true → p.1.permDomains ≠ [] →
      (∀ d ∈ p.1.permDomains, Bytes.hasSuffix d (lit ".*") = false) →
      src ≠ [] ∧ ∃ d ∈ p.1.permDomains, d ∈ getSubdomains src)
    (Hsame : ∀ p ∈ L, ∀ p' ∈ L, p.1.text = p'.1.text → m p.1 = m p'.1) :
    ∀ p ∈ L, m p.1 = true →
      p.1.text ∈ ((Engine.build hf k L).matchAllG hf k retrieve m url src).map (·.text) := by
  have inv := build_inv hf k L hlen
  intro p hp hm
  unfold Engine.matchAllG
  simp only [List.map_append, List.mem_append]
  rcases inv.placed p hp with ⟨w, hw, hidx⟩ | ⟨hpd, hwild, hidx⟩ | ⟨r', hr', htext⟩
  · left; left
    obtain ⟨j, hj, rfl⟩ := window_of_hasSub (H1 p hp hm) hw
    obtain ⟨r', hx⟩ := sc_matchAllG_complete hf k retrieve m url _ j hj p.2
      (by rw [hcoh url j hj]; exact hidx) p.1 (hret p hp) hm
    obtain ⟨h1, _, _⟩ := sc_matchAllG_sound hf k retrieve m url _ _ hx
    simp only at h1
    rw [hret p hp] at h1; cases h1
    exact List.mem_map.2 ⟨p.1, List.mem_map.2 ⟨(p.2, p.1), hx, rfl⟩, rfl⟩
  · left; right
    obtain ⟨hsrc, d, hd, hsub⟩ := H2 p hp hm hpd hwild
    exact List.mem_map.2 ⟨p.1, (mem_dom_matchAllG _ _ _ _ _ _).2
      ⟨hsrc, d, hsub, p.2, hidx d hd, hret p hp, hm⟩, rfl⟩
  · right
    obtain ⟨i', hi'⟩ := inv.seqMem r' hr'
    have : m r' = true := by rw [← Hsame p hp _ hi' htext.symm]; exact hm
    exact List.mem_map.2 ⟨r', List.mem_filter.2 ⟨hr', this⟩, htext⟩

end UF.B
