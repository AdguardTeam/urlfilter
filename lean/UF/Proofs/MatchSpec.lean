import UF.Spec.Match
import UF.Model.ParseOptions
import UF.Proofs.MergeSorted
import UF.Proofs.MatchDomain
/- `NetworkRule.Match` = the declarative reference on rule records: one lemma per conjunct (request type, third
   party, `$domain`, `$denyallow`, `$dnstype`, `$ctag`, `$client`), the Go "permitted / restricted" shape stated once; `Match` does not see a
   permutation of the value lists (`matches_permEquiv`). -/
namespace UF.E
open Bytes

theorem contains_of_isEmpty {α} [BEq α] {l : List α} (h : l.isEmpty = true) (a : α) :
    l.contains a = false := by
  rw [List.isEmpty_iff] at h; subst h; rfl

theorem any_of_isEmpty {α} {l : List α} (h : l.isEmpty = true) (f : α → Bool) :
    l.any f = false := by
  rw [List.isEmpty_iff] at h; subst h; rfl

/-- The Go shape for a pair of permitted / restricted value lists -- nothing listed: accept; a
    restricted value present: reject; permitted values listed: one must be present -- says "not
    restricted, and permitted if anything is".  (`re`, `pe`: the lists are empty; an empty restricted
    list has no member.) -/
theorem permRestr_eq {re pe inR inP : Bool} (h : re = true → inR = false) :
    (if (re && pe) = true then true else if inR = true then false
      else if (!pe) = true then inP else true) = (!inR && (pe || inP)) := by
  cases re
  · cases pe <;> cases inR <;> cases inP <;> rfl
  · rw [h rfl]
    cases pe <;> cases inP <;> rfl

theorem matchDNSType_eq_spec (r : NetRule) (q : Request) :
    matchDNSType r q.dnsType = specDnsType r q := by
  unfold matchDNSType specDnsType
  rw [Bool.and_comm]
  exact permRestr_eq fun hr => contains_of_isEmpty hr _

theorem matchClientTags_eq_spec (r : NetRule) (q : Request) (hp : SortedB r.permTags)
    (hr : SortedB r.restrTags) (hq : SortedB q.sortedTags) :
    matchClientTags r q.sortedTags = specCTag r q := by
  unfold matchClientTags specCTag
  rw [matchClientTagsSpecific_iff _ _ hr hq, matchClientTagsSpecific_iff _ _ hp hq]
  exact permRestr_eq fun hre => any_of_isEmpty hre _

theorem containsAny_eq_spec (c : Option Clients) (h : ∀ c', c = some c' → SortedB c'.hosts)
    (name : Bytes) (ip : Option Addr) :
    Clients.containsAny c name ip = specClientIn c name ip := by
  cases c with
  | none => rfl
  | some c =>
    simp only [Clients.containsAny, specClientIn]
    rw [bsearch_iff _ _ (h c rfl)]
    cases (!name.isEmpty && c.hosts.contains name)
    · simp only [Bool.false_eq_true, if_false, Bool.false_or]
      cases ip <;> rfl
    · simp

theorem specClientIn_of_len_zero (c : Option Clients) (h : Clients.len c = 0) (name : Bytes)
    (ip : Option Addr) : specClientIn c name ip = false := by
  cases c with
  | none => rfl
  | some c =>
    simp only [Clients.len] at h
    have h1 : c.hosts = [] := List.eq_nil_of_length_eq_zero (by omega)
    have h2 : c.nets = [] := List.eq_nil_of_length_eq_zero (by omega)
    simp only [specClientIn, h1, h2]
    cases ip <;> simp

theorem matchClient_eq_spec (r : NetRule) (q : Request) (hwf : r.WellFormed) :
    matchClient r q.clientName q.clientIP = specClient r q := by
  unfold matchClient specClient
  rw [containsAny_eq_spec _ hwf.restrHosts, containsAny_eq_spec _ hwf.permHosts]
  exact permRestr_eq fun hr => specClientIn_of_len_zero _ (beq_iff_eq.mp hr) _ _

theorem matchSourceDomain_eq_spec (ext : Ext) (r : NetRule) (q : Request)
    (h : q.sourceHostname.head? ≠ some (ch '.')) :
    matchSourceDomain ext r q.sourceHostname = specSourceDomain ext r q := by
  unfold matchSourceDomain specSourceDomain
  rw [isDomainOrSubdomainOfAny_eq_spec _ _ _ h, isDomainOrSubdomainOfAny_eq_spec _ _ _ h]
  cases hr : r.restrDomains.isEmpty
  · cases r.permDomains.isEmpty <;> cases specInDomains ext q.sourceHostname r.restrDomains <;>
      cases specInDomains ext q.sourceHostname r.permDomains <;> rfl
  · rw [show specInDomains ext q.sourceHostname r.restrDomains = false from any_of_isEmpty hr _]
    cases r.permDomains.isEmpty <;> cases specInDomains ext q.sourceHostname r.permDomains <;> rfl

theorem matchRequestDomain_eq_spec (ext : Ext) (r : NetRule) (q : Request)
    (h : q.hostname.head? ≠ some (ch '.')) :
    matchRequestDomain ext r q.hostname q.isHostnameRequest = specDenyallow ext r q := by
  unfold matchRequestDomain specDenyallow
  rw [isDomainOrSubdomainOfAny_eq_spec _ _ _ h]
  cases r.denyallow.isEmpty
  · cases (q.isHostnameRequest && isProbablyIP q.hostname && (ext.parseAddr q.hostname).isSome) <;>
      simp
  · simp

theorem shouldMatchHostname_eq (r : NetRule) (q : Request) :
    shouldMatchHostname r q =
      (q.isHostnameRequest &&
        !(hasPrefix r.pattern (lit "||") || hasPrefix r.pattern (lit "http://") ||
          hasPrefix r.pattern (lit "https://") || hasPrefix r.pattern (lit "://")) &&
        !(decide (r.pattern.length > 3) && r.pattern.head? == some (ch '/') &&
          r.pattern.getLast? == some (ch '.') &&
          (r.pattern.drop 1).dropLast.all
            (fun c => isAlpha c || isDigit c || c == ch '.' || c == ch '-'))) := by
  unfold shouldMatchHostname
  cases q.isHostnameRequest
  · simp
  · cases (hasPrefix r.pattern (lit "||") || hasPrefix r.pattern (lit "http://") ||
          hasPrefix r.pattern (lit "https://") || hasPrefix r.pattern (lit "://"))
    · cases (decide (r.pattern.length > 3) && r.pattern.head? == some (ch '/') &&
          r.pattern.getLast? == some (ch '.'))
      · simp
      · simp
    · simp

theorem target_eq_spec (r : NetRule) (q : Request) :
    (if shouldMatchHostname r q then q.hostname else q.url) = specTarget r q := by
  rw [shouldMatchHostname_eq]
  rfl

theorem matchPattern_eq_spec (ext : Ext) (r : NetRule) (q : Request) :
    matchPattern ext r q = specPattern ext r q := by
  unfold matchPattern specPattern
  rw [target_eq_spec]

/-- the core of C04 -/
theorem matches_eq_spec (ext : Ext) (r : NetRule) (q : Request) (hwf : r.WellFormed)
    (hq : q.InDomain) : r.matches ext q = specMatch ext r q := by
  unfold NetRule.matches specMatch
  have hty : matchRequestType r q.reqType = specReqType r q.reqType := by
    obtain ⟨k, hk⟩ := hq.oneType
    rw [hk]; exact matchRequestType_eq_spec r k
  rw [hty, matchRequestDomain_eq_spec ext r q hq.hostNoDot,
    matchSourceDomain_eq_spec ext r q hq.srcNoDot, matchDNSType_eq_spec,
    matchClientTags_eq_spec r q hwf.permTags hwf.restrTags hq.sorted,
    matchClient_eq_spec r q hwf, matchPattern_eq_spec]
  have h3 : (matchShortcut r q && !(r.isEnabled Facts.OptionThirdParty && !q.thirdParty) &&
      !(r.isDisabled Facts.OptionThirdParty && q.thirdParty)) =
      (hasSub q.urlLower r.shortcut && specThirdParty r q) := by
    unfold matchShortcut specThirdParty
    cases hasSub q.urlLower r.shortcut <;> cases r.isEnabled Facts.OptionThirdParty <;>
      cases r.isDisabled Facts.OptionThirdParty <;> cases q.thirdParty <;> rfl
  rw [h3]

/-- `Match` reads a client set only through `containsAny` and `len`, which see the subnets as a set. -/
theorem clients_permEquiv {a b : Option Clients} (h : Clients.PermEquiv a b) :
    Clients.len a = Clients.len b ∧
      ∀ name ip, Clients.containsAny a name ip = Clients.containsAny b name ip := by
  match a, b, h with
  | none, none, _ => exact ⟨rfl, fun _ _ => rfl⟩
  | some a, some b, h =>
    refine ⟨by simp only [Clients.len, h.1, h.2.length_eq], fun name ip => ?_⟩
    simp only [Clients.containsAny, h.1]
    cases ip with
    | none => rfl
    | some ip => simp only [h.2.any_eq]

theorem matches_permEquiv (ext : Ext) {r r' : NetRule} (h : r.PermEquiv r') (q : Request) :
    r.matches ext q = r'.matches ext q := by
  have hen : ∀ o, r.isEnabled o = r'.isEnabled o := fun o => by
    simp only [NetRule.isEnabled, h.enabled]
  have hdis : ∀ o, r.isDisabled o = r'.isDisabled o := fun o => by
    simp only [NetRule.isDisabled, h.disabled]
  have h1 : matchShortcut r q = matchShortcut r' q := by
    simp only [matchShortcut, h.shortcut]
  have h2 : matchRequestType r q.reqType = matchRequestType r' q.reqType := by
    simp only [matchRequestType, h.permTypes, h.restrTypes]
  have h3 : matchRequestDomain ext r q.hostname q.isHostnameRequest =
      matchRequestDomain ext r' q.hostname q.isHostnameRequest := by
    simp only [matchRequestDomain, isDomainOrSubdomainOfAny, h.denyallow.isEmpty_eq,
      h.denyallow.any_eq]
  have h4 : matchSourceDomain ext r q.sourceHostname = matchSourceDomain ext r' q.sourceHostname := by
    unfold matchSourceDomain isDomainOrSubdomainOfAny
    rw [h.permDomains.isEmpty_eq, h.restrDomains.isEmpty_eq, h.permDomains.any_eq,
      h.restrDomains.any_eq]
  have h5 : matchDNSType r q.dnsType = matchDNSType r' q.dnsType := by
    simp only [matchDNSType, h.permDns.isEmpty_eq, h.restrDns.isEmpty_eq,
      h.permDns.contains_eq, h.restrDns.contains_eq]
  have h6 : matchClientTags r q.sortedTags = matchClientTags r' q.sortedTags := by
    simp only [matchClientTags, h.permTags, h.restrTags]
  have h7 : matchClient r q.clientName q.clientIP = matchClient r' q.clientName q.clientIP := by
    simp only [matchClient, (clients_permEquiv h.permClients).1, (clients_permEquiv h.restrClients).1,
      (clients_permEquiv h.permClients).2, (clients_permEquiv h.restrClients).2]
  have h8 : matchPattern ext r q = matchPattern ext r' q := by
    unfold matchPattern shouldMatchHostname
    rw [h.pattern, hen]
  unfold NetRule.matches
  rw [h1, h2, h3, h4, h5, h6, h7, h8, hen, hdis]

theorem insertPrefix_perm (x : Prefix) (l : List Prefix) : (insertPrefix x l).Perm (x :: l) := by
  induction l with
  | nil => exact List.Perm.refl _
  | cons y ys ih =>
    simp only [insertPrefix]
    split
    · exact List.Perm.refl _
    · exact (List.Perm.cons y ih).trans (List.Perm.swap x y ys)

theorem sortPrefixes_perm (l : List Prefix) : (sortPrefixes l).Perm l := by
  induction l with
  | nil => exact List.Perm.refl _
  | cons x l ih =>
    show (insertPrefix x (sortPrefixes l)).Perm (x :: l)
    exact (insertPrefix_perm x _).trans (List.Perm.cons x ih)

theorem finalize_permEquiv (hosts hosts' : List Bytes) (nets nets' : List Prefix)
    (hh : hosts.Perm hosts') (hn : nets.Perm nets') :
    Clients.PermEquiv (Clients.finalize (some { hosts := hosts, nets := nets }))
      (Clients.finalize (some { hosts := hosts', nets := nets' })) := by
  simp only [Clients.finalize, Clients.PermEquiv]
  exact ⟨sortB_eq_of_perm hh,
    ((sortPrefixes_perm nets).trans hn).trans (sortPrefixes_perm nets').symm⟩

end UF.E
