import UF.Proofs.Regex
import UF.Model.RegexParse
/-
  The set-based matcher computes the declarative semantics:
    `mem_adv       : t ∈ r.adv S ↔ ∃ s ∈ S, Den r s t`
    `searchFast_eq : searchFast r u = search r u`
-/
namespace UF
open Re

theorem mem_addSt (t x : St) (acc : List St) : x ∈ addSt t acc ↔ x = t ∨ x ∈ acc := by
  unfold addSt
  split
  · rename_i h
    have : t ∈ acc := by simpa using h
    constructor
    · exact .inr
    · rintro (rfl | h) <;> assumption
  · simp

theorem mem_unionSt (a b : List St) (x : St) : x ∈ unionSt a b ↔ x ∈ a ∨ x ∈ b := by
  unfold unionSt
  induction a generalizing b with
  | nil => simp
  | cons t a ih =>
    simp only [List.foldl_cons, ih, mem_addSt, List.mem_cons]
    constructor
    · rintro (h | rfl | h)
      · exact .inl (.inr h)
      · exact .inl (.inl rfl)
      · exact .inr h
    · rintro ((rfl | h) | h)
      · exact .inr (.inl rfl)
      · exact .inl h
      · exact .inr (.inr h)

theorem le_maxPost_foldl (S : List St) : ∀ (m : Nat), m ≤ S.foldl (fun m s => max m s.post.length) m ∧
    ∀ s ∈ S, s.post.length ≤ S.foldl (fun m s => max m s.post.length) m := by
  induction S with
  | nil => intro m; simp
  | cons a S ih =>
    intro m
    simp only [List.foldl_cons, List.mem_cons]
    obtain ⟨h1, h2⟩ := ih (max m a.post.length)
    refine ⟨by omega, ?_⟩
    rintro s (rfl | hs)
    · omega
    · exact h2 s hs

theorem le_maxPost {S : List St} {s : St} (h : s ∈ S) : s.post.length ≤ maxPost S :=
  (le_maxPost_foldl S 0).2 s h

/-! ### Closure and iteration, for a set function `f` that is correct for `a` -/

section loops
variable {a : Re} {f : List St → List St}

theorem subset_starAdv : ∀ (n : Nat) (S : List St) (x : St), x ∈ S → x ∈ starAdv f n S := by
  intro n
  induction n with
  | zero => intro S x h; exact h
  | succ n ih =>
    intro S x h
    simp only [starAdv]
    split
    · exact h
    · exact ih _ _ ((mem_unionSt _ _ _).2 (.inr h))

theorem starAdv_sound (hf : ∀ S t, t ∈ f S ↔ ∃ s ∈ S, Den a s t) :
    ∀ (n : Nat) (S : List St) (t : St), t ∈ starAdv f n S → ∃ s ∈ S, Den (.star a) s t := by
  intro n
  induction n with
  | zero => intro S t h; exact ⟨t, h, .star0⟩
  | succ n ih =>
    intro S t h
    simp only [starAdv] at h
    split at h
    · exact ⟨t, h, .star0⟩
    · obtain ⟨s, hs, hd⟩ := ih _ _ h
      rcases (mem_unionSt _ _ _).1 hs with hs | hs
      · obtain ⟨s0, hs0, hd0⟩ := (hf _ _).1 hs
        exact ⟨s0, hs0, .starS hd0 hd⟩
      · exact ⟨s, hs, hd⟩

theorem closed_star {S : List St} (hc : ∀ x ∈ S, ∀ y, Den a x y → y ∈ S) {s t : St} (h : Den (.star a) s t) :
    s ∈ S → t ∈ S := by
  generalize hr : Re.star a = r at h
  induction h with
  | star0 => exact id
  | starS h1 _ _ ih2 => cases hr; intro hs; exact ih2 rfl (hc _ hs _ h1)
  | _ => cases hr

theorem starAdv_complete (hf : ∀ S t, t ∈ f S ↔ ∃ s ∈ S, Den a s t) {s t : St} (h : Den (.star a) s t) :
    ∀ (n : Nat) (S : List St), s ∈ S → s.post.length ≤ n → t ∈ starAdv f n S := by
  generalize hr : Re.star a = r at h
  induction h with
  | star0 => intro n S hs _; exact subset_starAdv n S _ hs
  | @starS a' s m t h1 h2 _ ih2 =>
    cases hr
    intro n S hs hn
    by_cases hp : m.post.length < s.post.length
    · cases n with
      | zero => omega
      | succ n =>
        simp only [starAdv]
        have hm : m ∈ f S := (hf _ _).2 ⟨s, hs, h1⟩
        split
        · rename_i hall
          have hc : ∀ x ∈ S, ∀ y, Den a x y → y ∈ S := by
            intro x hx y hd
            have : y ∈ f S := (hf _ _).2 ⟨x, hx, hd⟩
            have := List.all_eq_true.1 hall y this
            simpa using this
          exact closed_star hc (.starS h1 h2) hs
        · exact ih2 rfl n _ ((mem_unionSt _ _ _).2 (.inl hm)) (by omega)
    · have : m = s := h1.noprog hp
      subst this
      exact ih2 rfl n S hs hn
  | _ => cases hr

theorem mem_starAdv (hf : ∀ S t, t ∈ f S ↔ ∃ s ∈ S, Den a s t) (S : List St) (t : St) :
    t ∈ starAdv f (maxPost S) S ↔ ∃ s ∈ S, Den (.star a) s t :=
  ⟨starAdv_sound hf _ _ _, fun ⟨_, hs, hd⟩ => starAdv_complete hf hd _ _ hs (le_maxPost hs)⟩

theorem mem_iterAdv (hf : ∀ S t, t ∈ f S ↔ ∃ s ∈ S, Den a s t) : ∀ (m : Nat) (S : List St) (u : St),
    u ∈ starAdv f (maxPost (iterAdv f m S)) (iterAdv f m S) ↔ ∃ s ∈ S, Den (.rep a m none) s u := by
  intro m
  induction m with
  | zero =>
    intro S u
    simp only [iterAdv, mem_starAdv hf]
    constructor
    · rintro ⟨s, hs, hd⟩; exact ⟨s, hs, .repU0 hd⟩
    · rintro ⟨s, hs, hd⟩; cases hd with | repU0 hd => exact ⟨s, hs, hd⟩
  | succ m ih =>
    intro S u
    simp only [iterAdv, ih]
    constructor
    · rintro ⟨t, ht, hd⟩
      obtain ⟨s, hs, hd0⟩ := (hf _ _).1 ht
      exact ⟨s, hs, .repUS hd0 hd⟩
    · rintro ⟨s, hs, hd⟩
      cases hd with
      | repUS h1 h2 => exact ⟨_, (hf _ _).2 ⟨s, hs, h1⟩, h2⟩

theorem mem_iterBAdv (hf : ∀ S t, t ∈ f S ↔ ∃ s ∈ S, Den a s t) : ∀ (n m : Nat) (S : List St) (u : St),
    u ∈ iterBAdv f m n S ↔ ∃ s ∈ S, Den (.rep a m (some n)) s u := by
  intro n
  induction n with
  | zero =>
    intro m S u
    cases m with
    | zero =>
      simp only [iterBAdv]
      constructor
      · intro h; exact ⟨u, h, .repB0⟩
      · rintro ⟨s, hs, hd⟩; cases hd; exact hs
    | succ m =>
      simp only [iterBAdv, List.not_mem_nil, false_iff]
      rintro ⟨s, _, hd⟩
      cases hd
  | succ n ih =>
    intro m S u
    cases m with
    | zero =>
      simp only [iterBAdv, mem_unionSt, ih]
      constructor
      · rintro (h | ⟨t, ht, hd⟩)
        · exact ⟨u, h, .repB0⟩
        · obtain ⟨s, hs, hd0⟩ := (hf _ _).1 ht
          exact ⟨s, hs, .repBO hd0 hd⟩
      · rintro ⟨s, hs, hd⟩
        cases hd with
        | repB0 => exact .inl hs
        | repBO h1 h2 => exact .inr ⟨_, (hf _ _).2 ⟨s, hs, h1⟩, h2⟩
    | succ m =>
      simp only [iterBAdv, ih]
      constructor
      · rintro ⟨t, ht, hd⟩
        obtain ⟨s, hs, hd0⟩ := (hf _ _).1 ht
        exact ⟨s, hs, .repBS hd0 hd⟩
      · rintro ⟨s, hs, hd⟩
        cases hd with
        | repBS h1 h2 => exact ⟨_, (hf _ _).2 ⟨s, hs, h1⟩, h2⟩

end loops

theorem mem_adv (r : Re) : ∀ (S : List St) (t : St), t ∈ r.adv S ↔ ∃ s ∈ S, Den r s t := by
  induction r with
  | empty =>
    intro S t
    simp only [adv]
    constructor
    · intro h; exact ⟨t, h, .empty⟩
    · rintro ⟨s, hs, hd⟩; cases hd; exact hs
  | lit bs fold => intro S t; simp only [adv, List.mem_filterMap, den_lit_iff]
  | any => intro S t; simp only [adv, List.mem_filterMap, den_any_iff]
  | anyNL => intro S t; simp only [adv, List.mem_filterMap, den_anyNL_iff]
  | cls neg rs fold => intro S t; simp only [adv, List.mem_filterMap, den_cls_iff]
  | bol =>
    intro S t
    simp only [adv, List.mem_filter, List.isEmpty_iff]
    constructor
    · rintro ⟨h1, h2⟩; exact ⟨t, h1, .bol h2⟩
    · rintro ⟨s, hs, hd⟩; cases hd with | bol h => exact ⟨hs, h⟩
  | eol =>
    intro S t
    simp only [adv, List.mem_filter, List.isEmpty_iff]
    constructor
    · rintro ⟨h1, h2⟩; exact ⟨t, h1, .eol h2⟩
    · rintro ⟨s, hs, hd⟩; cases hd with | eol h => exact ⟨hs, h⟩
  | wordB =>
    intro S t
    simp only [adv, List.mem_filter]
    constructor
    · rintro ⟨h1, h2⟩; exact ⟨t, h1, .wordB h2⟩
    · rintro ⟨s, hs, hd⟩; cases hd with | wordB h => exact ⟨hs, h⟩
  | nwordB =>
    intro S t
    simp only [adv, List.mem_filter, Bool.not_eq_true']
    constructor
    · rintro ⟨h1, h2⟩; exact ⟨t, h1, .nwordB h2⟩
    · rintro ⟨s, hs, hd⟩; cases hd with | nwordB h => exact ⟨hs, h⟩
  | cat a b iha ihb =>
    intro S t
    simp only [adv, ihb, iha]
    constructor
    · rintro ⟨m, ⟨s, hs, h1⟩, h2⟩; exact ⟨s, hs, .cat h1 h2⟩
    · rintro ⟨s, hs, hd⟩; cases hd with | cat h1 h2 => exact ⟨_, ⟨s, hs, h1⟩, h2⟩
  | alt a b iha ihb =>
    intro S t
    simp only [adv, mem_unionSt, iha, ihb]
    constructor
    · rintro (⟨s, hs, h⟩ | ⟨s, hs, h⟩)
      · exact ⟨s, hs, .altL h⟩
      · exact ⟨s, hs, .altR h⟩
    · rintro ⟨s, hs, hd⟩
      cases hd with
      | altL h => exact .inl ⟨s, hs, h⟩
      | altR h => exact .inr ⟨s, hs, h⟩
  | star a iha => intro S t; simp only [adv]; exact mem_starAdv iha S t
  | plus a iha =>
    intro S t
    simp only [adv, mem_starAdv iha, iha]
    constructor
    · rintro ⟨m, ⟨s, hs, h1⟩, h2⟩; exact ⟨s, hs, .plus h1 h2⟩
    · rintro ⟨s, hs, hd⟩; cases hd with | plus h1 h2 => exact ⟨_, ⟨s, hs, h1⟩, h2⟩
  | quest a iha =>
    intro S t
    simp only [adv, mem_unionSt, iha]
    constructor
    · rintro (h | ⟨s, hs, h⟩)
      · exact ⟨t, h, .quest0⟩
      · exact ⟨s, hs, .quest1 h⟩
    · rintro ⟨s, hs, hd⟩
      cases hd with
      | quest0 => exact .inl hs
      | quest1 h => exact .inr ⟨s, hs, h⟩
  | rep a m mx iha =>
    intro S t
    cases mx with
    | none => simp only [adv]; exact mem_iterAdv iha m S t
    | some n => simp only [adv]; exact mem_iterBAdv iha n m S t
  | grp a iha =>
    intro S t
    simp only [adv, iha]
    constructor
    · rintro ⟨s, hs, h⟩; exact ⟨s, hs, .grp h⟩
    · rintro ⟨s, hs, hd⟩; cases hd with | grp h => exact ⟨s, hs, h⟩

/-- The backtracking search tries the states the set-based search starts from. -/
theorem searchFrom_eq_any (r : Re) : ∀ (post pre : Bytes),
    searchFrom r pre post = (allStatesFrom pre post).any fun s => r.m s (fun _ => true)
  | [], pre => by simp [searchFrom, allStatesFrom]
  | b :: post, pre => by simp [searchFrom, allStatesFrom, searchFrom_eq_any r post (b :: pre)]

/-- The polynomial matcher and the backtracking matcher decide the same thing. -/
theorem searchFast_eq (r : Re) (u : Bytes) : searchFast r u = search r u := by
  have key : searchFast r u = true ↔ search r u = true := by
    simp only [searchFast, search, searchFrom_eq_any, Bool.not_eq_true', List.isEmpty_eq_false_iff_exists_mem,
      mem_adv, List.any_eq_true, m_iff]
    constructor
    · rintro ⟨t, s, hs, hd⟩; exact ⟨s, hs, t, hd, trivial⟩
    · rintro ⟨s, hs, t, hd, _⟩; exact ⟨t, s, hs, hd⟩
  cases h1 : searchFast r u <;> cases h2 : search r u <;> simp_all

theorem regexPat_some {p u : Bytes} {mc b : Bool} (h : regexPat p mc u = some b) :
    ∃ r, Re.parseRE (regexRuleText p mc) = some r ∧ b = Re.search r u ∧ Bytes.isAscii u = true := by
  unfold regexPat at h
  split at h
  · cases h
  · rename_i hd
    cases hp : Re.parseRE (regexRuleText p mc) with
    | none => rw [hp] at h; cases h
    | some r =>
      rw [hp, Option.map_some, searchFast_eq] at h
      exact ⟨r, rfl, (Option.some.inj h).symm, (by simpa using hd : _ ∧ _).2⟩

end UF
