import UF.Model.NewRule
import UF.Model.HostRule
import UF.Proofs.MatchDomain
import UF.Proofs.BytesSearch
import UF.Proofs.ParseOption
/-
  No modelled parser function returns `.error .panic`: every slice and index expression is evaluated
  under a bound that the code before it has established.  The combinators below turn `x ≠ .error .panic`
  for a `do` block into the same statement about its parts; each `*_noPanic` proof follows the shape
  of its function and supplies the bound at each `sliceC` / `idxC`.  Where the code goes on after a
  `let x ← if … then … else …`, the `do` notation shares what follows between the two branches as a
  local function: the proofs name it (`extract_lets`), prove it once for every argument, and use that
  at both entries.
-/
namespace UF.E
open Bytes

theorem pure_noPanic {α} (a : α) : (pure a : PE α) ≠ .error .panic := nofun

theorem throw_err_noPanic {α} : (throw PErr.err : PE α) ≠ .error .panic := nofun

theorem error_err_noPanic {α} : (Except.error PErr.err : PE α) ≠ .error .panic := by
  intro h; cases h

theorem bind_noPanic {α β} {x : PE α} {f : α → PE β} (hx : x ≠ .error .panic)
    (hf : ∀ a, x = .ok a → f a ≠ .error .panic) : (x >>= f) ≠ .error .panic := by
  cases x with
  | error e =>
    cases e with
    | panic => exact absurd rfl hx
    | err => exact nofun
  | ok a => exact hf a rfl

/-- A continuation entered with a known value (the `else` branch of `let x ← if … then … else pure a`). -/
theorem pure_bind_noPanic {α β} {a : α} {f : α → PE β} (h : f a ≠ .error .panic) :
    (pure a >>= f) ≠ .error .panic := h

/-- An `if` whose branches rely on the outcome of the test. -/
theorem ite_noPanic_of {α} {c : Prop} [Decidable c] {a b : PE α} (ha : c → a ≠ .error .panic)
    (hb : ¬ c → b ≠ .error .panic) : (if c then a else b) ≠ .error .panic :=
  ite_pred (fun x : PE α => x ≠ .error .panic) ha hb

theorem ite_noPanic {α} {c : Prop} [Decidable c] {a b : PE α} (ha : a ≠ .error .panic)
    (hb : b ≠ .error .panic) : (if c then a else b) ≠ .error .panic :=
  ite_noPanic_of (fun _ => ha) fun _ => hb

theorem foldlM_noPanic {α β} (f : β → α → PE β) (hf : ∀ b a, f b a ≠ .error .panic)
    (l : List α) (b : β) : l.foldlM f b ≠ .error .panic := by
  induction l generalizing b with
  | nil => exact pure_noPanic b
  | cons a l ih =>
    rw [List.foldlM_cons]
    exact bind_noPanic (hf b a) (fun b' _ => ih b')

theorem sliceC_ok {s : Bytes} {i j : Nat} (h : i ≤ j ∧ j ≤ s.length) :
    sliceC s i j = .ok ((s.take j).drop i) := by
  simp [sliceC, Bytes.slice?, h, pure, Except.pure]

theorem idxC_ok' {s : Bytes} {i : Nat} (h : i < s.length) : idxC s i = .ok s[i] := by
  simp [idxC, h, pure, Except.pure]

theorem idxC_ok {s : Bytes} {i : Nat} (h : i < s.length) : ∃ c, idxC s i = .ok c :=
  ⟨_, idxC_ok' h⟩

theorem sliceC_noPanic {s : Bytes} {i j : Nat} (h : i ≤ j ∧ j ≤ s.length) :
    sliceC s i j ≠ .error .panic := by
  rw [sliceC_ok h]; exact nofun

theorem idxC_noPanic {s : Bytes} {i : Nat} (h : i < s.length) : idxC s i ≠ .error .panic := by
  rw [idxC_ok' h]; exact nofun

theorem splitEscLoop_noPanic (str : Bytes) (sep esc : UInt8) (p : Bool) (fuel i : Nat) (sb : Bytes)
    (escaped : Bool) (parts : List Bytes) :
    splitEscLoop str sep esc p fuel i sb escaped parts ≠ .error .panic := by
  induction fuel generalizing i sb escaped parts with
  | zero => exact pure_noPanic _
  | succ fuel ih =>
    unfold splitEscLoop
    refine ite_noPanic_of (fun _ => pure_noPanic _) fun _ => ?_
    refine bind_noPanic (idxC_noPanic (by omega)) fun c _ => ?_
    -- every branch continues the loop
    repeat' refine ite_noPanic ?_ ?_
    all_goals exact ih _ _ _ _

/-- The fuel of `splitEscLoop` is not a semantic parameter: once it covers the bytes still to be read
    (`str.length ≤ i + fuel`), any extra fuel gives the same result -- the loop ends through its own
    test `i ≥ len(str)`, never by running out of fuel. -/
theorem splitEscLoop_fuel (str : Bytes) (sep esc : UInt8) (p : Bool) (fuel k i : Nat) (sb : Bytes)
    (escaped : Bool) (parts : List Bytes) (h : str.length ≤ i + fuel) :
    splitEscLoop str sep esc p (fuel + k) i sb escaped parts =
      splitEscLoop str sep esc p fuel i sb escaped parts := by
  induction fuel generalizing i sb escaped parts with
  | zero =>
    have hi : i ≥ str.length := by omega
    cases k with
    | zero => rfl
    | succ k =>
      rw [Nat.zero_add]
      unfold splitEscLoop
      rw [if_pos hi]
  | succ fuel ih =>
    have e : fuel + 1 + k = (fuel + k) + 1 := by omega
    rw [e]
    unfold splitEscLoop
    refine ite_congr rfl (fun _ => rfl) fun _ => ?_
    refine bind_congr fun c => ?_
    -- the same tests on both sides, a recursive call in every branch
    repeat' refine ite_congr rfl (fun _ => ?_) fun _ => ?_
    all_goals exact ih _ _ _ _ (by omega)

/-- `fuel = len(str)` (the value `splitWithEscapeCharacter` passes) always suffices: with ANY larger
    fuel the loop started at index 0 returns the same builder and parts. -/
theorem splitEscLoop_len_suffices (str : Bytes) (sep esc : UInt8) (p : Bool) (fuel : Nat)
    (hf : str.length ≤ fuel) (sb : Bytes) (escaped : Bool) (parts : List Bytes) :
    splitEscLoop str sep esc p fuel 0 sb escaped parts =
      splitEscLoop str sep esc p str.length 0 sb escaped parts := by
  obtain ⟨k, rfl⟩ : ∃ k, fuel = str.length + k := ⟨fuel - str.length, by omega⟩
  exact splitEscLoop_fuel str sep esc p str.length k 0 sb escaped parts (by omega)

/-- With sufficient fuel the loop consumes the whole string: started anywhere with enough fuel it
    agrees with the run that has exactly the remaining length as fuel. -/
theorem splitEscLoop_exact (str : Bytes) (sep esc : UInt8) (p : Bool) (fuel i : Nat) (sb : Bytes)
    (escaped : Bool) (parts : List Bytes) (h : str.length ≤ i + fuel) :
    splitEscLoop str sep esc p fuel i sb escaped parts =
      splitEscLoop str sep esc p (str.length - i) i sb escaped parts := by
  obtain ⟨k, rfl⟩ : ∃ k, fuel = (str.length - i) + k := ⟨fuel - (str.length - i), by omega⟩
  exact splitEscLoop_fuel str sep esc p (str.length - i) k i sb escaped parts (by omega)

theorem splitWithEscapeCharacter_noPanic (str : Bytes) (sep esc : UInt8) (p : Bool) :
    splitWithEscapeCharacter str sep esc p ≠ .error .panic := by
  unfold splitWithEscapeCharacter
  refine ite_noPanic (pure_noPanic _) ?_
  refine bind_noPanic (splitEscLoop_noPanic _ _ _ _ _ _ _ _ _) fun _ _ => ?_
  exact ite_noPanic (pure_noPanic _) (pure_noPanic _)

theorem hasSuffix_length {s p : Bytes} (h : hasSuffix s p = true) : p.length ≤ s.length := by
  obtain ⟨t, rfl⟩ := (hasSuffix_iff s p).mp h
  simp

theorem indexAny_go_lt (cs s : Bytes) (k i : Nat) (h : indexAny.go cs s k = some i) :
    k ≤ i ∧ i < k + s.length := by
  induction s generalizing k with
  | nil => simp [indexAny.go] at h
  | cons a t ih =>
    simp only [indexAny.go] at h
    split at h
    · cases h; simp
    · have := ih _ h
      simp only [List.length_cons]; omega

theorem indexAny_lt {s cs : Bytes} {i : Nat} (h : indexAny s cs = some i) : i < s.length := by
  have := indexAny_go_lt cs s 0 i h
  omega

/-- The head of the three value loops: `restricted := HasPrefix(s, "~")`, the value `s[1:]` or `s`,
    then the rest of the loop body `k`. -/
theorem tilde_noPanic {β} {s : Bytes} {k : Bool × Bytes → PE β}
    (hk : ∀ restricted d, k (restricted, d) ≠ .error .panic) :
    (if hasPrefix s (lit "~") = true then do
        let d ← sliceC s 1 s.length
        let x ← pure (true, d)
        k x
      else do
        let x ← pure (false, s)
        k x) ≠ .error .panic := by
  refine ite_noPanic_of (fun hp => ?_) fun _ => pure_bind_noPanic (hk _ _)
  exact bind_noPanic (sliceC_noPanic ⟨H.hasPrefix_length_le hp, Nat.le_refl _⟩) fun _ _ =>
    pure_bind_noPanic (hk _ _)

theorem parseSplitLoop_noPanic (t : Bytes) (idx1 : Nat) (he : Bool) (h : idx1 ≤ t.length) :
    parseSplitLoop t idx1 he ≠ .error .panic := by
  induction idx1 generalizing he with
  | zero => exact pure_noPanic _
  | succ idx ih =>
    unfold parseSplitLoop
    refine bind_noPanic (idxC_noPanic (by omega)) fun c _ => ?_
    refine ite_noPanic (ih _ (by omega)) ?_
    extract_lets afterEsc
    have h1 : ∀ b, afterEsc b ≠ .error .panic := fun b =>
      ite_noPanic (ih _ (by omega)) <|
        bind_noPanic (sliceC_noPanic (by omega)) fun _ _ =>
          bind_noPanic (sliceC_noPanic (by omega)) fun _ _ => pure_noPanic _
    refine ite_noPanic_of (fun hpos => ?_) fun _ => pure_bind_noPanic (h1 _)
    have : idx > 0 := of_decide_eq_true (Bool.and_eq_true_iff.mp hpos).2
    refine bind_noPanic (idxC_noPanic (by omega)) fun _ _ => ?_
    exact pure_bind_noPanic (h1 _)

theorem parseRuleText_noPanic (t : Bytes) : parseRuleText t ≠ .error .panic := by
  unfold parseRuleText
  refine ite_noPanic throw_err_noPanic ?_
  extract_lets afterAt
  have h1 : ∀ whitelist t', afterAt (whitelist, t') ≠ .error .panic := by
    intro whitelist t'
    refine ite_noPanic (pure_noPanic _) ?_
    exact bind_noPanic (parseSplitLoop_noPanic _ _ _ (by omega)) fun ⟨_, _⟩ _ => pure_noPanic _
  refine ite_noPanic_of (fun hp => ?_) fun _ => pure_bind_noPanic (h1 _ _)
  have : 2 ≤ t.length := H.hasPrefix_length_le (m := lit "@@") hp
  exact bind_noPanic (sliceC_noPanic (by omega)) fun _ _ => pure_bind_noPanic (h1 _ _)

theorem findShortcutLoop_noPanic (fuel : Nat) (p sc : Bytes) :
    findShortcutLoop fuel p sc ≠ .error .panic := by
  induction fuel generalizing p sc with
  | zero => exact pure_noPanic _
  | succ fuel ih =>
    unfold findShortcutLoop
    refine ite_noPanic (pure_noPanic _) ?_
    split
    · exact ite_noPanic (pure_noPanic _) (pure_noPanic _)
    · have := indexAny_lt ‹_›
      extract_lets rest
      have h1 : ∀ x, rest x ≠ .error .panic := fun x =>
        bind_noPanic (sliceC_noPanic (by omega)) fun _ _ => ih _ _
      refine ite_noPanic ?_ (h1 _)
      exact bind_noPanic (sliceC_noPanic (by omega)) fun _ _ => h1 _

theorem findShortcut_noPanic (p : Bytes) : findShortcut p ≠ .error .panic :=
  findShortcutLoop_noPanic _ _ _

theorem lit_xn_length : (lit "xn--").length = 4 := by decide

/-- What a step of the `IsDomainName` machine can return: `return false`, or going on with the state
    variable reset to 0, set to 2 or left alone. -/
def DNStep.Good (s : DNState) : DNStep → Prop
  | .cont s' => s'.st = 0 ∨ s'.st = 2 ∨ s'.st = s.st
  | .reject => True
  | .panic => False

theorem dnStep_good (s : DNState) (c : UInt8) : (dnStep s c).Good s := by
  unfold dnStep
  repeat' refine ite_pred (DNStep.Good s) (fun _ => ?_) fun _ => ?_
  all_goals try simp [DNStep.Good]
  -- what is left is the only index expression, `"xn--"[xn]`, which stands under the test `xn < 4`
  rename_i hlt
  rw [List.getElem?_eq_getElem (lit_xn_length ▸ hlt)]
  exact .inr (.inr rfl)

theorem dnStep_ne_panic (s : DNState) (c : UInt8) : dnStep s c ≠ .panic := by
  intro h
  have := dnStep_good s c
  rwa [h] at this

/-- The loop of `IsDomainName` always comes to a verdict. -/
theorem dnRun_ok (s : DNState) (n : Bytes) : ∃ o, dnRun s n = .ok o := by
  induction n generalizing s with
  | nil => exact ⟨_, rfl⟩
  | cons c t ih =>
    unfold dnRun
    split
    · exact ih _
    · exact ⟨_, rfl⟩
    · exact absurd ‹_› (dnStep_ne_panic s c)

theorem isDomainNameC_ok (n : Bytes) : ∃ b, isDomainNameC n = .ok b := by
  unfold isDomainNameC
  split
  · exact ⟨_, rfl⟩
  · obtain ⟨o, ho⟩ := dnRun_ok {} n
    rw [ho]
    cases o <;> exact ⟨_, rfl⟩

theorem isDomainNameC_noPanic (n : Bytes) : isDomainNameC n ≠ .error .panic := by
  obtain ⟨b, hb⟩ := isDomainNameC_ok n
  rw [hb]
  exact nofun

theorem loadDomainsStep_noPanic (acc : List Bytes × List Bytes) (d : Bytes) :
    loadDomainsStep acc d ≠ .error .panic := by
  unfold loadDomainsStep
  extract_lets afterTilde
  refine tilde_noPanic (k := afterTilde) fun restricted d' => ?_
  refine bind_noPanic (isDomainNameC_noPanic _) fun _ _ => ?_
  exact ite_noPanic throw_err_noPanic (ite_noPanic (pure_noPanic _) (pure_noPanic _))

theorem loadDomains_noPanic (d : Bytes) (sep : UInt8) : loadDomains d sep ≠ .error .panic := by
  unfold loadDomains
  exact ite_noPanic throw_err_noPanic (foldlM_noPanic _ loadDomainsStep_noPanic _ _)

theorem strToRRType_noPanic (s : Bytes) : strToRRType s ≠ .error .panic := by
  unfold strToRRType
  refine ite_noPanic throw_err_noPanic ?_
  cases lookupNat Facts.dnsStringToType (upperKey s)
  · exact throw_err_noPanic
  · exact pure_noPanic _

theorem loadDNSTypesStep_noPanic (acc : List Nat × List Nat) (s : Bytes) :
    loadDNSTypesStep acc s ≠ .error .panic := by
  unfold loadDNSTypesStep
  refine ite_noPanic_of (fun _ => throw_err_noPanic) fun h => ?_
  have hl : 0 < s.length := Nat.pos_of_ne_zero fun e => h (by simp [e])
  refine bind_noPanic (idxC_noPanic hl) fun c0 _ => ?_
  extract_lets restricted afterTilde
  have h1 : ∀ x, afterTilde x ≠ .error .panic := fun x =>
    bind_noPanic (strToRRType_noPanic _) fun _ _ =>
      ite_noPanic (pure_noPanic _) (pure_noPanic _)
  refine ite_noPanic ?_ (h1 _)
  exact bind_noPanic (sliceC_noPanic (by omega)) fun _ _ => h1 _

theorem loadDNSTypes_noPanic (t : Bytes) : loadDNSTypes t ≠ .error .panic := by
  unfold loadDNSTypes
  exact ite_noPanic throw_err_noPanic (foldlM_noPanic _ loadDNSTypesStep_noPanic _ _)

theorem loadCTagsStep_noPanic (acc : List Bytes × List Bytes) (d : Bytes) :
    loadCTagsStep acc d ≠ .error .panic := by
  unfold loadCTagsStep
  extract_lets afterTilde
  refine tilde_noPanic (k := afterTilde) fun restricted d' => ?_
  exact ite_noPanic throw_err_noPanic (ite_noPanic (pure_noPanic _) (pure_noPanic _))

theorem loadCTags_noPanic (v : Bytes) : loadCTags v ≠ .error .panic := by
  unfold loadCTags
  refine ite_noPanic throw_err_noPanic ?_
  exact bind_noPanic (foldlM_noPanic _ loadCTagsStep_noPanic _ _) fun ⟨_, _⟩ _ => pure_noPanic _

theorem loadClientsStep_noPanic (ext : Ext) (acc : Option Clients × Option Clients) (s : Bytes) :
    loadClientsStep ext acc s ≠ .error .panic := by
  unfold loadClientsStep
  -- from the inside out: each continuation of the `do` block, for every value it can be handed
  extract_lets afterTilde
  have h1 : ∀ restricted client, afterTilde (restricted, client) ≠ .error .panic := by
    intro restricted client
    simp -zeta only [afterTilde]
    extract_lets afterQuote
    -- a client is only unquoted (`client[1 : len-1]`) when a quote was found, which needs two bytes
    have h2 : ∀ q, (q > 0 → client.length ≥ 2) → afterQuote q ≠ .error .panic := by
      intro q hq
      simp -zeta only [afterQuote]
      extract_lets tail
      have h3 : ∀ c, tail c ≠ .error .panic := fun c =>
        ite_noPanic throw_err_noPanic (ite_noPanic (pure_noPanic _) (pure_noPanic _))
      refine ite_noPanic_of (fun hpos => ?_) fun _ => pure_bind_noPanic (h3 _)
      have := hq hpos
      exact bind_noPanic (sliceC_noPanic (by omega)) fun _ _ => h3 _
    refine ite_noPanic_of (fun _ => ?_) fun _ => bind_noPanic (pure_noPanic _) fun q hq => h2 q fun hpos => ?_
    · refine bind_noPanic (idxC_noPanic (by omega)) fun _ _ => ?_
      refine bind_noPanic (idxC_noPanic (by omega)) fun _ _ => ?_
      exact pure_bind_noPanic (h2 _ fun _ => ‹_›)
    · cases pure_ok_elim hq
      exact absurd hpos (by decide)
  exact tilde_noPanic h1

theorem loadClients_noPanic (ext : Ext) (v : Bytes) : loadClients ext v ≠ .error .panic := by
  unfold loadClients
  refine ite_noPanic throw_err_noPanic ?_
  refine bind_noPanic (splitWithEscapeCharacter_noPanic _ _ _ _) fun _ _ => ?_
  exact bind_noPanic (foldlM_noPanic _ (loadClientsStep_noPanic ext) _ _) fun ⟨_, _⟩ _ => pure_noPanic _

theorem setOptionEnabled_noPanic (r : NetRule) (o : Nat) (e : Bool) :
    setOptionEnabled r o e ≠ .error .panic := by
  unfold setOptionEnabled
  refine ite_noPanic throw_err_noPanic ?_
  refine ite_noPanic throw_err_noPanic ?_
  exact ite_noPanic (pure_noPanic _) (pure_noPanic _)

theorem OptionKind.run_noPanic (px : ParseExt) (r : NetRule) (value : Bytes) (k : OptionKind) :
    k.run px r value ≠ .error .panic := by
  cases k with
  | flag opt en => exact setOptionEnabled_noPanic _ _ _
  | dnstype => exact bind_noPanic (loadDNSTypes_noPanic _) fun ⟨_, _⟩ _ => pure_noPanic _
  | dnsrewrite =>
    unfold OptionKind.run
    cases px.loadDNSRewrite value
    · exact throw_err_noPanic
    · exact pure_noPanic _
  | domain => exact bind_noPanic (loadDomains_noPanic _ _) fun ⟨_, _⟩ _ => pure_noPanic _
  | denyallow =>
    refine bind_noPanic (loadDomains_noPanic _ _) fun ⟨_, _⟩ _ => ?_
    exact ite_noPanic throw_err_noPanic (pure_noPanic _)
  | ctag => exact bind_noPanic (loadCTags_noPanic _) fun ⟨_, _⟩ _ => pure_noPanic _
  | client => exact bind_noPanic (loadClients_noPanic _ _) fun ⟨_, _⟩ _ => pure_noPanic _
  | noExtension => exact pure_noPanic _
  | document => exact bind_noPanic (setOptionEnabled_noPanic _ _ _) fun _ _ => pure_noPanic _
  | reqType t permitted => exact pure_noPanic _
  | unknown => exact throw_err_noPanic

theorem loadOption_noPanic (px : ParseExt) (r : NetRule) (name value : Bytes) :
    loadOption px r name value ≠ .error .panic :=
  loadOption_eq px r name value ▸ OptionKind.run_noPanic px r value _

theorem loadOptionsStep_noPanic (px : ParseExt) (r : NetRule) (o : Bytes) :
    loadOptionsStep px r o ≠ .error .panic := by
  unfold loadOptionsStep
  cases hi : indexByte o (ch '=') with
  | none => exact loadOption_noPanic _ _ _ _
  | some i =>
    have := H.indexByte_lt hi
    refine ite_noPanic ?_ (loadOption_noPanic _ _ _ _)
    refine bind_noPanic (sliceC_noPanic (by omega)) fun _ _ => ?_
    exact bind_noPanic (sliceC_noPanic (by omega)) fun _ _ => loadOption_noPanic _ _ _ _

theorem loadOptions_noPanic (px : ParseExt) (r : NetRule) (o : Bytes) :
    loadOptions px r o ≠ .error .panic := by
  unfold loadOptions
  refine ite_noPanic (pure_noPanic _) ?_
  refine bind_noPanic (splitWithEscapeCharacter_noPanic _ _ _ _) fun _ _ => ?_
  refine bind_noPanic (foldlM_noPanic _ (loadOptionsStep_noPanic px) _ _) fun _ _ => ?_
  exact ite_noPanic (pure_noPanic _) (pure_noPanic _)

theorem shortcutCandidate_noPanic (px : ParseExt) (p : Bytes) :
    shortcutCandidate px p ≠ .error .panic := by
  unfold shortcutCandidate
  exact ite_noPanic (pure_noPanic _) (findShortcut_noPanic _)

theorem parseNetRule_noPanic (px : ParseExt) (t : Bytes) (id : Int) :
    parseNetRule px t id ≠ .error .panic := by
  unfold parseNetRule
  refine bind_noPanic (parseRuleText_noPanic _) fun ⟨pattern, options, whitelist⟩ _ => ?_
  refine bind_noPanic (loadOptions_noPanic _ _ _) fun r _ => ?_
  extract_lets rest
  have h1 : ∀ x, rest x ≠ .error .panic := fun x =>
    ite_noPanic throw_err_noPanic <|
      bind_noPanic (shortcutCandidate_noPanic _ _) fun _ _ =>
        ite_noPanic (pure_noPanic _) (pure_noPanic _)
  refine ite_noPanic ?_ (h1 _)
  exact bind_noPanic (sliceC_noPanic (by omega)) fun _ _ => h1 _

theorem startsAtLoop_noPanic (str : Bytes) (start : Nat) (sub : Bytes) (fuel i : Nat)
    (h : start + sub.length ≤ str.length) : startsAtLoop str start sub fuel i ≠ .error .panic := by
  induction fuel generalizing i with
  | zero => exact pure_noPanic _
  | succ fuel ih =>
    unfold startsAtLoop
    refine ite_noPanic_of (fun _ => ?_) fun _ => pure_noPanic _
    refine bind_noPanic (idxC_noPanic (by omega)) fun _ _ => ?_
    refine bind_noPanic (idxC_noPanic (by omega)) fun _ _ => ?_
    exact ite_noPanic (pure_noPanic _) (ih _)

theorem startsAtIndexWith_noPanic (str : Bytes) (start : Nat) (sub : Bytes) :
    startsAtIndexWith str start sub ≠ .error .panic := by
  unfold startsAtIndexWith
  exact ite_noPanic_of (fun _ => pure_noPanic _) fun _ => startsAtLoop_noPanic _ _ _ _ _ (by omega)

end UF.E

/-! The tests `NewRule` applies before it tries the hosts syntax exist twice: with every index expression
    checked (`E`, in `PE`) and as plain functions (`H`).  They are the same functions; in particular the
    checked ones never fail. -/
namespace UF.I2
open UF Bytes

/-- The comparison loop of `startsAtIndexWith` is a prefix test. -/
theorem startsAtLoop_eq (str : Bytes) (start : Nat) (sub : Bytes) :
    ∀ (fuel i : Nat), sub.length ≤ i + fuel → start + sub.length ≤ str.length →
      E.startsAtLoop str start sub fuel i = .ok (hasPrefix (str.drop (start + i)) (sub.drop i)) := by
  intro fuel
  induction fuel with
  | zero =>
    intro i hf _
    have : sub.drop i = [] := List.drop_eq_nil_of_le (by omega)
    rw [this]
    cases str.drop (start + i) <;> rfl
  | succ fuel ih =>
    intro i hf hb
    unfold E.startsAtLoop
    by_cases hi : i < sub.length
    · rw [if_pos hi]
      have h1 : start + i < str.length := by omega
      have ea : E.idxC str (start + i) = .ok str[start + i] := E.idxC_ok' h1
      have eb : E.idxC sub i = .ok sub[i] := E.idxC_ok' hi
      rw [ea, eb]
      simp only [bind, Except.bind]
      have d1 : str.drop (start + i) = str[start + i] :: str.drop (start + i + 1) := by
        rw [List.drop_eq_getElem_cons h1]
      have d2 : sub.drop i = sub[i] :: sub.drop (i + 1) := by
        rw [List.drop_eq_getElem_cons hi]
      rw [d1, d2]
      simp only [hasPrefix]
      by_cases hne : (str[start + i] != sub[i]) = true
      · rw [if_pos hne]
        have : (str[start + i] == sub[i]) = false := by simpa using hne
        simp [this, pure, Except.pure]
      · rw [if_neg hne]
        have : (str[start + i] == sub[i]) = true := by simpa using hne
        rw [this, Bool.true_and, ih (i + 1) (by omega) hb]
        rfl
    · rw [if_neg hi]
      have : sub.drop i = [] := List.drop_eq_nil_of_le (by omega)
      rw [this]
      cases str.drop (start + i) <;> rfl

theorem startsAtIndexWith_eq (str : Bytes) (start : Nat) (sub : Bytes) (h : start ≤ str.length) :
    E.startsAtIndexWith str start sub = .ok (H.startsAtIndexWith str start sub) := by
  unfold E.startsAtIndexWith H.startsAtIndexWith
  by_cases hlt : str.length - start < sub.length
  · have : ((str.length : Int) - (start : Int) < (sub.length : Int)) := by omega
    rw [if_pos this, if_pos hlt]; rfl
  · have : ¬ ((str.length : Int) - (start : Int) < (sub.length : Int)) := by omega
    rw [if_neg this, if_neg hlt, startsAtLoop_eq str start sub sub.length 0 (by omega) (by omega)]
    simp

theorem firstMarkerAt_eq (text : Bytes) (start : Nat) (h : start ≤ text.length) (ms : List Bytes) :
    E.firstMarkerAt text start ms = .ok (ms.find? (fun m => H.startsAtIndexWith text start m)) := by
  induction ms with
  | nil => rfl
  | cons m ms ih =>
    unfold E.firstMarkerAt
    rw [startsAtIndexWith_eq text start m h]
    simp only [bind, Except.bind, List.find?_cons]
    cases H.startsAtIndexWith text start m with
    | true => rfl
    | false => simpa using ih

theorem markers_same : Facts.cosmeticMarkers = Facts.H.cosmeticMarkers ∧
    Facts.cosmeticFirstChars = Facts.H.cosmeticMarkerFirstChars := by decide

/-- `isComment`: the two models agree on every line. -/
theorem isComment_eq (line : Bytes) : E.isComment line = .ok (H.isCommentLine line) := by
  cases line with
  | nil => rfl
  | cons c rest =>
    unfold E.isComment H.isCommentLine
    have hc : E.idxC (c :: rest) 0 = .ok c := rfl
    have hl : ((c :: rest).length == 0) = false := by simp
    rw [hl]
    simp only [Bool.false_eq_true, if_false, hc, bind, Except.bind]
    cases h1 : c == ch '!' with
    | true => simp [pure, Except.pure]
    | false =>
      simp only [Bool.false_eq_true, if_false]
      cases h2 : c == ch '#' with
      | false => simp [pure, Except.pure]
      | true =>
        simp only [if_true]
        cases rest with
        | nil => rfl
        | cons d rest =>
          have hl2 : ((c :: d :: rest).length == 1) = false := by simp
          rw [hl2]
          simp only [Bool.false_eq_true, if_false, List.isEmpty_cons]
          rw [firstMarkerAt_eq _ 0 (Nat.zero_le _), markers_same.1]
          simp only
          have hany : ∀ (p : Bytes → Bool) (l : List Bytes), l.any p = (l.find? p).isSome := fun p l => by
            rw [Bool.eq_iff_iff, List.any_eq_true, List.find?_isSome]
          rw [hany]
          cases List.find? (fun m => H.startsAtIndexWith (c :: d :: rest) 0 m) Facts.H.cosmeticMarkers <;> rfl

/-- `inHostsComment` (repair of D16): the two models are the same function. -/
theorem inHostsComment_eq (text : Bytes) (idx : Nat) : E.inHostsComment text idx = H.inHostsComment text idx := rfl

/-- `findCosmeticRuleMarker`: the two models agree on every line. -/
theorem findMarkerLoop_eq (markers : List Bytes) (text : Bytes) (fcs : Bytes) :
    E.findMarkerLoop markers text fcs = .ok (H.findCosmeticRuleMarkerWith fcs markers text) := by
  induction fcs with
  | nil => rfl
  | cons fc rest ih =>
    unfold E.findMarkerLoop H.findCosmeticRuleMarkerWith
    cases hi : indexByte text fc with
    | none => simpa using ih
    | some startIndex =>
      have hlt : startIndex < text.length := H.indexByte_lt hi
      simp only
      -- the `inHostsComment` test (D16) and the marker search at startIndex, shared by both branches
      have hfind : (if E.inHostsComment text startIndex = true then E.findMarkerLoop markers text rest
            else E.firstMarkerAt text startIndex markers >>= fun x =>
              match x with
              | some m => pure (some (startIndex, m))
              | none => E.findMarkerLoop markers text rest) =
          .ok (if H.inHostsComment text startIndex = true then H.findCosmeticRuleMarkerWith rest markers text
            else match markers.find? (fun m => H.startsAtIndexWith text startIndex m) with
              | some m => some (startIndex, m)
              | none => H.findCosmeticRuleMarkerWith rest markers text) := by
        rw [inHostsComment_eq]
        cases H.inHostsComment text startIndex with
        | true => simpa using ih
        | false =>
          simp only [Bool.false_eq_true, if_false]
          rw [firstMarkerAt_eq text startIndex (by omega)]
          simp only [bind, Except.bind]
          cases List.find? (fun m => H.startsAtIndexWith text startIndex m) markers with
          | none => exact ih
          | some m => rfl
      by_cases h0 : startIndex > 0
      · have hp : startIndex - 1 < text.length := by omega
        have e : E.idxC text (startIndex - 1) = .ok text[startIndex - 1] := E.idxC_ok' hp
        have e' : text[startIndex - 1]? = some text[startIndex - 1] := List.getElem?_eq_getElem hp
        rw [if_pos h0, e, e']
        simp only [bind, Except.bind, pure, Except.pure, decide_eq_true h0, Bool.true_and, Option.some_beq_some]
        cases hb : (text[startIndex - 1] == ch ' ' || text[startIndex - 1] == ch '\t') with
        | true => simp only [if_true]; exact ih
        | false =>
          simp only [Bool.false_eq_true, if_false]
          exact hfind
      · rw [if_neg h0]
        simp only [bind, Except.bind, pure, Except.pure, decide_eq_false h0, Bool.false_and,
          Bool.false_eq_true, if_false]
        exact hfind

theorem findCosmeticRuleMarker_eq (text : Bytes) :
    E.findCosmeticRuleMarker text = .ok (H.findCosmeticRuleMarker text) := by
  unfold E.findCosmeticRuleMarker H.findCosmeticRuleMarker
  rw [markers_same.1, markers_same.2]
  exact findMarkerLoop_eq _ _ _

end UF.I2

namespace UF.E
open Bytes

theorem findCosmeticRuleMarker_noPanic (t : Bytes) : findCosmeticRuleMarker t ≠ .error .panic := by
  rw [I2.findCosmeticRuleMarker_eq]; nofun

/-- what a found marker guarantees (needed for the slice in NewCosmeticRule) -/
theorem findCosmeticRuleMarker_bound {t : Bytes} {i : Nat} {m : Bytes}
    (h : findCosmeticRuleMarker t = .ok (some (i, m))) : i + m.length ≤ t.length := by
  rw [I2.findCosmeticRuleMarker_eq] at h
  have key : ∀ fcs : List UInt8, H.findCosmeticRuleMarkerWith fcs Facts.H.cosmeticMarkers t = some (i, m) →
      i + m.length ≤ t.length := by
    intro fcs
    induction fcs with
    | nil => nofun
    | cons fc more ih =>
      unfold H.findCosmeticRuleMarkerWith
      cases hi : indexByte t fc with
      | none => exact ih
      | some si =>
        have := H.indexByte_lt hi
        dsimp only
        refine ite_pred (· = some (i, m) → _) (fun _ => ih) fun _ => ite_pred (· = some (i, m) → _) (fun _ => ih) fun _ => ?_
        cases hf : List.find? (fun m => H.startsAtIndexWith t si m) Facts.H.cosmeticMarkers with
        | none => exact ih
        | some m' =>
          intro e
          cases e
          have hs := List.find?_some hf
          unfold H.startsAtIndexWith at hs
          split at hs
          · cases hs
          · omega
  exact key _ (Except.ok.inj h)

theorem isComment_noPanic (l : Bytes) : isComment l ≠ .error .panic := by
  rw [I2.isComment_eq]; nofun

theorem newCosmeticRule_noPanic (trim : Bytes → Bytes) (t : Bytes) (id : Int) :
    newCosmeticRule trim t id ≠ .error .panic := by
  unfold newCosmeticRule
  refine bind_noPanic (findCosmeticRuleMarker_noPanic _) fun mk hmk => ?_
  split
  · exact throw_err_noPanic
  · have hb := findCosmeticRuleMarker_bound hmk
    extract_lets afterDomains
    have h1 : ∀ permitted restricted, afterDomains (permitted, restricted) ≠ .error .panic := by
      intro permitted restricted
      refine bind_noPanic (sliceC_noPanic (by omega)) fun rest _ => ?_
      refine ite_noPanic throw_err_noPanic ?_
      refine ite_noPanic (pure_noPanic _) ?_
      refine ite_noPanic ?_ throw_err_noPanic
      exact ite_noPanic throw_err_noPanic (pure_noPanic _)
    refine ite_noPanic ?_ (pure_bind_noPanic (h1 _ _))
    refine bind_noPanic (sliceC_noPanic (by omega)) fun domains _ => ?_
    -- the outcome of `loadDomains` is passed on, and it is not a panic
    split
    · exact pure_bind_noPanic (h1 _ _)
    · exact absurd ‹_› (loadDomains_noPanic _ _)
    · exact throw_err_noPanic

theorem newRule_noPanic (rx : RuleExt) (line : Bytes) (id : Int) :
    newRule rx line id ≠ .error .panic := by
  unfold newRule
  refine ite_noPanic (pure_noPanic _) ?_
  refine bind_noPanic (isComment_noPanic _) fun _ _ => ?_
  refine ite_noPanic (pure_noPanic _) ?_
  refine bind_noPanic (findCosmeticRuleMarker_noPanic _) fun mk _ => ?_
  cases mk with
  | some _ => exact bind_noPanic (newCosmeticRule_noPanic _ _ _) fun _ _ => pure_noPanic _
  | none =>
    cases rx.newHostRule (rx.trim line) id with
    | some h => exact pure_noPanic _
    | none => exact bind_noPanic (parseNetRule_noPanic _ _ _) fun _ _ => pure_noPanic _

theorem lit_dotstar_length : (lit ".*").length = 2 := by decide

/-- the checked variants never fail and compute the functions of UF/Model/Match.lean -/
theorem domainEntryMatchesC_eq (ext : Ext) (domain d : Bytes) :
    domainEntryMatchesC ext domain d = .ok (domainEntryMatches ext domain d) := by
  unfold domainEntryMatchesC domainEntryMatches
  split
  · rename_i hs
    have hl := hasSuffix_length hs
    rw [lit_dotstar_length] at hl
    have h1 : ¬ ((d.length : Int) - 1 < 0) := by omega
    rw [sliceC_ok (by omega : 0 ≤ d.length - 1 ∧ d.length - 1 ≤ d.length)]
    simp only [h1, if_false, List.drop_zero, bind, Except.bind, pure, Except.pure]
    split <;> rfl
  · rfl

theorem isDomainOrSubdomainOfAnyC_eq (ext : Ext) (domain : Bytes) (ds : List Bytes) :
    isDomainOrSubdomainOfAnyC ext domain ds = .ok (isDomainOrSubdomainOfAny ext domain ds) := by
  induction ds with
  | nil => rfl
  | cons d ds ih =>
    unfold isDomainOrSubdomainOfAnyC
    rw [domainEntryMatchesC_eq, ih]
    simp only [isDomainOrSubdomainOfAny, List.any_cons, bind, Except.bind, pure, Except.pure]
    cases domainEntryMatches ext domain d <;> simp

theorem dropLast_of_length_le_one {α} (l : List α) (h : l.length ≤ 1) : l.dropLast = [] := by
  match l, h with
  | [], _ => rfl
  | [_], _ => rfl

theorem hostCharsLoop_eq (p : Bytes) (fuel i : Nat) (h : p.length ≤ i + 1 + fuel) :
    hostCharsLoop p fuel i =
      .ok (!((p.drop i).dropLast.all
        fun c => isLower c || isUpper c || isDigit c || c == ch '.' || c == ch '-')) := by
  induction fuel generalizing i with
  | zero =>
    have : (p.drop i).dropLast = [] := dropLast_of_length_le_one _ (by simp; omega)
    rw [this]; rfl
  | succ fuel ih =>
    unfold hostCharsLoop
    split
    · rename_i hi
      have hi' : i < p.length := by omega
      rw [idxC_ok' hi', List.drop_eq_getElem_cons hi']
      have hne : p.drop (i + 1) ≠ [] := by
        intro e
        have := congrArg List.length e
        simp at this; omega
      rw [List.dropLast_cons_of_ne_nil hne, List.all_cons, ih (i + 1) (by omega)]
      simp only [bind, Except.bind, pure, Except.pure]
      split
      · rename_i hc
        simp only [Bool.not_eq_true'] at hc
        simp only [hc, Bool.false_and, Bool.not_false] 
      · rename_i hc
        simp only [Bool.not_eq_true', Bool.not_eq_false] at hc
        simp only [hc, Bool.true_and]
    · rename_i hi
      have : (p.drop i).dropLast = [] := dropLast_of_length_le_one _ (by simp; omega)
      rw [this]; rfl

theorem shouldMatchHostnameC_eq (r : NetRule) (q : Request) :
    shouldMatchHostnameC r q = .ok (shouldMatchHostname r q) := by
  unfold shouldMatchHostnameC shouldMatchHostname
  rw [apply_ite Except.ok, apply_ite Except.ok]
  refine ite_congr rfl (fun _ => rfl) fun _ => ite_congr rfl (fun _ => rfl) fun _ => ?_
  have hallowed : (fun c => isAlpha c || isDigit c || c == ch '.' || c == ch '-') =
      (fun c => isLower c || isUpper c || isDigit c || c == ch '.' || c == ch '-') := by
    funext c
    simp only [isAlpha]
    rw [Bool.or_comm (isUpper c) (isLower c)]
  by_cases hlen : r.pattern.length > 3
  · have i0 : 0 < r.pattern.length := by omega
    have iL : r.pattern.length - 1 < r.pattern.length := by omega
    have h0 : r.pattern.head? = some r.pattern[0] := by
      rw [List.head?_eq_getElem?]; exact List.getElem?_eq_getElem i0
    have hL : r.pattern.getLast? = some r.pattern[r.pattern.length - 1] := by
      rw [List.getLast?_eq_getElem?]; exact List.getElem?_eq_getElem iL
    rw [if_pos hlen, idxC_ok' i0, idxC_ok' iL, h0, hL, hostCharsLoop_eq _ _ _ (by omega), hallowed]
    simp only [bind, Except.bind, pure, Except.pure, decide_eq_true hlen, Bool.true_and,
      Option.some_beq_some]
    cases r.pattern[0]'i0 == ch '/' <;> cases r.pattern[r.pattern.length - 1]'iL == ch '.' <;> rfl
  · rw [if_neg hlen, decide_eq_false hlen]
    rfl

end UF.E
