/- Helper lemmas about option masks (`Nat` bit operations). -/
namespace UF

theorem and_two_pow_eq (n k : Nat) : n &&& 2 ^ k = if n.testBit k then 2 ^ k else 0 := by
  apply Nat.eq_of_testBit_eq
  intro i
  rw [Nat.testBit_and, Nat.testBit_two_pow]
  by_cases hki : k = i
  · subst hki
    cases h : n.testBit k <;> simp
  · cases n.testBit k <;> simp [hki]

theorem and_two_pow_beq (n k : Nat) : ((n &&& 2 ^ k) == 2 ^ k) = n.testBit k := by
  have hpos : (0 : Nat) ≠ 2 ^ k := Nat.ne_of_lt (Nat.two_pow_pos k)
  rw [and_two_pow_eq]
  cases n.testBit k <;> simp [hpos]

theorem testBit_foldl_or {α} (f : α → Nat) (l : List α) (acc k : Nat) :
    (l.foldl (fun a m => a ||| f m) acc).testBit k = (acc.testBit k || l.any (fun m => (f m).testBit k)) := by
  induction l generalizing acc with
  | nil => simp
  | cons x xs ih => simp [ih, Nat.testBit_or, Bool.or_assoc]

theorem bv_foldl_or {α n} (f : α → BitVec n) (l : List α) (acc : BitVec n) :
    l.foldl (fun a m => a ||| f m) acc = acc ||| l.foldl (fun a m => a ||| f m) 0 := by
  induction l generalizing acc with
  | nil => simp
  | cons x xs ih => simp only [List.foldl_cons]; rw [ih, ih (0 ||| f x)]; simp [BitVec.or_assoc]

end UF
