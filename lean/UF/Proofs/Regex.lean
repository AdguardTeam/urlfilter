import UF.Model.Regex
/-
  The matcher is sound and complete for the declarative semantics:
    `m_iff      : r.m s k = true ↔ ∃ t, Den r s t ∧ k t = true`
    `search_iff : search r u = true ↔ ∃ x y z, u = x ++ y ++ z ∧ Den r ⟨x.reverse, y ++ z⟩ ⟨y.reverse ++ x.reverse, z⟩`
-/
namespace UF
open Re

/-! ### Shape of a `Den` step: it consumes a prefix `x` of the rest and pushes it on `pre`. -/

theorem litStep_shape (fold : Bool) : ∀ (bs : Bytes) (s t : St), litStep fold bs s = some t →
    ∃ x, s.post = x ++ t.post ∧ t.pre = x.reverse ++ s.pre ∧ Bytes.toLower x = Bytes.toLower bs := by
  intro bs
  induction bs with
  | nil =>
    intro s t h
    simp [litStep] at h
    subst h
    exact ⟨[], by simp, by simp, rfl⟩
  | cons c cs ih =>
    intro s t h
    obtain ⟨pre, post⟩ := s
    cases post with
    | nil => simp [litStep] at h
    | cons b post =>
      simp only [litStep] at h
      split at h
      · rename_i hb
        obtain ⟨x, h1, h2, h3⟩ := ih _ _ h
        refine ⟨b :: x, ?_, ?_, ?_⟩
        · simp at h1 ⊢; exact h1
        · simp at h2 ⊢; exact h2
        · have : Bytes.lowerByte b = Bytes.lowerByte c := by
            simp only [byteEq, Bool.or_eq_true, Bool.and_eq_true, beq_iff_eq] at hb
            rcases hb with hb | ⟨_, hb⟩
            · rw [hb]
            · exact hb
          simp only [Bytes.toLower, List.map_cons] at h3 ⊢
          rw [this, h3]
      · simp at h

theorem Den.shape {r : Re} {s t : St} (h : Den r s t) :
    ∃ x, s.post = x ++ t.post ∧ t.pre = x.reverse ++ s.pre := by
  induction h with
  | empty | bol _ | eol _ | wordB _ | nwordB _ | star0 | quest0 | repB0 => exact ⟨[], by simp, by simp⟩
  | lit h =>
    obtain ⟨x, h1, h2, _⟩ := litStep_shape _ _ _ _ h
    exact ⟨x, h1, h2⟩
  | @any pre b post _ | @anyNL pre b post | @cls _ _ _ pre b post _ => exact ⟨[b], by simp, by simp⟩
  | cat _ _ ih1 ih2 | starS _ _ ih1 ih2 | plus _ _ ih1 ih2 | repUS _ _ ih1 ih2 | repBO _ _ ih1 ih2
  | repBS _ _ ih1 ih2 =>
    obtain ⟨x, h1, h2⟩ := ih1
    obtain ⟨y, h3, h4⟩ := ih2
    exact ⟨x ++ y, by simp [h1, h3], by simp [h2, h4]⟩
  | altL _ ih | altR _ ih | quest1 _ ih | repU0 _ ih | grp _ ih => exact ih

/-- The text consumed by two consecutive steps is the text of the first followed by that of the second. -/
theorem word_split {s t u : St} {w w1 w2 : Bytes} (e1 : s.post = w1 ++ t.post) (e2 : t.post = w2 ++ u.post)
    (hw : s.post = w ++ u.post) : w = w1 ++ w2 :=
  List.append_cancel_right (bs := u.post) (by rw [← hw, e1, e2]; simp)

theorem Den.split {a b : Re} {s t u : St} {w : Bytes} (h1 : Den a s t) (h2 : Den b t u)
    (hw : s.post = w ++ u.post) : ∃ w1 w2, w = w1 ++ w2 ∧ s.post = w1 ++ t.post ∧ t.post = w2 ++ u.post := by
  obtain ⟨w1, e1, _⟩ := h1.shape
  obtain ⟨w2, e2, _⟩ := h2.shape
  exact ⟨w1, w2, word_split e1 e2 hw, e1, e2⟩

theorem Den.lit_word {bs : Bytes} {fold : Bool} {s t : St} {w : Bytes} (h : Den (.lit bs fold) s t)
    (hw : s.post = w ++ t.post) : Bytes.toLower w = Bytes.toLower bs := by
  cases h with
  | lit h =>
    obtain ⟨x, h1, _, h3⟩ := litStep_shape _ _ _ _ h
    rwa [List.append_cancel_right (hw.symm.trans h1)]

theorem nil_of_post_eq {s : St} {w : Bytes} (h : s.post = w ++ s.post) : w = [] :=
  List.append_cancel_right (bs := s.post) (cs := []) (by simpa using h.symm)

/-- A step never lengthens the rest. -/
theorem Den.len {r : Re} {s t : St} (h : Den r s t) : t.post.length ≤ s.post.length := by
  obtain ⟨x, h1, _⟩ := h.shape
  simp [h1]

/-- A step without progress returns the same state. -/
theorem Den.noprog {r : Re} {s t : St} (h : Den r s t) (hl : ¬ t.post.length < s.post.length) : t = s := by
  obtain ⟨x, h1, h2⟩ := h.shape
  have hx : x = [] := by
    have : s.post.length = x.length + t.post.length := by rw [h1]; simp
    have : x.length = 0 := by omega
    exact List.eq_nil_of_length_eq_zero this
  subst hx
  obtain ⟨p1, q1⟩ := s
  obtain ⟨p2, q2⟩ := t
  simp at h1 h2
  simp [h1, h2]

/-! ### The loops, for a matcher `f` that is correct for `a`. -/

section loops
variable {a : Re} {f : St → (St → Bool) → Bool}

theorem starLoop_sound (hf : ∀ s k, f s k = true → ∃ t, Den a s t ∧ k t = true) :
    ∀ n s k, starLoop f n s k = true → ∃ t, Den (.star a) s t ∧ k t = true := by
  intro n
  induction n with
  | zero => intro s k h; exact ⟨s, .star0, h⟩
  | succ n ih =>
    intro s k h
    simp only [starLoop, Bool.or_eq_true] at h
    rcases h with h | h
    · exact ⟨s, .star0, h⟩
    · obtain ⟨t, h1, h2⟩ := hf _ _ h
      simp only [Bool.and_eq_true] at h2
      obtain ⟨u, h3, h4⟩ := ih _ _ h2.2
      exact ⟨u, .starS h1 h3, h4⟩

theorem starLoop_complete (hf : ∀ s k t, Den a s t → k t = true → f s k = true)
    {s u : St} (h : Den (.star a) s u) :
    ∀ n k, s.post.length ≤ n → k u = true → starLoop f n s k = true := by
  generalize hr : Re.star a = r at h
  induction h with
  | star0 =>
    intro n k _ hk
    cases n <;> simp [starLoop, hk]
  | @starS a' s t u h1 h2 _ ih2 =>
    cases hr
    intro n k hn hk
    by_cases hp : t.post.length < s.post.length
    · cases n with
      | zero => omega
      | succ n =>
        simp only [starLoop, Bool.or_eq_true]
        right
        apply hf _ _ _ h1
        simp only [Bool.and_eq_true, decide_eq_true_eq]
        exact ⟨hp, ih2 rfl n k (by omega) hk⟩
    · have : t = s := h1.noprog hp
      subst this
      exact ih2 rfl n k hn hk
  | _ => cases hr

theorem starLoop_iff (hf : ∀ s k, f s k = true ↔ ∃ t, Den a s t ∧ k t = true) (s : St) (k : St → Bool) :
    starLoop f s.post.length s k = true ↔ ∃ t, Den (.star a) s t ∧ k t = true :=
  ⟨starLoop_sound (fun s k => (hf s k).1) _ _ _,
   fun ⟨_, hd, hk⟩ => starLoop_complete (fun s k t hd hk => (hf s k).2 ⟨t, hd, hk⟩) hd _ _ (Nat.le_refl _) hk⟩

theorem iterN_iff (hf : ∀ s k, f s k = true ↔ ∃ t, Den a s t ∧ k t = true) :
    ∀ m s k, iterN f m s (fun t => starLoop f t.post.length t k) = true ↔
      ∃ t, Den (.rep a m none) s t ∧ k t = true := by
  intro m
  induction m with
  | zero =>
    intro s k
    simp only [iterN, starLoop_iff hf]
    constructor
    · rintro ⟨t, h, hk⟩; exact ⟨t, .repU0 h, hk⟩
    · rintro ⟨t, hd, hk⟩; cases hd with | repU0 h => exact ⟨t, h, hk⟩
  | succ m ih =>
    intro s k
    simp only [iterN, hf, ih]
    constructor
    · rintro ⟨t, h1, u, h2, hk⟩; exact ⟨u, .repUS h1 h2, hk⟩
    · rintro ⟨u, hd, hk⟩; cases hd with | repUS h1 h2 => exact ⟨_, h1, u, h2, hk⟩

theorem iterB_iff (hf : ∀ s k, f s k = true ↔ ∃ t, Den a s t ∧ k t = true) :
    ∀ n m s k, iterB f m n s k = true ↔ ∃ t, Den (.rep a m (some n)) s t ∧ k t = true := by
  intro n
  induction n with
  | zero =>
    intro m s k
    cases m with
    | zero =>
      simp only [iterB]
      constructor
      · intro h; exact ⟨s, .repB0, h⟩
      · rintro ⟨t, hd, hk⟩; cases hd; exact hk
    | succ m =>
      simp only [iterB, Bool.false_eq_true, false_iff]
      rintro ⟨t, hd, _⟩; cases hd
  | succ n ih =>
    intro m s k
    cases m with
    | zero =>
      simp only [iterB, Bool.or_eq_true, hf, ih]
      constructor
      · rintro (h | ⟨t, h1, u, h2, hk⟩)
        · exact ⟨s, .repB0, h⟩
        · exact ⟨u, .repBO h1 h2, hk⟩
      · rintro ⟨u, hd, hk⟩
        cases hd with
        | repB0 => exact .inl hk
        | repBO h1 h2 => exact .inr ⟨_, h1, u, h2, hk⟩
    | succ m =>
      simp only [iterB, hf, ih]
      constructor
      · rintro ⟨t, h1, u, h2, hk⟩; exact ⟨u, .repBS h1 h2, hk⟩
      · rintro ⟨u, hd, hk⟩; cases hd with | repBS h1 h2 => exact ⟨_, h1, u, h2, hk⟩
end loops

theorem den_lit_iff (bs : Bytes) (fold : Bool) (s t : St) : Den (.lit bs fold) s t ↔ litStep fold bs s = some t :=
  ⟨fun h => by cases h; assumption, .lit⟩

theorem stepSingle_iff (p : UInt8 → Bool) (s t : St) : stepSingle p s = some t ↔
    ∃ b post, s.post = b :: post ∧ p b = true ∧ t = ⟨b :: s.pre, post⟩ := by
  obtain ⟨pre, post⟩ := s
  cases post with
  | nil => simp [stepSingle]
  | cons b post =>
    simp only [stepSingle]
    constructor
    · intro h
      split at h
      · rename_i hb
        simp at h
        exact ⟨b, post, rfl, hb, h.symm⟩
      · simp at h
    · rintro ⟨b', post', h1, h2, h3⟩
      simp at h1
      obtain ⟨rfl, rfl⟩ := h1
      simp [h2, h3]

theorem den_any_iff (s t : St) : Den .any s t ↔ stepSingle (fun b => b != 10) s = some t := by
  rw [stepSingle_iff]
  constructor
  · intro h; cases h with | any hb => exact ⟨_, _, rfl, hb, rfl⟩
  · rintro ⟨b, post, h1, h2, rfl⟩
    obtain ⟨pre, q⟩ := s
    simp at h1; subst h1
    exact .any h2

theorem den_anyNL_iff (s t : St) : Den .anyNL s t ↔ stepSingle (fun _ => true) s = some t := by
  rw [stepSingle_iff]
  constructor
  · intro h; cases h with | anyNL => exact ⟨_, _, rfl, rfl, rfl⟩
  · rintro ⟨b, post, h1, _, rfl⟩
    obtain ⟨pre, q⟩ := s
    simp at h1; subst h1
    exact .anyNL

theorem den_cls_iff (neg : Bool) (rs : List (UInt8 × UInt8)) (fold : Bool) (s t : St) :
    Den (.cls neg rs fold) s t ↔ stepSingle (clsMatch neg rs fold) s = some t := by
  rw [stepSingle_iff]
  constructor
  · intro h; cases h with | cls hb => exact ⟨_, _, rfl, hb, rfl⟩
  · rintro ⟨b, post, h1, h2, rfl⟩
    obtain ⟨pre, q⟩ := s
    simp at h1; subst h1
    exact .cls h2

theorem single_iff (p : UInt8 → Bool) (s : St) (k : St → Bool) :
    single p s k = true ↔ ∃ t, stepSingle p s = some t ∧ k t = true := by
  obtain ⟨pre, post⟩ := s
  cases post with
  | nil => simp [single, stepSingle]
  | cons b post => cases hb : p b <;> simp [single, stepSingle, hb]

theorem m_iff (r : Re) : ∀ (s : St) (k : St → Bool), r.m s k = true ↔ ∃ t, Den r s t ∧ k t = true := by
  induction r with
  | empty => intro s k; exact ⟨fun h => ⟨s, .empty, h⟩, fun ⟨t, hd, hk⟩ => by cases hd; exact hk⟩
  | lit bs fold =>
    intro s k
    simp only [Re.m, den_lit_iff]
    cases litStep fold bs s <;> simp
  | any => intro s k; simp only [Re.m, single_iff, den_any_iff]
  | anyNL => intro s k; simp only [Re.m, single_iff, den_anyNL_iff]
  | cls neg rs fold => intro s k; simp only [Re.m, single_iff, den_cls_iff]
  | bol =>
    intro s k
    show (s.pre.isEmpty && k s) = true ↔ _
    rw [Bool.and_eq_true, List.isEmpty_iff]
    constructor
    · intro h; exact ⟨s, .bol h.1, h.2⟩
    · rintro ⟨t, hd, hk⟩; cases hd with | bol h => exact ⟨h, hk⟩
  | eol =>
    intro s k
    show (s.post.isEmpty && k s) = true ↔ _
    rw [Bool.and_eq_true, List.isEmpty_iff]
    constructor
    · intro h; exact ⟨s, .eol h.1, h.2⟩
    · rintro ⟨t, hd, hk⟩; cases hd with | eol h => exact ⟨h, hk⟩
  | wordB =>
    intro s k
    simp only [Re.m, Bool.and_eq_true]
    exact ⟨fun h => ⟨s, .wordB h.1, h.2⟩, fun ⟨t, hd, hk⟩ => by cases hd with | wordB h => exact ⟨h, hk⟩⟩
  | nwordB =>
    intro s k
    simp only [Re.m, Bool.and_eq_true, Bool.not_eq_true']
    exact ⟨fun h => ⟨s, .nwordB h.1, h.2⟩, fun ⟨t, hd, hk⟩ => by cases hd with | nwordB h => exact ⟨h, hk⟩⟩
  | cat a b iha ihb =>
    intro s k
    show a.m s (fun t => b.m t k) = true ↔ _
    rw [iha]
    constructor
    · rintro ⟨t, h1, h2⟩
      obtain ⟨u, h3, hk⟩ := (ihb t k).1 h2
      exact ⟨u, .cat h1 h3, hk⟩
    · rintro ⟨u, hd, hk⟩
      cases hd with
      | cat h1 h2 => exact ⟨_, h1, (ihb _ k).2 ⟨u, h2, hk⟩⟩
  | alt a b iha ihb =>
    intro s k
    show (a.m s k || b.m s k) = true ↔ _
    rw [Bool.or_eq_true, iha, ihb]
    constructor
    · rintro (⟨t, h, hk⟩ | ⟨t, h, hk⟩)
      · exact ⟨t, .altL h, hk⟩
      · exact ⟨t, .altR h, hk⟩
    · rintro ⟨t, hd, hk⟩
      cases hd with
      | altL h => exact .inl ⟨t, h, hk⟩
      | altR h => exact .inr ⟨t, h, hk⟩
  | star a iha => intro s k; exact starLoop_iff iha s k
  | plus a iha =>
    intro s k
    show a.m s (fun t => starLoop a.m t.post.length t k) = true ↔ _
    simp only [iha, starLoop_iff iha]
    constructor
    · rintro ⟨t, h1, u, h2, hk⟩; exact ⟨u, .plus h1 h2, hk⟩
    · rintro ⟨u, hd, hk⟩; cases hd with | plus h1 h2 => exact ⟨_, h1, u, h2, hk⟩
  | quest a iha =>
    intro s k
    show (k s || a.m s k) = true ↔ _
    rw [Bool.or_eq_true, iha]
    constructor
    · rintro (h | ⟨t, h, hk⟩)
      · exact ⟨s, .quest0, h⟩
      · exact ⟨t, .quest1 h, hk⟩
    · rintro ⟨t, hd, hk⟩
      cases hd with
      | quest0 => exact .inl hk
      | quest1 h => exact .inr ⟨t, h, hk⟩
  | rep a m mx iha =>
    intro s k
    cases mx with
    | none => exact iterN_iff iha m s k
    | some n => exact iterB_iff iha n m s k
  | grp a iha =>
    intro s k
    show a.m s k = true ↔ _
    rw [iha]
    constructor
    · rintro ⟨t, h, hk⟩; exact ⟨t, .grp h, hk⟩
    · rintro ⟨t, hd, hk⟩; cases hd with | grp h => exact ⟨t, h, hk⟩

theorem searchFrom_iff (r : Re) : ∀ (post pre : Bytes), searchFrom r pre post = true ↔
    ∃ x t, (∃ z, post = x ++ z) ∧ Den r ⟨x.reverse ++ pre, post.drop x.length⟩ t := by
  intro post
  induction post with
  | nil =>
    intro pre
    simp only [searchFrom, m_iff]
    constructor
    · rintro ⟨t, h, _⟩; exact ⟨[], t, ⟨[], rfl⟩, by simpa using h⟩
    · rintro ⟨x, t, ⟨z, hz⟩, h⟩
      have : x = [] := by
        cases x with
        | nil => rfl
        | cons _ _ => simp at hz
      subst this
      exact ⟨t, by simpa using h, trivial⟩
  | cons b post ih =>
    intro pre
    simp only [searchFrom, Bool.or_eq_true, m_iff, ih]
    constructor
    · rintro (⟨t, h, _⟩ | ⟨x, t, ⟨z, hz⟩, h⟩)
      · exact ⟨[], t, ⟨_, rfl⟩, by simpa using h⟩
      · refine ⟨b :: x, t, ⟨z, by simp [hz]⟩, ?_⟩
        simpa using h
    · rintro ⟨x, t, ⟨z, hz⟩, h⟩
      cases x with
      | nil => left; exact ⟨t, by simpa using h, trivial⟩
      | cons c x =>
        right
        simp at hz
        obtain ⟨rfl, hz⟩ := hz
        refine ⟨x, t, ⟨z, hz⟩, ?_⟩
        simpa using h

/-- `search` = "some factor `y` of the subject is matched in its context". -/
theorem search_iff (r : Re) (u : Bytes) : search r u = true ↔
    ∃ x y z, u = x ++ y ++ z ∧ Den r ⟨x.reverse, y ++ z⟩ ⟨y.reverse ++ x.reverse, z⟩ := by
  simp only [search, searchFrom_iff]
  constructor
  · rintro ⟨x, t, ⟨w, hw⟩, h⟩
    subst hw
    simp at h
    obtain ⟨y, h1, h2⟩ := h.shape
    simp at h1 h2
    refine ⟨x, y, t.post, by simp [h1], ?_⟩
    rw [← h1]
    obtain ⟨tp, tq⟩ := t
    simp at h2 ⊢
    rw [← h2]
    exact h
  · rintro ⟨x, y, z, hu, h⟩
    subst hu
    exact ⟨x, _, ⟨y ++ z, by simp⟩, by simpa using h⟩

theorem foldCase_mkCat (as : List Re) : (mkCat as).foldCase = mkCat (as.map foldCase) := by
  induction as with
  | nil => rfl
  | cons a as ih =>
    cases as with
    | nil => rfl
    | cons b as => simp only [mkCat, foldCase, List.map_cons] at ih ⊢; rw [ih]

end UF
