import UF.Proofs.Engine
import UF.Spec.Engine
/-
  The two facts about `NetRule.matches` that completeness of the lookup needs (H1, H2),
  and independence of `matches` from the list id.
-/
namespace UF.B
open UF UF.Bytes

/-- (H1) `Match` starts with the shortcut test. -/
theorem matches_shortcut (ext : Ext) (r : NetRule) (q : Request) (h : r.matches ext q = true) :
    Bytes.hasSub q.urlLower r.shortcut = true := by
  simp only [NetRule.matches, Bool.and_eq_true] at h
  exact h.1.1.1.1.1.1.1.1.1

/-- The `$domain` gate of `matchSourceDomain` and of `CosmeticRule.Match`, on Booleans: with permitted
    domains present (`c`) it lets a host pass only if one of them accepts it (`any`). -/
theorem domainGate : ∀ x c any : Bool,
    (if x then false else if c && !any then false else true) = true → c = true → any = true := by decide

/-- If one of the permitted domains, all plain names, accepts `host`, then `host` is that name or ends
    in `"."` followed by it. -/
theorem exists_plain_of_any (ext : Ext) (host : Bytes) (perm : List Bytes)
    (hwild : ∀ d ∈ perm, Bytes.hasSuffix d (lit ".*") = false)
    (h : isDomainOrSubdomainOfAny ext host perm = true) :
    ∃ d ∈ perm, host = d ∨ ∃ x, host = x ++ ch '.' :: d := by
  obtain ⟨d, hd, hm⟩ := List.any_eq_true.1 h
  refine ⟨d, hd, ?_⟩
  unfold domainEntryMatches at hm
  simp only [hwild d hd, Bool.false_eq_true, if_false, Bool.or_eq_true, beq_iff_eq, Bool.and_eq_true] at hm
  exact hm.imp id fun h => (E.hasSuffix_iff _ _).1 h.2

/-- (H2) A matching rule with permitted domains, all of them plain names (non-empty and not ending in a
    dot: `DomainsWF`), has one of them among the dot-suffixes of the source hostname (which is
    then not empty). -/
theorem matches_domain (ext : Ext) (r : NetRule) (q : Request) (hwf : DomainsWF r)
    (h : r.matches ext q = true) (hpd : r.permDomains ≠ [])
    (hwild : ∀ d ∈ r.permDomains, Bytes.hasSuffix d (lit ".*") = false) :
    q.sourceHostname ≠ [] ∧ ∃ d ∈ r.permDomains, d ∈ getSubdomains q.sourceHostname := by
  have hs : matchSourceDomain ext r q.sourceHostname = true := by
    simp only [NetRule.matches, Bool.and_eq_true] at h
    exact h.1.1.1.1.2
  have hpe : r.permDomains.isEmpty = false := by simpa using hpd
  unfold matchSourceDomain at hs
  rw [if_neg (by simp [hpe])] at hs
  obtain ⟨d, hd, hcase⟩ := exists_plain_of_any ext _ _ hwild (domainGate _ _ _ hs (by simp [hpe]))
  obtain ⟨hne, hdot⟩ := hwf d hd
  refine ⟨?_, d, hd, mem_getSubdomains _ d hne hdot hcase⟩
  rcases hcase with h1 | ⟨x, h1⟩ <;> rw [h1]
  · exact hne
  · simp

/-- `Match` does not read the list id. -/
theorem matches_listID (ext : Ext) (r : NetRule) (id : Int) (q : Request) :
    ({ r with listID := id } : NetRule).matches ext q = r.matches ext q := rfl

end UF.B
