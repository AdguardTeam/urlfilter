import UF.Spec.DnsRewrite
import UF.Proofs.Badfilter
/- The `$dnsrewrite` exception loop of `DNSResult.DNSRewrites()` against its reference: the index loop that deletes
   while it iterates is a filter, and `matchException` is one Boolean table. -/
namespace UF

theorem dnsRewritesAll_eq (nrs : List NetRule) : dnsRewritesAll nrs = nrs.filter (·.rewrite.isSome) := by
  unfold dnsRewritesAll; rw [foldl_append_if]; simp

theorem splitExceptions_foldl (l : List NetRule) (a b : List NetRule) :
    l.foldl (fun (acc : List NetRule × List NetRule) nr =>
      if nr.whitelist then (acc.1 ++ [nr], acc.2) else (acc.1, acc.2 ++ [nr])) (a, b) =
    (a ++ l.filter (·.whitelist), b ++ l.filter (fun r => !r.whitelist)) := by
  induction l generalizing a b with
  | nil => simp
  | cons x xs ih =>
    simp only [List.foldl_cons]
    cases hx : x.whitelist <;> simp [hx, ih]

theorem splitExceptions_eq (l : List NetRule) :
    splitExceptions l = (l.filter (·.whitelist), l.filter (fun r => !r.whitelist)) := by
  unfold splitExceptions; rw [splitExceptions_foldl]; simp

/-- `DeleteFunc` with a predicate that does not panic on the elements is a filter. -/
theorem deleteFunc?_eq {α} (del : α → Option Bool) (q : α → Bool) (l : List α)
    (h : ∀ x ∈ l, del x = some (q x)) : deleteFunc? del l = some (l.filter (fun x => !q x)) := by
  induction l with
  | nil => rfl
  | cons x xs ih =>
    have hx := h x (by simp)
    have hxs := ih (fun y hy => h y (by simp [hy]))
    simp only [deleteFunc?, hx, hxs, List.filter_cons]
    cases q x <;> simp

/-- The value tests of `matchException` against those of `disables`. -/
theorem matchException_value (cn n rc r0 tv : Bool) :
    (if cn = true then some n
      else if rc = true then (if r0 = true then some true else if tv = true then some true else some false)
      else some false) =
    some (if cn = true then n else rc && (r0 || tv)) := by
  cases cn <;> cases rc <;> cases r0 <;> cases tv <;> rfl

/-- On rules that carry a rewrite, `matchException` does not panic and is the reference relation
    (for an exception with a non-empty value). -/
theorem matchException_eq (nr exc : NetRule) (ew : DnsRewrite) (he : exc.rewrite = some ew)
    (hne : (ew == emptyRewrite) = false) (hnr : nr.rewrite.isSome = true) :
    matchException nr exc exc.important = some (disables exc nr) := by
  obtain ⟨rw, hrw⟩ := Option.isSome_iff_exists.mp hnr
  unfold matchException disables
  simp only [he, hrw, hne, Bool.false_or]
  rw [matchException_value]
  cases exc.important <;> cases nr.important <;> rfl

/-- An exception with an empty value disables everything it is allowed to. -/
theorem disables_empty (e r : NetRule) (rw : DnsRewrite) (he : e.rewrite = some emptyRewrite)
    (hr : r.rewrite = some rw) : disables e r = (e.important || !r.important) := by
  unfold disables; simp [he, hr]

theorem removeMatchingException_eq (nrules : List NetRule) (exc : NetRule)
    (he : exc.rewrite.isSome = true) (hall : ∀ r ∈ nrules, r.rewrite.isSome = true) :
    removeMatchingException nrules exc = some (nrules.filter (fun r => !disables exc r)) := by
  obtain ⟨ew, hew⟩ := Option.isSome_iff_exists.mp he
  unfold removeMatchingException
  simp only [hew]
  cases hemp : (ew == emptyRewrite) with
  | true =>
    have hd : ∀ r ∈ nrules, (!disables exc r) = (!(exc.important || !r.important)) := fun r hr => by
      obtain ⟨rw, hrw⟩ := Option.isSome_iff_exists.mp (hall r hr)
      rw [disables_empty exc r rw (by rw [hew, eq_of_beq hemp]) hrw]
    rw [List.filter_congr hd]
    cases exc.important with
    | true => simp
    | false =>
      simp only [if_true, Bool.false_eq_true, if_false]
      rw [deleteFunc?_eq _ (fun nr => !nr.important) nrules (fun _ _ => rfl)]
      simp
  | false =>
    simp only [Bool.false_eq_true, if_false]
    exact deleteFunc?_eq _ (fun nr => disables exc nr) nrules
      (fun r hr => matchException_eq r exc ew hew hemp (hall r hr))

theorem foldlM_exceptions (exceptions : List NetRule) : ∀ (nrules : List NetRule),
    (∀ e ∈ exceptions, e.rewrite.isSome = true) → (∀ r ∈ nrules, r.rewrite.isSome = true) →
    exceptions.foldlM (fun nrules exc => removeMatchingException nrules exc) nrules =
      some (nrules.filter (fun r => !exceptions.any (fun e => disables e r))) := by
  induction exceptions with
  | nil =>
    intro nrules _ _
    simp only [List.foldlM_nil, List.any_nil, Bool.not_false]
    exact congrArg some (List.filter_eq_self.mpr (by simp)).symm
  | cons e es ih =>
    intro nrules he hall
    simp only [List.foldlM_cons]
    rw [removeMatchingException_eq nrules e (he e (by simp)) hall]
    simp only [Option.bind_eq_bind, Option.bind_some]
    rw [ih _ (fun e' he' => he e' (by simp [he']))
      (fun r hr => hall r (List.mem_filter.mp hr).1)]
    rw [List.filter_filter]
    congr 1
    apply List.filter_congr
    intro r _
    simp only [List.any_cons, Bool.not_or, Bool.and_comm]

/-- The model of `DNSRewrites` never panics and equals the reference. -/
theorem dnsRewrites_eq_spec (nrs : List NetRule) :
    dnsRewrites nrs = some (specRewrites (dnsRewritesAll nrs)) := by
  unfold dnsRewrites specRewrites specRewritesCore
  rw [removeBadfilterRules_eq_spec, splitExceptions_eq]
  simp only
  have hsub : ∀ r ∈ specRemoveBad (dnsRewritesAll nrs), r.rewrite.isSome = true := by
    intro r hr
    have : r ∈ dnsRewritesAll nrs := (List.mem_filter.mp hr).1
    rw [dnsRewritesAll_eq] at this
    exact (List.mem_filter.mp this).2
  rw [foldlM_exceptions _ _ (fun e he => hsub e (List.mem_filter.mp he).1)
    (fun r hr => hsub r (List.mem_filter.mp hr).1)]
  rw [List.filter_filter]
  congr 1
  apply List.filter_congr
  intro r _
  simp only [List.any_filter, Bool.and_comm]

theorem any_filter_split {α} (l : List α) (p f : α → Bool) :
    l.any f = ((l.filter p).any f || (l.filter (fun x => !p x)).any f) := by
  induction l with
  | nil => rfl
  | cons x xs ih =>
    simp only [List.any_cons, List.filter_cons, ih]
    cases p x <;> simp [Bool.or_assoc, Bool.or_left_comm]

/-- Lists with the same non-exception subsequence and the same exceptions up to order agree on
    every `any`. -/
theorem any_eq_of_split (a b : List NetRule)
    (h1 : a.filter (fun r => !r.whitelist) = b.filter (fun r => !r.whitelist))
    (h2 : (a.filter (·.whitelist)).Perm (b.filter (·.whitelist))) (f : NetRule → Bool) :
    a.any f = b.any f := by
  rw [any_filter_split a (·.whitelist) f, any_filter_split b (·.whitelist) f, h1, h2.any_eq]

/-- The reference does not depend on where the exceptions sit. -/
theorem specRewrites_perm (a b : List NetRule)
    (h1 : a.filter (fun r => !r.whitelist) = b.filter (fun r => !r.whitelist))
    (h2 : (a.filter (·.whitelist)).Perm (b.filter (·.whitelist))) :
    specRewrites a = specRewrites b := by
  have hany := any_eq_of_split a b h1 h2
  unfold specRewrites specRewritesCore specRemoveBad
  simp only [List.filter_filter, List.any_filter, hany]
  -- both sides filter with the same predicate `P`, and `P r` implies `¬ r.whitelist`
  generalize hP : (fun r : NetRule =>
    (!r.whitelist && !b.any (fun a => (!a.badfilter && !b.any (fun b' => b'.badfilter && negatesBadfilter b' a)) &&
      (a.whitelist && disables a r))) &&
    (!r.badfilter && !b.any (fun b' => b'.badfilter && negatesBadfilter b' r))) = P
  have himp : ∀ r, P r = (P r && !r.whitelist) := by
    intro r; subst hP; cases h : r.whitelist <;> simp [h]
  have e1 : ∀ l : List NetRule, l.filter P = (l.filter (fun r => !r.whitelist)).filter P := by
    intro l
    rw [List.filter_filter]
    apply List.filter_congr
    intro r _; exact himp r
  rw [e1 a, e1 b, h1]

/-- A badfilter rule negates only rules with the same `$dnsrewrite`, so removing badfilter rules on
    the rewrite subset is the same as removing them on the whole list and then restricting. -/
theorem specRemoveBad_rewrites_comm (all : List NetRule) :
    specRemoveBad (all.filter (·.rewrite.isSome)) = (specRemoveBad all).filter (·.rewrite.isSome) := by
  unfold specRemoveBad
  simp only [List.filter_filter, List.any_filter]
  apply List.filter_congr
  intro r _
  cases hr : r.rewrite.isSome with
  | false => simp
  | true =>
    simp only [Bool.and_true, Bool.true_and]
    congr 2
    apply any_congr_mem
    intro b _
    cases hn : negatesBadfilter b r with
    | false => simp
    | true =>
      have hrw : b.rewrite = r.rewrite := ((negatesBadfilter_iff b r).mp hn).2.2.2.2.2.2.2.2.2.2.2.2.1
      have : b.rewrite.isSome = true := by rw [hrw]; exact hr
      simp [this]

end UF
