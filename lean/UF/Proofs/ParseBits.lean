import UF.Proofs.ParseWF
/- What the option loop leaves in the four masks: option bits below 2^15, content-type bits below 2^12, and the
   options that rule text cannot set. -/
namespace UF.E
open Bytes

/-- The invariant of the option loop on the four masks. -/
structure BInv (r : NetRule) : Prop where
  en : r.enabled < 2 ^ 15
  dis : r.disabled < 2 ^ 15
  perm : r.permTypes < 2 ^ 12
  restr : r.restrTypes < 2 ^ 12

theorem binv_loopInv (px : ParseExt) : LoopInv px BInv where
  enable := fun _ _ ho ⟨h1, h2, h3, h4⟩ => ⟨Nat.or_lt_two_pow h1 ho, h2, h3, h4⟩
  disable := fun _ _ ho ⟨h1, h2, h3, h4⟩ => ⟨h1, Nat.or_lt_two_pow h2 ho, h3, h4⟩
  noExtension := fun _ ⟨h1, h2, h3, h4⟩ => ⟨Nat.xor_lt_two_pow h1 (by decide), h2, h3, h4⟩
  permType := fun _ _ ht ⟨h1, h2, h3, h4⟩ => ⟨h1, h2, Nat.or_lt_two_pow h3 ht, h4⟩
  restrType := fun _ _ ht ⟨h1, h2, h3, h4⟩ => ⟨h1, h2, h3, Nat.or_lt_two_pow h4 ht⟩
  documentOnly := fun _ ⟨h1, h2, _, h4⟩ => ⟨h1, h2, (by decide : Facts.TypeDocument < 2 ^ 12), h4⟩
  dns := fun _ _ _ ⟨h1, h2, h3, h4⟩ => ⟨h1, h2, h3, h4⟩
  domains := fun _ _ _ _ _ ⟨h1, h2, h3, h4⟩ => ⟨h1, h2, h3, h4⟩
  denyallow := fun _ _ ⟨h1, h2, h3, h4⟩ => ⟨h1, h2, h3, h4⟩
  tags := fun _ _ _ _ _ ⟨h1, h2, h3, h4⟩ => ⟨h1, h2, h3, h4⟩
  clients := fun _ _ _ _ _ ⟨h1, h2, h3, h4⟩ => ⟨h1, h2, h3, h4⟩
  rewrite := fun _ _ _ _ ⟨h1, h2, h3, h4⟩ => ⟨h1, h2, h3, h4⟩

theorem parseNetRule_bits {px : ParseExt} {t : Bytes} {id : Int} {r : NetRule}
    (h : parseNetRule px t id = .ok r) : BInv r :=
  parseNetRule_loopInv (binv_loopInv px) (fun _ _ ⟨h1, h2, h3, h4⟩ => ⟨h1, h2, h3, h4⟩)
    (fun _ _ ⟨h1, h2, h3, h4⟩ => ⟨h1, h2, h3, h4⟩)
    (fun _ _ => ⟨Nat.two_pow_pos 15, Nat.two_pow_pos 15, Nat.two_pow_pos 12, Nat.two_pow_pos 12⟩) h

/-- the bits a rule text can set: everything below OptionCsp (2^15) -/
theorem parseNetRule_option_bits {px : ParseExt} {t : Bytes} {id : Int} {r : NetRule}
    (h : parseNetRule px t id = .ok r) : r.enabled < 2 ^ 15 ∧ r.disabled < 2 ^ 15 :=
  ⟨(parseNetRule_bits h).en, (parseNetRule_bits h).dis⟩

/-- content-type masks only ever hold the twelve RequestType bits (below 2^12) -/
theorem parseNetRule_type_bits {px : ParseExt} {t : Bytes} {id : Int} {r : NetRule}
    (h : parseNetRule px t id = .ok r) : r.permTypes < 2 ^ 12 ∧ r.restrTypes < 2 ^ 12 :=
  ⟨(parseNetRule_bits h).perm, (parseNetRule_bits h).restr⟩

theorem and_ne_of_lt {m opt : Nat} (hm : m < 2 ^ 15) (ho : 2 ^ 15 ≤ opt) : ((m &&& opt) == opt) = false := by
  have : m &&& opt ≤ m := Nat.and_le_left
  have hne : m &&& opt ≠ opt := by omega
  simpa using hne

theorem parseNetRule_no_advanced {px : ParseExt} {t : Bytes} {id : Int} {r : NetRule}
    (h : parseNetRule px t id = .ok r) (opt : Nat)
    (ho : opt = Facts.OptionCsp ∨ opt = Facts.OptionReplace ∨ opt = Facts.OptionCookie ∨ opt = Facts.OptionRedirect) :
    r.isEnabled opt = false ∧ r.isDisabled opt = false := by
  have hb := parseNetRule_bits h
  have hopt : 2 ^ 15 ≤ opt := by
    rcases ho with e | e | e | e <;> subst e <;> decide
  exact ⟨and_ne_of_lt hb.en hopt, and_ne_of_lt hb.dis hopt⟩

end UF.E
