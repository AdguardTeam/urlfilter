import UF.Basic.Bytes
/-
  ASCII literals without the UTF-8 round trip.  `lit "abc"` runs `String.toList` on a literal, which
  the kernel evaluates by encoding the literal to bytes and decoding it again, at a cost that grows
  faster than the length.  A string literal is by definition `String.ofList` of its characters, so
  rewriting with `lit_ofList` first leaves the kernel a plain list of characters to map over.
-/
namespace UF

theorem lit_ofList (cs : List Char) : lit (String.ofList cs) = cs.map (fun c => c.toNat.toUInt8) := by
  unfold lit
  rw [String.toList_ofList]

end UF
