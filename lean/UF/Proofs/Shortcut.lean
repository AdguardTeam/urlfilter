import UF.Spec.Shortcut
import UF.Proofs.Regex
import UF.Proofs.ShortcutBytes
/-
  C05, what a shortcut may be taken from: every required literal (`search_lits`) and every run of literal atoms
  in a top-level concatenation (`search_litAtoms`) is a factor of the lower-cased text of every match; the
  selection loop of `findRegexpShortcut` only returns justified candidates (`pickLongest_sound`); the mask loop
  never panics and returns `""` or a maximal run (`findShortcutLoop_inv`).
-/
namespace UF
open Bytes Re

theorem den_lits (r : Re) : ∀ (s t : St), Den r s t → ∀ w, s.post = w ++ t.post →
    ∀ l ∈ requiredLits r, hasSub (toLower w) l = true := by
  induction r with
  | lit bs fold =>
    intro s t h w hw l hl
    rw [List.mem_singleton.1 hl, h.lit_word hw]
    exact hasSub_refl _
  | cat a b iha ihb =>
    intro s u h w hw l hl
    cases h with
    | cat h1 h2 =>
      obtain ⟨w1, w2, rfl, e1, e2⟩ := h1.split h2 hw
      rw [toLower_append]
      rcases List.mem_append.1 hl with hl | hl
      · exact hasSub_append_left _ (iha _ _ h1 _ e1 l hl)
      · exact hasSub_append_right _ (ihb _ _ h2 _ e2 l hl)
  | grp a iha =>
    intro s t h w hw l hl
    cases h with
    | grp h => exact iha _ _ h w hw l hl
  | plus a iha =>
    intro s u h w hw l hl
    cases h with
    | plus h1 h2 =>
      obtain ⟨w1, w2, rfl, e1, _⟩ := h1.split h2 hw
      rw [toLower_append]
      exact hasSub_append_left _ (iha _ _ h1 _ e1 l hl)
  | rep a m mx iha =>
    intro s u h w hw l hl
    cases h with
    | repU0 _ | repB0 | repBO _ _ => cases hl
    | repUS h1 h2 | repBS h1 h2 =>
      obtain ⟨w1, w2, rfl, e1, _⟩ := h1.split h2 hw
      rw [toLower_append]
      exact hasSub_append_left _ (iha _ _ h1 _ e1 l hl)
  | _ => intro s t _ w _ l hl; cases hl

/-- Every required literal is a factor of the lower-cased subject of any successful search. -/
theorem search_lits (r : Re) (u : Bytes) (h : search r u = true) :
    ∀ l ∈ requiredLits r, hasSub (toLower u) l = true := by
  intro l hl
  obtain ⟨x, y, z, rfl, hd⟩ := (search_iff r _).1 h
  have := den_lits r _ _ hd y rfl l hl
  rw [toLower_append, toLower_append]
  exact hasSub_append_left _ (hasSub_append_right _ this)

theorem requiredLits_foldCase (r : Re) : requiredLits r.foldCase = requiredLits r := by
  induction r with
  | cat a b iha ihb => simp only [foldCase, requiredLits, iha, ihb]
  | grp a iha | plus a iha | rep a _ _ iha => simp only [foldCase, requiredLits, iha]
  | _ => rfl

theorem loadShortcut_cases (c : Bytes) : loadShortcut c = [] ∨ loadShortcut c = toLower c := by
  unfold loadShortcut
  split
  · exact .inr rfl
  · exact .inl rfl

/-- Literals required by `t` are factors of every lower-cased subject accepted by a covering `c`. -/
theorem search_covered (t c : Re) (u : Bytes) (hcov : litsCovered t c = true) (h : search c u = true) :
    ∀ l ∈ requiredLits t, hasSub (toLower u) l = true := by
  intro l hl
  simp only [litsCovered, List.all_eq_true, List.any_eq_true] at hcov
  obtain ⟨l', hl', hsub⟩ := hcov l hl
  exact hasSub_trans (search_lits c u h l' hl') hsub

/-! ### The selection loop of `findRegexpShortcut` -/

theorem pickLongest_sound (parts : List Bytes) (required : List Bytes) :
    pickLongest parts required = [] ∨
      ∃ l ∈ required, hasSub l (toLower (pickLongest parts required)) = true := by
  unfold pickLongest
  suffices h : ∀ (init : Bytes), (init = [] ∨ ∃ l ∈ required, hasSub l (toLower init) = true) →
      (let r := parts.foldl (fun longest part =>
          if part.length > longest.length && isRequiredLiteral part required then part else longest) init
       r = [] ∨ ∃ l ∈ required, hasSub l (toLower r) = true) from h [] (.inl rfl)
  induction parts with
  | nil => intro init h; exact h
  | cons p ps ih =>
    intro init h
    simp only [List.foldl_cons]
    apply ih
    split
    · rename_i hc
      simp only [Bool.and_eq_true, isRequiredLiteral, List.any_eq_true] at hc
      exact .inr hc.2
    · exact h

theorem elem_maskSpecials (c : UInt8) : List.elem c maskSpecials = isMaskSpecial c := by
  simp only [maskSpecials, isMaskSpecial, List.elem, Bool.or_assoc]
  cases c == 42 <;> cases c == 94 <;> cases c == 124 <;> rfl

theorem indexAny_go_none (chars : Bytes) : ∀ (s : Bytes) (i : Nat), indexAny.go chars s i = none →
    ∀ c ∈ s, List.elem c chars = false := by
  intro s
  induction s with
  | nil => intro i _ c hc; simp at hc
  | cons a t ih =>
    intro i h c hc
    simp only [indexAny.go] at h
    split at h
    · simp at h
    · rename_i ha
      simp only [List.mem_cons] at hc
      rcases hc with rfl | hc
      · simpa using ha
      · exact ih _ h c hc

theorem indexAny_go_some (chars : Bytes) : ∀ (s : Bytes) (i j : Nat), indexAny.go chars s i = some j →
    ∃ x c z, s = x ++ c :: z ∧ j = i + x.length ∧ (∀ d ∈ x, List.elem d chars = false) ∧
      List.elem c chars = true := by
  intro s
  induction s with
  | nil => intro i j h; simp [indexAny.go] at h
  | cons a t ih =>
    intro i j h
    simp only [indexAny.go] at h
    split at h
    · rename_i ha
      simp at h
      exact ⟨[], a, t, rfl, by simp [h], by simp, ha⟩
    · rename_i ha
      obtain ⟨x, c, z, rfl, hj, hx, hc⟩ := ih _ _ h
      refine ⟨a :: x, c, z, rfl, by simp [hj]; omega, ?_, hc⟩
      intro d hd
      simp only [List.mem_cons] at hd
      rcases hd with rfl | hd
      · simpa using ha
      · exact hx d hd

theorem slice_prefix (x : Bytes) (c : UInt8) (z : Bytes) :
    slice? (x ++ c :: z) 0 x.length = some x := by
  simp [slice?]

theorem slice_suffix (x : Bytes) (c : UInt8) (z : Bytes) :
    slice? (x ++ c :: z) (x.length + 1) (x ++ c :: z).length = some z := by
  have h1 : x ++ c :: z = (x ++ [c]) ++ z := by simp
  have h2 : (x ++ [c]).length = x.length + 1 := by simp
  simp only [slice?, List.take_length]
  rw [if_pos ⟨by simp, Nat.le_refl _⟩, h1, ← h2, List.drop_left]

/-- Loop invariant: the remaining `pattern` is a suffix of `p0` that starts right after a separator
    (or at the start), `shortcut` is empty or a maximal run of `p0`; then the loop does not panic and
    its result is empty or a maximal run of `p0`. -/
theorem findShortcutLoop_inv (p0 : Bytes) : ∀ (fuel : Nat) (pattern shortcut pre : Bytes),
    p0 = pre ++ pattern → (pre = [] ∨ ∃ x' c, pre = x' ++ [c] ∧ isMaskSpecial c = true) →
    (shortcut = [] ∨ IsMaskRun p0 shortcut) → pattern.length < fuel →
    ∃ r, findShortcutLoop fuel pattern shortcut = some r ∧ (r = [] ∨ IsMaskRun p0 r) := by
  intro fuel
  induction fuel with
  | zero => intro pattern _ _ _ _ _ h; omega
  | succ fuel ih =>
    intro pattern shortcut pre hp hpre hsc hlen
    simp only [findShortcutLoop]
    split
    · exact ⟨shortcut, rfl, hsc⟩
    · cases hi : indexAny pattern maskSpecials with
      | none =>
        simp only
        split
        · refine ⟨pattern, rfl, .inr ⟨pre, [], by simp [hp], ?_, hpre, .inl rfl⟩⟩
          intro c hc
          rw [← elem_maskSpecials]
          exact indexAny_go_none _ _ _ hi c hc
        · exact ⟨shortcut, rfl, hsc⟩
      | some i =>
        obtain ⟨x, c, z, rfl, hj, hx, hc⟩ := indexAny_go_some _ _ _ _ hi
        simp only [Nat.zero_add] at hj
        subst hj
        rw [elem_maskSpecials] at hc
        have hrun : IsMaskRun p0 x := by
          refine ⟨pre, c :: z, by simp [hp], ?_, hpre, .inr ⟨c, z, rfl, hc⟩⟩
          intro d hd
          rw [← elem_maskSpecials]
          exact hx d hd
        simp only [slice_prefix, slice_suffix]
        have hrec : ∀ sc', (sc' = [] ∨ IsMaskRun p0 sc') →
            ∃ r, findShortcutLoop fuel z sc' = some r ∧ (r = [] ∨ IsMaskRun p0 r) := by
          intro sc' hsc'
          apply ih z sc' (pre ++ x ++ [c]) (by simp [hp]) (.inr ⟨pre ++ x, c, rfl, hc⟩) hsc'
          simp at hlen
          omega
        split
        · simpa using hrec x (.inr hrun)
        · simpa using hrec shortcut hsc

theorem findShortcut_inv (p : Bytes) :
    ∃ r, findShortcut p = some r ∧ (r = [] ∨ IsMaskRun p r) :=
  findShortcutLoop_inv p _ p [] [] rfl (.inl rfl) (.inl rfl) (Nat.lt_succ_self _)

theorem den_empty_iff (s t : St) : Den .empty s t ↔ t = s := by
  constructor
  · intro h; cases h; rfl
  · rintro rfl; exact .empty

theorem den_mkCat_cons (a : Re) (rest : List Re) (s u : St) :
    Den (mkCat (a :: rest)) s u ↔ ∃ t, Den a s t ∧ Den (mkCat rest) t u := by
  cases rest with
  | nil =>
    simp only [mkCat, den_empty_iff]
    constructor
    · intro h; exact ⟨u, h, rfl⟩
    · rintro ⟨t, h, rfl⟩; exact h
  | cons b rest =>
    simp only [mkCat]
    constructor
    · intro h; cases h with | cat h1 h2 => exact ⟨_, h1, h2⟩
    · rintro ⟨t, h1, h2⟩; exact .cat h1 h2

theorem den_mkCat_append (as bs : List Re) (s u : St) :
    Den (mkCat (as ++ bs)) s u ↔ ∃ t, Den (mkCat as) s t ∧ Den (mkCat bs) t u := by
  induction as generalizing s with
  | nil =>
    simp only [List.nil_append, mkCat, den_empty_iff]
    constructor
    · intro h; exact ⟨s, rfl, h⟩
    · rintro ⟨t, rfl, h⟩; exact h
  | cons a as ih =>
    simp only [List.cons_append, den_mkCat_cons, ih]
    constructor
    · rintro ⟨t, h1, t', h2, h3⟩; exact ⟨t', ⟨t, h1, h2⟩, h3⟩
    · rintro ⟨t', ⟨t, h1, h2⟩, h3⟩; exact ⟨t, h1, t', h2, h3⟩

theorem den_litAtoms (fold : Bool) : ∀ (w : Bytes) (s t : St), Den (mkCat (litAtoms fold w)) s t →
    ∃ x, s.post = x ++ t.post ∧ toLower x = toLower w := by
  intro w
  induction w with
  | nil =>
    intro s t h
    simp only [litAtoms, List.map_nil, mkCat, den_empty_iff] at h
    subst h
    exact ⟨[], by simp, rfl⟩
  | cons c w ih =>
    intro s u h
    have h' : Den (mkCat (Re.lit [c] fold :: litAtoms fold w)) s u := by simpa [litAtoms] using h
    obtain ⟨t, h1, h2⟩ := (den_mkCat_cons _ _ _ _).1 h'
    obtain ⟨x2, e2, l2⟩ := ih _ _ h2
    cases h1 with
    | lit h1 =>
      obtain ⟨x1, e1, _, l1⟩ := litStep_shape _ _ _ _ h1
      refine ⟨x1 ++ x2, by rw [e1, e2]; simp, ?_⟩
      rw [toLower_append, l1, l2]
      simp [toLower]

/-- A run of literal atoms inside a top-level concatenation is (case-insensitively) a factor of every
    subject the expression accepts. -/
theorem search_litAtoms (as bs : List Re) (fold : Bool) (w u : Bytes)
    (h : search (mkCat (as ++ litAtoms fold w ++ bs)) u = true) :
    hasSub (toLower u) (toLower w) = true := by
  obtain ⟨x, y, z, rfl, hd⟩ := (search_iff _ _).1 h
  obtain ⟨t2, hd12, hd3⟩ := (den_mkCat_append _ _ _ _).1 hd
  obtain ⟨t1, hd1, hd2⟩ := (den_mkCat_append _ _ _ _).1 hd12
  obtain ⟨w1, e1, _⟩ := hd1.shape
  obtain ⟨w2, e2, l2⟩ := den_litAtoms _ _ _ _ hd2
  obtain ⟨w3, e3, _⟩ := hd3.shape
  simp only at e1 e3
  have hy : y = w1 ++ w2 ++ w3 := List.append_cancel_right (bs := z) (by rw [e1, e2, e3]; simp)
  subst hy
  simp only [toLower_append]
  rw [l2]
  exact hasSub_append_left _ (hasSub_append_right _
    (hasSub_append_left _ (hasSub_append_right _ (hasSub_refl _))))

/-- The pattern is tested against the URL or, for hostname requests, against the hostname, which is a
    factor of the URL: what is a factor of the lower-cased target is a factor of `urlLower`. -/
theorem hasSub_urlLower_of_target {r : NetRule} {q : Request} {sc : Bytes}
    (hlower : q.urlLower = toLower q.url)
    (hhost : q.isHostnameRequest = true → hasSub q.url q.hostname = true)
    (h : hasSub (toLower (if shouldMatchHostname r q then q.hostname else q.url)) sc = true) :
    hasSub q.urlLower sc = true := by
  rw [hlower]
  refine hasSub_trans (hasSub_toLower ?_) h
  split
  · rename_i hs
    apply hhost
    simp only [shouldMatchHostname] at hs
    split at hs
    · cases hs
    · rename_i hq; simpa using hq
  · exact hasSub_refl _

theorem foldCase_litAtoms (fold : Bool) (w : Bytes) : (litAtoms fold w).map foldCase = litAtoms true w := by
  simp [litAtoms, foldCase]

end UF
