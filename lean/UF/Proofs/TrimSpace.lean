import UF.Model.TrimSpace
/-
  The model of `strings.TrimSpace`: the Go-shaped function (fast path + fall-backs) = trim left, then
  right (`trimSpace_eq_ref`); appending ASCII blanks does not change the result (`trimSpace_append_sp`).
  The left scan and the right scan (run on the reversed string) are one scan, `trimU`, with the tests for
  the two- and three-byte spaces as parameters; what is proved about scanning is proved about `trimU`.
-/
namespace UF

theorem asciiSp_lt {c : UInt8} (h : asciiSp c = true) : c < 0x80 := by
  simp only [asciiSp, Bool.or_eq_true, beq_iff_eq] at h
  rcases h with ((((rfl | rfl) | rfl) | rfl) | rfl) | rfl <;> decide

/-- The encodings of the non-ASCII spaces consist of bytes ≥ 0x80. -/
theorem uni2_hi {c d : UInt8} (h : uni2 c d = true) : ¬ c < 0x80 ∧ ¬ d < 0x80 := by
  simp only [uni2, Bool.or_eq_true, Bool.and_eq_true, beq_iff_eq] at h
  rcases h with ⟨rfl, rfl | rfl⟩ <;> decide

theorem uni3_hi {c d e : UInt8} (h : uni3 c d e = true) : ¬ c < 0x80 ∧ ¬ d < 0x80 ∧ ¬ e < 0x80 := by
  simp only [uni3, Bool.or_eq_true, Bool.and_eq_true, beq_iff_eq, decide_eq_true_eq] at h
  rcases h with ((⟨⟨rfl, rfl⟩, rfl⟩ | ⟨⟨rfl, rfl⟩, h⟩) | ⟨⟨rfl, rfl⟩, rfl⟩) | ⟨⟨rfl, rfl⟩, rfl⟩
  · decide
  · refine ⟨by decide, by decide, ?_⟩
    rcases h with ((h | rfl) | rfl) | rfl
    · exact UInt8.not_lt.mpr h.1
    all_goals decide
  · decide
  · decide

/-- The scan that `trimLeftU` and `trimRevU` share: ASCII blanks and the two- and three-byte sequences that
    `u2`, `u3` recognise are dropped, up to the first byte that begins none of them. -/
def trimU (u2 : UInt8 → UInt8 → Bool) (u3 : UInt8 → UInt8 → UInt8 → Bool) : Bytes → Bytes
  | [] => []
  | c :: r =>
    if asciiSp c then trimU u2 u3 r else
    match r with
    | [] => c :: r
    | d :: r2 =>
      if u2 c d then trimU u2 u3 r2 else
      match r2 with
      | [] => c :: r
      | e :: r3 => if u3 c d e then trimU u2 u3 r3 else c :: r

theorem trimLeftU_eq (s : Bytes) : trimLeftU s = trimU uni2 uni3 s := by
  fun_induction trimLeftU s <;> rw [trimU.eq_def] <;> simp [*]

/-- Read from the end, the bytes of a sequence arrive last-first. -/
theorem trimRevU_eq (s : Bytes) : trimRevU s = trimU (fun c d => uni2 d c) (fun c d e => uni3 e d c) s := by
  fun_induction trimRevU s <;> rw [trimU.eq_def] <;> simp [*]

/-- What the scan needs to know about `u2`, `u3`: a sequence with an ASCII byte in it is not recognised. -/
def HiOnly (u2 : UInt8 → UInt8 → Bool) (u3 : UInt8 → UInt8 → UInt8 → Bool) : Prop :=
  (∀ c d, c < 0x80 ∨ d < 0x80 → u2 c d = false) ∧ (∀ c d e, c < 0x80 ∨ d < 0x80 ∨ e < 0x80 → u3 c d e = false)

theorem hiOnly_left : HiOnly uni2 uni3 :=
  ⟨fun _ _ h => Bool.eq_false_iff.mpr fun hu => h.elim (uni2_hi hu).1 (uni2_hi hu).2,
   fun _ _ _ h => Bool.eq_false_iff.mpr fun hu =>
    h.elim (uni3_hi hu).1 fun h => h.elim (uni3_hi hu).2.1 (uni3_hi hu).2.2⟩

theorem hiOnly_rev : HiOnly (fun c d => uni2 d c) (fun c d e => uni3 e d c) :=
  ⟨fun _ _ h => Bool.eq_false_iff.mpr fun hu => h.elim (uni2_hi hu).2 (uni2_hi hu).1,
   fun _ _ _ h => Bool.eq_false_iff.mpr fun hu =>
    h.elim (uni3_hi hu).2.2 fun h => h.elim (uni3_hi hu).2.1 (uni3_hi hu).1⟩

section
variable {u2 : UInt8 → UInt8 → Bool} {u3 : UInt8 → UInt8 → UInt8 → Bool}

theorem trimU_sp {c : UInt8} {r : Bytes} (h : asciiSp c = true) : trimU u2 u3 (c :: r) = trimU u2 u3 r := by
  rw [trimU.eq_def]; simp [h]
theorem trimU_one {c : UInt8} (hc : asciiSp c = false) : trimU u2 u3 [c] = [c] := by
  rw [trimU.eq_def]; simp [hc]
theorem trimU_two {c d : UInt8} (hc : asciiSp c = false) (hu : u2 c d = false) : trimU u2 u3 [c, d] = [c, d] := by
  rw [trimU.eq_def]; simp [hc, hu]
theorem trimU_uni2 {c d : UInt8} (hc : asciiSp c = false) (hu : u2 c d = true) (x : Bytes) :
    trimU u2 u3 (c :: d :: x) = trimU u2 u3 x := by
  rw [trimU.eq_def]; simp [hc, hu]
theorem trimU_uni3 {c d e : UInt8} (hc : asciiSp c = false) (hu : u2 c d = false) (h3 : u3 c d e = true)
    (x : Bytes) : trimU u2 u3 (c :: d :: e :: x) = trimU u2 u3 x := by
  rw [trimU.eq_def]; simp [hc, hu, h3]
theorem trimU_three {c d e : UInt8} (hc : asciiSp c = false) (hu : u2 c d = false) (h3 : u3 c d e = false)
    (x : Bytes) : trimU u2 u3 (c :: d :: e :: x) = c :: d :: e :: x := by
  rw [trimU.eq_def]; simp [hc, hu, h3]

/-- A non-blank ASCII byte stops the scan. -/
theorem trimU_ascii (hi : HiOnly u2 u3) {c : UInt8} {r : Bytes} (h1 : asciiSp c = false) (h2 : c < 0x80) :
    trimU u2 u3 (c :: r) = c :: r :=
  match r with
  | [] => trimU_one h1
  | [_] => trimU_two h1 (hi.1 _ _ (.inl h2))
  | _ :: _ :: r3 => trimU_three h1 (hi.1 _ _ (.inl h2)) (hi.2 _ _ _ (.inl h2)) r3

theorem trimU_ascii_snd (hi : HiOnly u2 u3) {c d : UInt8} (h1 : asciiSp c = false) (h2 : d < 0x80) (r : Bytes) :
    trimU u2 u3 (c :: d :: r) = c :: d :: r :=
  match r with
  | [] => trimU_two h1 (hi.1 _ _ (.inr h2))
  | _ :: r3 => trimU_three h1 (hi.1 _ _ (.inr h2)) (hi.2 _ _ _ (.inr (.inl h2))) r3

theorem trimU_dropAsciiSp (s : Bytes) : trimU u2 u3 (dropAsciiSp s) = trimU u2 u3 s := by
  induction s with
  | nil => rfl
  | cons c r ih =>
    cases h : asciiSp c with
    | true => simp [dropAsciiSp, h, ih, trimU_sp h]
    | false => simp [dropAsciiSp, h]

end

theorem dropAsciiSp_head {s : Bytes} {c : UInt8} {r : Bytes} (h : dropAsciiSp s = c :: r) : asciiSp c = false := by
  induction s with
  | nil => simp [dropAsciiSp] at h
  | cons a t ih =>
    cases ha : asciiSp a with
    | true => simp [dropAsciiSp, ha] at h; exact ih h
    | false =>
      simp [dropAsciiSp, ha] at h
      rw [← h.1]; exact ha

/-- The Go-shaped `trimSpace` is "trim left, then trim right". -/
theorem trimSpace_eq_ref (s : Bytes) : trimSpace s = trimSpaceRef s := by
  unfold trimSpace trimSpaceRef
  cases h1 : dropAsciiSp s with
  | nil =>
    have := trimU_dropAsciiSp (u2 := uni2) (u3 := uni3) s
    rw [h1, ← trimLeftU_eq, ← trimLeftU_eq] at this
    simp [← this, trimLeftU, trimRightU, trimRevU]
  | cons c r =>
    have hl := trimU_dropAsciiSp (u2 := uni2) (u3 := uni3) s
    rw [h1, ← trimLeftU_eq, ← trimLeftU_eq] at hl
    have hc := dropAsciiSp_head h1
    by_cases hge : c ≥ 0x80
    · simp [hge, hl]
    · have hlt : c < 0x80 := UInt8.not_le.mp hge
      simp only [hge, if_false]
      rw [← hl, trimLeftU_eq, trimU_ascii hiOnly_left hc hlt]
      unfold trimRightU
      generalize (c :: r).reverse = x
      have e := trimU_dropAsciiSp (u2 := fun c d => uni2 d c) (u3 := fun c d e => uni3 e d c) x
      rw [← trimRevU_eq, ← trimRevU_eq] at e
      cases h2 : dropAsciiSp x with
      | nil =>
        rw [h2] at e
        simp only [← e, trimRevU, List.reverse_nil]
      | cons d r' =>
        rw [h2] at e
        have hd := dropAsciiSp_head h2
        by_cases hdge : d ≥ 0x80
        · simp only [hdge, if_true, List.reverse_reverse, e]
        · have hdlt : d < 0x80 := UInt8.not_le.mp hdge
          simp only [hdge, if_false, ← e, trimRevU_eq, trimU_ascii hiOnly_rev hd hdlt]

def allSp (t : Bytes) : Prop := ∀ c ∈ t, asciiSp c = true

section
variable {u2 : UInt8 → UInt8 → Bool} {u3 : UInt8 → UInt8 → UInt8 → Bool}

theorem trimU_allSp_append {t : Bytes} (h : allSp t) (x : Bytes) : trimU u2 u3 (t ++ x) = trimU u2 u3 x := by
  induction t with
  | nil => rfl
  | cons c r ih =>
    rw [List.cons_append, trimU_sp (h c (by simp))]
    exact ih (fun y hy => h y (by simp [hy]))

theorem trimU_append_sp (hi : HiOnly u2 u3) {t : Bytes} (h : allSp t) (l : Bytes) :
    trimU u2 u3 (l ++ t) = if trimU u2 u3 l = [] then [] else trimU u2 u3 l ++ t := by
  induction l using trimU.induct u2 u3 with
  | case1 => simpa [trimU] using trimU_allSp_append h []
  | case2 c r hc ih => simp [trimU_sp hc, ih]
  | case3 c hc =>
    have hc' : asciiSp c = false := by simpa using hc
    rw [trimU_one hc']
    cases t with
    | nil => simp [trimU_one hc']
    | cons d t2 =>
      have hd := asciiSp_lt (h d (by simp))
      simpa using trimU_ascii_snd hi hc' hd t2
  | case4 c hc d r2 hu ih =>
    simp only [List.cons_append, trimU_uni2 (by simpa using hc) hu, ih]
  | case5 c hc d hu =>
    have hc' : asciiSp c = false := by simpa using hc
    have hu' : u2 c d = false := by simpa using hu
    rw [trimU_two hc' hu']
    cases t with
    | nil => simp [trimU_two hc' hu']
    | cons e t3 =>
      have he := asciiSp_lt (h e (by simp))
      simpa using trimU_three hc' hu' (hi.2 _ _ _ (.inr (.inr he))) t3
  | case6 c hc d hu e r3 h3 ih =>
    simp only [List.cons_append, trimU_uni3 (by simpa using hc) (by simpa using hu) h3, ih]
  | case7 c hc d hu e r3 h3 =>
    simp [trimU_three (by simpa using hc) (by simpa using hu) (by simpa using h3)]

end

theorem trimRightU_append_sp {t : Bytes} (h : allSp t) (x : Bytes) : trimRightU (x ++ t) = trimRightU x := by
  unfold trimRightU
  rw [List.reverse_append, trimRevU_eq, trimRevU_eq, trimU_allSp_append]
  intro c hc
  exact h c (by simpa using hc)

theorem trimSpaceRef_append_sp {t : Bytes} (h : allSp t) (l : Bytes) :
    trimSpaceRef (l ++ t) = trimSpaceRef l := by
  unfold trimSpaceRef
  rw [trimLeftU_eq, trimLeftU_eq, trimU_append_sp hiOnly_left h]
  by_cases he : trimU uni2 uni3 l = []
  · simp [he]
  · simp only [he, if_false]
    exact trimRightU_append_sp h _

/-- Appending ASCII blanks does not change `strings.TrimSpace`. -/
theorem trimSpace_append_sp {t : Bytes} (h : allSp t) (l : Bytes) : trimSpace (l ++ t) = trimSpace l := by
  rw [trimSpace_eq_ref, trimSpace_eq_ref, trimSpaceRef_append_sp h]

theorem trimSpace_nl' (l : Bytes) : trimSpace (l ++ [10]) = trimSpace l :=
  trimSpace_append_sp (by intro c hc; simp at hc; subst hc; decide) l

theorem trimSpace_crnl' (l : Bytes) : trimSpace (l ++ [13, 10]) = trimSpace l :=
  trimSpace_append_sp (by intro c hc; simp at hc; rcases hc with hc | hc <;> subst hc <;> decide) l

end UF
