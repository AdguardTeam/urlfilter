import UF.Model.RequestNew
import UF.Spec.Request
import UF.Proofs.BytesSearch
/-
  Helper lemmas for C17: `extractHostname` and `effectiveTLDPlusOne` as total functions, `newRequest`
  with its intermediate results, the URL grammar.
-/
namespace UF.H
open Bytes

/-- `firstIdx` of `ExtractHostname` (`none` = the early `return ""`). -/
def extractFirst (url : Bytes) : Option Nat :=
  match indexOf url (lit "//") with
  | some i => some (i + 2)
  | none =>
    match indexByte url (ch ':') with
    | none => none
    | some j => if j == 0 then none else some (j - 1)

theorem extractFirst_le {url : Bytes} {f : Nat} (hf : extractFirst url = some f) : f ≤ url.length := by
  unfold extractFirst at hf
  split at hf
  · rename_i i hi
    cases hf
    have := indexOf_bound hi
    simpa [lit] using this
  · split at hf
    · cases hf
    · rename_i j hj
      have := indexByte_lt hj
      split at hf
      · cases hf
      · cases hf
        omega

def isStop (c : UInt8) : Bool := c == ch '/' || c == ch ':' || c == ch '?'

theorem elem_stop (c : UInt8) : List.elem c (lit "/:?") = isStop c := by
  have : lit "/:?" = [ch '/', ch ':', ch '?'] := by decide
  rw [this]
  simp only [List.elem, isStop]
  cases h1 : c == ch '/' <;> cases h2 : c == ch ':' <;> cases h3 : c == ch '?' <;> rfl

theorem indexAny_go_stop (s : Bytes) (k : Nat) :
    indexAny.go (lit "/:?") s k =
      if (s.takeWhile fun c => !isStop c).length < s.length
      then some (k + (s.takeWhile fun c => !isStop c).length) else none := by
  induction s generalizing k with
  | nil => rfl
  | cons a t ih =>
    rw [indexAny.go, elem_stop, List.takeWhile_cons]
    cases ha : isStop a
    · simp only [Bool.not_false, if_true, Bool.false_eq_true, if_false, List.length_cons, ih (k + 1),
        Nat.add_lt_add_iff_right]
      split
      · congr 1; omega
      · rfl
    · simp

/-- Both slices are in range; the test `nextIdx <= firstIdx` only anticipates the empty slice. -/
theorem extractHostname_eq (url : Bytes) :
    extractHostname url = .ok
      (match extractFirst url with
       | none => []
       | some f => (url.drop f).takeWhile fun c => !isStop c) := by
  unfold extractHostname
  show (match extractFirst url with | none => _ | some firstIdx => _) = _
  cases hf : extractFirst url with
  | none => rfl
  | some f =>
    have hle := extractFirst_le hf
    have hn := (List.takeWhile_prefix (fun c => !isStop c) (l := url.drop f)).length_le
    have hw := List.prefix_iff_eq_take.mp (List.takeWhile_prefix (fun c => !isStop c) (l := url.drop f))
    rw [List.length_drop] at hn
    simp only
    rw [sliceE_to_end hle]
    unfold indexAny
    simp only
    rw [indexAny_go_stop, List.length_drop]
    generalize (url.drop f).takeWhile (fun c => !isStop c) = w at hn hw ⊢
    -- `nextIdx = firstIdx + w.length` whether or not a stop byte follows
    have key : ∀ n, n = f + w.length →
        (if n ≤ f then (.ok [] : Except HErr Bytes) else sliceE url f n) = .ok w := by
      rintro n rfl
      split
      · rw [List.eq_nil_of_length_eq_zero (by omega : w.length = 0)]
      · rw [sliceE_of_le (by omega) (by omega), List.drop_take, Nat.add_sub_cancel_left, ← hw]
    by_cases hlt : w.length < url.length - f
    · rw [if_pos hlt]
      exact key _ (by show 0 + w.length + f = _; omega)
    · rw [if_neg hlt]
      exact key _ (by show url.length = _; omega)

theorem extractHostname_ok (url : Bytes) : ∃ h, extractHostname url = .ok h :=
  ⟨_, extractHostname_eq url⟩

theorem extractHostname_noPanic (url : Bytes) : extractHostname url ≠ .error .panic :=
  ne_panic_of_ok (extractHostname_ok url)

/-- `1 + strings.LastIndex(s, ".")`: where the last label of `s` starts. -/
def lastLabelStart (s : Bytes) : Nat :=
  match lastIndexByte s (ch '.') with
  | none => 0
  | some k => k + 1

theorem effectiveTLDPlusOne_eq (ext : Ext) (h : Bytes) :
    effectiveTLDPlusOne ext h = .ok (
      if h.length < 1 then [] else
      if h.head? == some (ch '.') || h.getLast? == some (ch '.') then [] else
      if h.length < (ext.psl h).1.length + 1 then [] else
      let i := h.length - (ext.psl h).1.length - 1
      if h[i]? != some (ch '.') then [] else
      h.drop (lastLabelStart (h.take i))) := by
  unfold effectiveTLDPlusOne
  simp only
  by_cases hn : h.length < 1
  · rw [if_pos hn, if_pos hn]
  rw [if_neg hn, if_neg hn, idxE_of_lt (by omega : 0 < h.length), idxE_of_lt (by omega : h.length - 1 < h.length)]
  simp only
  have hdots : (h.head? == some (ch '.') || h.getLast? == some (ch '.')) =
      (h[0]'(by omega) == ch '.' || h[h.length - 1]'(by omega) == ch '.') := by
    rw [List.head?_eq_getElem?, List.getLast?_eq_getElem?, List.getElem?_eq_getElem (by omega),
      List.getElem?_eq_getElem (by omega)]
    rfl
  rw [hdots]
  by_cases hd : (h[0]'(by omega) == ch '.' || h[h.length - 1]'(by omega) == ch '.') = true
  · rw [if_pos hd, if_pos hd]
  rw [if_neg hd, if_neg hd]
  by_cases hlen : h.length < (ext.psl h).1.length + 1
  · rw [if_pos hlen, if_pos hlen]
  rw [if_neg hlen, if_neg hlen]
  have hi : h.length - (ext.psl h).1.length - 1 < h.length := by omega
  rw [idxE_of_lt hi, List.getElem?_eq_getElem hi]
  simp only
  have hbne : (some h[h.length - (ext.psl h).1.length - 1] != some (ch '.')) =
      (h[h.length - (ext.psl h).1.length - 1] != ch '.') := rfl
  rw [hbne]
  by_cases hc : (h[h.length - (ext.psl h).1.length - 1] != ch '.') = true
  · rw [if_pos hc, if_pos hc]
  rw [if_neg hc, if_neg hc, sliceE_of_le (Nat.zero_le _) (Nat.le_of_lt hi)]
  simp only [List.drop_zero]
  refine sliceE_to_end ?_
  split
  · exact Nat.zero_le _
  · rename_i k hk
    have := lastIndexByte_bound hk
    rw [List.length_take] at this
    exact Nat.lt_of_lt_of_le this (Nat.min_le_right _ _)

theorem effectiveTLDPlusOne_ok (ext : Ext) (h : Bytes) : ∃ d, effectiveTLDPlusOne ext h = .ok d :=
  ⟨_, effectiveTLDPlusOne_eq ext h⟩

theorem capURL_eq (url : Bytes) : capURL url = .ok (url.take Facts.maxURLLength) := by
  unfold capURL
  split
  · rename_i h
    rw [sliceE_of_le (Nat.zero_le _) (by omega)]
    simp
  · rename_i h
    rw [List.take_of_length_le (by omega)]

theorem domainOrHost_ok (ext : Ext) (h : Bytes) :
    ∃ e, effectiveTLDPlusOne ext h = .ok e ∧ domainOrHost ext h = .ok (if !e.isEmpty then e else h) := by
  obtain ⟨e, he⟩ := effectiveTLDPlusOne_ok ext h
  exact ⟨e, he, by simp [domainOrHost, he]⟩

theorem domainOrHost_noPanic (ext : Ext) (h : Bytes) : domainOrHost ext h ≠ .error .panic := by
  obtain ⟨e, _, hd⟩ := domainOrHost_ok ext h
  exact ne_panic_of_ok ⟨_, hd⟩

/-- `NewRequest`, with every intermediate result named. -/
theorem newRequest_eq (ext : Ext) (url src : Bytes) (t : Nat) :
    ∃ h sh e se,
      extractHostname (url.take Facts.maxURLLength) = .ok h ∧
      extractHostname (src.take Facts.maxURLLength) = .ok sh ∧
      effectiveTLDPlusOne ext h = .ok e ∧ effectiveTLDPlusOne ext sh = .ok se ∧
      newRequest ext url src t = .ok
        { reqType := t,
          url := url.take Facts.maxURLLength, urlLower := toLower (url.take Facts.maxURLLength),
          hostname := h,
          sourceURL := src.take Facts.maxURLLength, sourceHostname := sh,
          domain := (if !e.isEmpty then e else h),
          sourceDomain := (if !se.isEmpty then se else sh),
          thirdParty := !(if !se.isEmpty then se else sh).isEmpty &&
            (if !se.isEmpty then se else sh) != (if !e.isEmpty then e else h) } := by
  obtain ⟨h, hh⟩ := extractHostname_ok (url.take Facts.maxURLLength)
  obtain ⟨sh, hsh⟩ := extractHostname_ok (src.take Facts.maxURLLength)
  obtain ⟨e, he, hd⟩ := domainOrHost_ok ext h
  obtain ⟨se, hse, hsd⟩ := domainOrHost_ok ext sh
  refine ⟨h, sh, e, se, hh, hsh, he, hse, ?_⟩
  simp [newRequest, capURL_eq, hh, hsh, hd, hsd]

/-! ### The URL grammar -/

theorem url_parts (scheme host tail : Bytes) :
    scheme ++ lit "://" ++ host ++ tail = scheme ++ [ch ':', ch '/', ch '/'] ++ (host ++ tail) ∧
    (scheme ++ lit "://" ++ host ++ tail).drop (scheme.length + 3) = host ++ tail := by
  have hl : lit "://" = [ch ':', ch '/', ch '/'] := by decide
  have hlen : scheme.length + 3 = (scheme ++ [ch ':', ch '/', ch '/']).length := by simp
  refine ⟨by rw [hl]; simp, ?_⟩
  rw [hl, List.append_assoc (scheme ++ _), hlen, List.drop_left]

theorem takeWhile_host (host tail : Bytes) (hh : host.all (fun c => !isStop c) = true)
    (ht : tail = [] ∨ ∃ c r, tail = c :: r ∧ isStop c = true) :
    (host ++ tail).takeWhile (fun c => !isStop c) = host := by
  rw [List.takeWhile_append_of_pos (List.all_eq_true.mp hh)]
  rcases ht with ht | ⟨c, r, ht, hc⟩ <;> subst ht
  · simp
  · rw [List.takeWhile_cons_of_neg (by simp [hc]), List.append_nil]

theorem extract_host_url (scheme host tail : Bytes)
    (hs : scheme.all (fun c => c != ch '/') = true)
    (hh : host.all (fun c => !isStop c) = true)
    (ht : tail = [] ∨ ∃ c r, tail = c :: r ∧ isStop c = true) :
    extractHostname (scheme ++ lit "://" ++ host ++ tail) = .ok host := by
  obtain ⟨hurl, hdrop⟩ := url_parts scheme host tail
  have hpre : (scheme ++ [ch ':']).all (fun c => c != ch '/') = true := by
    rw [List.all_append, hs]
    decide
  have hfirst : extractFirst (scheme ++ lit "://" ++ host ++ tail) = some (scheme.length + 3) := by
    have h2 : lit "//" = [ch '/', ch '/'] := by decide
    have : scheme ++ [ch ':', ch '/', ch '/'] ++ (host ++ tail) =
        scheme ++ [ch ':'] ++ [ch '/', ch '/'] ++ (host ++ tail) := by simp
    rw [hurl, this, extractFirst, indexOf, h2, indexOf_go_append_hit _ _ _ _ _ hpre]
    simp
  rw [extractHostname_eq, hfirst]
  simp only
  rw [hdrop, takeWhile_host host tail hh ht]

end UF.H
