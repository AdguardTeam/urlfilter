import UF.Proofs.ProgCached
/-
  C19, "rules retrieved before the fault are still returned": the object stored under a cache key is never
  replaced (`cachePut` keeps an existing object, D15) and never dropped -- by any action of any thread, hence
  across queries, histories with `close` events anywhere, and schedules of concurrent threads.  With
  `runQuery_cached(_host)`: a rule found in the cache at ANY point of a history is returned by EVERY later query
  for which its index is a candidate and which it matches.
-/
namespace UF.Prog
variable {R Re : Type}

/-- A cached object is not replaced or dropped by a whole query run (`Step.lookup` along the run). -/
theorem runQuery_lookup (env : Env R Re) (s : State R Re) (q : Query) {idx : Idx} {r : R}
    (h : cacheLookup s.cache idx = some r) : cacheLookup (runQuery env s q).1.cache idx = some r :=
  runQuery_inv env (fun s' _ => cacheLookup s'.cache idx = some r) (fun _ _ _ _ h' hp => h'.lookup hp) s q h

theorem runHistoryT_append (env : Env R Re) (h1 h2 : List HEv) : ∀ (s : State R Re),
    runHistoryT env s (h1 ++ h2) =
      ((runHistoryT env (runHistoryT env s h1).1 h2).1,
        (runHistoryT env s h1).2 ++ (runHistoryT env (runHistoryT env s h1).1 h2).2) := by
  induction h1 with
  | nil => intro s; rfl
  | cons e rest ih =>
    intro s
    cases e with
    | query q => simp only [List.cons_append, runHistoryT, ih, List.cons_append]
    | close l => simp only [List.cons_append, runHistoryT, ih]

/-- … nor by any history of queries and `close` events. -/
theorem runHistoryT_lookup (env : Env R Re) (h : List HEv) (s : State R Re) {idx : Idx} {r : R}
    (hl : cacheLookup s.cache idx = some r) : cacheLookup (runHistoryT env s h).1.cache idx = some r :=
  (runHistoryT_forall env (fun s => cacheLookup s.cache idx = some r) (fun _ => True) (fun _ _ h => h)
    (fun s q h => ⟨runQuery_lookup env s q h, trivial⟩) h s hl).1

/-- The shared invariant survives any history (queries and `close` events). -/
theorem runHistoryT_sinv (env : Env R Re) (h : List HEv) (s : State R Re) (hs : SInv env s) :
    SInv env (runHistoryT env s h).1 :=
  (runHistoryT_forall env (SInv env) (fun _ => True) (fun _ _ h => h)
    (fun _ q h => ⟨(runQuery_good q h).1, trivial⟩) h s hs).1

/-- Every thread of a history is the solo run of its query from the state the history before it left. -/
theorem runHistoryT_threads (env : Env R Re) (P : State R Re → Thread R → Prop)
    (hq : ∀ s q, SInv env s → P s (runQuery env s q).2) (h : List HEv) :
    ∀ (s : State R Re), SInv env s → ∀ t ∈ (runHistoryT env s h).2,
      ∃ h1 q h2, h = h1 ++ HEv.query q :: h2 ∧ t = (runQuery env (runHistoryT env s h1).1 q).2 ∧
        P (runHistoryT env s h1).1 t := by
  induction h with
  | nil => intro s _ t ht; cases ht
  | cons e rest ih =>
    intro s hs t ht
    cases e with
    | query q =>
      simp only [runHistoryT, List.mem_cons] at ht
      rcases ht with rfl | ht
      · exact ⟨[], q, rest, rfl, rfl, hq s q hs⟩
      · obtain ⟨h1, q', h2, e1, e2, e3⟩ := ih _ (runQuery_good q hs).1 t ht
        refine ⟨HEv.query q :: h1, q', h2, by rw [e1]; rfl, ?_, ?_⟩
        · simpa only [runHistoryT] using e2
        · simpa only [runHistoryT] using e3
    | close l =>
      simp only [runHistoryT] at ht
      obtain ⟨h1, q', h2, e1, e2, e3⟩ := ih { s with closed := l :: s.closed } hs t ht
      refine ⟨HEv.close l :: h1, q', h2, by rw [e1]; rfl, ?_, ?_⟩
      · simpa only [runHistoryT] using e2
      · simpa only [runHistoryT] using e3

/-- A rule found in the cache at some point of a history is returned by every LATER query of which its index
    is a network-table candidate and which it matches -- whatever `close` events come in between. -/
theorem history_cached {env : Env R Re} (h : List HEv) {s : State R Re} {idx : Idx} {r : R} (hs : SInv env s)
    (hl : cacheLookup s.cache idx = some r) :
    ∀ t ∈ (runHistoryT env s h).2, t.q.trivial = false → ∀ b : Bool,
      (b, idx) ∈ env.cands (env.reqOf t.q) → env.wants (if b then .sc else .dom) r = true →
      env.mtch r (env.reqOf t.q) = true → r ∈ t.answer.1 :=
  (runHistoryT_forall env (fun s => SInv env s ∧ cacheLookup s.cache idx = some r) _ (fun _ _ h => h)
    (fun s q hI => ⟨⟨(runQuery_good q hI.1).1, runQuery_lookup env s q hI.2⟩, fun hq b hc hw hm => by
      rw [runQuery_q] at hq hc hm
      exact runQuery_cached q hI.1 hq (cacheLookup_mem hI.2) hc hw hm⟩) h s ⟨hs, hl⟩).2

/-- The same for the hosts table of the DNS engine (second stage of `MatchRequest`): a cached host rule of the
    bucket is returned by every later DNS query whose (possibly degraded) network rules leave the decision to
    the hosts table. -/
theorem history_cached_host {env : Env R Re} (h : List HEv) {s : State R Re} {idx : Idx} {r : R} (hs : SInv env s)
    (hl : cacheLookup s.cache idx = some r) :
    ∀ t ∈ (runHistoryT env s h).2, ∀ d : DReq, t.q = .dns d → d.hostname.isEmpty = false →
      idx ∈ env.hcands (env.reqOf t.q) → env.wants .host r = true → env.pre r (env.reqOf t.q) = true →
      env.basic t.answer.1 = false → r ∈ t.answer.2 :=
  (runHistoryT_forall env (fun s => SInv env s ∧ cacheLookup s.cache idx = some r) _ (fun _ _ h => h)
    (fun s q hI => ⟨⟨(runQuery_good q hI.1).1, runQuery_lookup env s q hI.2⟩, fun d hq hd hc hw hm hb => by
      rw [runQuery_q] at hq
      subst hq
      rw [runQuery_q] at hc hm
      exact runQuery_cached_host d hI.1 hd (cacheLookup_mem hI.2) hc hw hm hb⟩) h s ⟨hs, hl⟩).2

/-- One event of a schedule (an action of some thread, or a `close`) keeps every cache entry. -/
theorem exec_lookup (env : Env R Re) (c : Config R Re) (e : Ev) {idx : Idx} {r : R}
    (h : cacheLookup c.state.cache idx = some r) : cacheLookup (c.exec env e).state.cache idx = some r := by
  cases e with
  | run tid =>
    simp only [Config.exec, Config.execG]
    cases c.threads[tid]? with
    | none => exact h
    | some t => exact (step_spec env c.state t).lookup h
  | close l => exact h

/-- A cache entry survives every schedule of concurrent threads and `close` events. -/
theorem run_lookup (env : Env R Re) (sched : List Ev) : ∀ (c : Config R Re) {idx : Idx} {r : R},
    cacheLookup c.state.cache idx = some r → cacheLookup (c.run env sched).state.cache idx = some r := by
  induction sched with
  | nil => intro c idx r h; exact h
  | cons e rest ih => intro c idx r h; exact ih _ (exec_lookup env c e h)

theorem run_append (env : Env R Re) (c : Config R Re) (s1 s2 : List Ev) :
    c.run env (s1 ++ s2) = (c.run env s1).run env s2 := by
  simp [Config.run, List.foldl_append]

end UF.Prog
