import UF.Model.ParseOptions
import UF.Proofs.MergeSorted
/-
  The option loop of `NewNetworkRule`, prepared for proofs.

  `loadOption` is a `switch` with 25 cases of option names and a default for the content types, but
  its cases do only eleven different things (`OptionKind`).  `loadOption_eq` walks the chain of name
  tests once; every statement about the loop is then a case distinction over the eleven kinds.  `LoopInv` says what a property of rule records
  has to survive to be an invariant of the loop: one field per write, each with what is known about
  the value written.
-/
namespace UF.E
open Bytes

/-- A property of both branches, each under the outcome of the test, is a property of the `if`. -/
theorem ite_pred {α} (P : α → Prop) {c : Prop} [Decidable c] {a b : α} (ha : c → P a)
    (hb : ¬ c → P b) : P (if c then a else b) := by
  split
  · exact ha ‹_›
  · exact hb ‹_›

theorem ite_ok_elim {α} {c : Prop} [Decidable c] {a b : PE α} {v : α} {P : Prop}
    (h : (if c then a else b) = .ok v) (h1 : a = .ok v → P) (h2 : b = .ok v → P) : P :=
  ite_pred (fun x : PE α => x = .ok v → P) (fun _ => h1) (fun _ => h2) h

/-- `ite_ok_elim` with the outcome of the test. -/
theorem ite_ok_elim_c {α} {c : Prop} [Decidable c] {a b : PE α} {v : α} {P : Prop}
    (h : (if c then a else b) = .ok v) (h1 : c → a = .ok v → P) (h2 : ¬c → b = .ok v → P) : P :=
  ite_pred (fun x : PE α => x = .ok v → P) h1 h2 h

theorem bind_ok_elim {α β} {x : PE α} {f : α → PE β} {v : β} (h : (x >>= f) = .ok v) :
    ∃ a, x = .ok a ∧ f a = .ok v := by
  cases x with
  | error e => cases h
  | ok a => exact ⟨a, rfl, h⟩

theorem pure_ok_elim {α} {a v : α} (h : (pure a : PE α) = .ok v) : a = v := by
  cases h; rfl

theorem foldlM_inv {α β} (P : β → Prop) (f : β → α → PE β)
    (hf : ∀ b a b', P b → f b a = .ok b' → P b') :
    ∀ (l : List α) (b b' : β), P b → l.foldlM f b = .ok b' → P b' := by
  intro l
  induction l with
  | nil =>
    intro b b' hb h
    cases pure_ok_elim h
    exact hb
  | cons a l ih =>
    intro b b' hb h
    rw [List.foldlM_cons] at h
    obtain ⟨b1, hx, h⟩ := bind_ok_elim h
    exact ih b1 b' (hf b a b1 hb hx) h

/-- What a case of the `switch` in `loadOption` does. -/
inductive OptionKind where
  /-- `setOptionEnabled(opt, enabled)` -/
  | flag (opt : Nat) (enabled : Bool)
  | dnstype
  | dnsrewrite
  | domain
  | denyallow
  | ctag
  | client
  /-- `~extension` clears the bit without the whitelist check -/
  | noExtension
  | document
  /-- a content type, permitted or (`~name`) restricted -/
  | reqType (t : Nat) (permitted : Bool)
  | unknown
  deriving DecidableEq

/-- The default case of the `switch`: `name` or `~name` for a content type `name`. -/
def contentKind (name : Bytes) : OptionKind :=
  match contentTypeOf name with
  | some t => .reqType t true
  | none =>
    if hasPrefix name (lit "~") then
      match contentTypeOf (name.drop 1) with
      | some t => .reqType t false
      | none => .unknown
    else .unknown

def optionKind (name : Bytes) : OptionKind :=
  if name == lit "third-party" || name == lit "~first-party" then .flag Facts.OptionThirdParty true
  else if name == lit "~third-party" || name == lit "first-party" then .flag Facts.OptionThirdParty false
  else if name == lit "match-case" then .flag Facts.OptionMatchCase true
  else if name == lit "~match-case" then .flag Facts.OptionMatchCase false
  else if name == lit "important" then .flag Facts.OptionImportant true
  else if name == lit "badfilter" then .flag Facts.OptionBadfilter true
  else if name == lit "dnstype" then .dnstype
  else if name == lit "dnsrewrite" then .dnsrewrite
  else if name == lit "domain" then .domain
  else if name == lit "denyallow" then .denyallow
  else if name == lit "ctag" then .ctag
  else if name == lit "client" then .client
  else if name == lit "elemhide" then .flag Facts.OptionElemhide true
  else if name == lit "generichide" then .flag Facts.OptionGenerichide true
  else if name == lit "genericblock" then .flag Facts.OptionGenericblock true
  else if name == lit "jsinject" then .flag Facts.OptionJsinject true
  else if name == lit "urlblock" then .flag Facts.OptionUrlblock true
  else if name == lit "content" then .flag Facts.OptionContent true
  else if name == lit "extension" then .flag Facts.OptionExtension true
  else if name == lit "~extension" then .noExtension
  else if name == lit "document" then .document
  else if name == lit "stealth" then .flag Facts.OptionStealth true
  else if name == lit "popup" then .flag Facts.OptionPopup true
  else if name == lit "empty" then .flag Facts.OptionEmpty true
  else if name == lit "mp4" then .flag Facts.OptionMp4 true
  else contentKind name

/-- The body of the case, copied from `loadOption`. -/
def OptionKind.run (px : ParseExt) (r : NetRule) (value : Bytes) : OptionKind → PE NetRule
  | .flag opt enabled => setOptionEnabled r opt enabled
  | .dnstype => do
    let (p, rs) ← loadDNSTypes value
    pure { r with permDns := p, restrDns := rs }
  | .dnsrewrite =>
    match px.loadDNSRewrite value with
    | some rw => pure { r with rewrite := some rw }
    | none => throw .err
  | .domain => do
    let (p, rs) ← loadDomains value (ch '|')
    pure { r with permDomains := p, restrDomains := rs }
  | .denyallow => do
    let (p, rs) ← loadDomains value (ch '|')
    if rs.length > 0 || p.length == 0 then throw .err
    else pure { r with denyallow := p }
  | .ctag => do
    let (p, rs) ← loadCTags value
    pure { r with permTags := p, restrTags := rs }
  | .client => do
    let (p, rs) ← loadClients px.ext value
    pure { r with permClients := p, restrClients := rs }
  | .noExtension => pure { r with enabled := r.enabled ^^^ Facts.OptionExtension }
  | .document => do
    let r ← setOptionEnabled r Facts.OptionElemhide true
    pure (setIgnoringError (setIgnoringError (setIgnoringError (setIgnoringError r
      Facts.OptionJsinject) Facts.OptionUrlblock) Facts.OptionContent) Facts.OptionExtension)
  | .reqType t permitted => pure (setRequestType r t permitted)
  | .unknown => throw .err

theorem ite_run {px : ParseExt} {r : NetRule} {value : Bytes} {c : Prop} [Decidable c]
    {x y : PE NetRule} {k k' : OptionKind}
    (hx : x = k.run px r value) (hy : y = k'.run px r value) :
    (if c then x else y) = (if c then k else k').run px r value := by
  split
  · exact hx
  · exact hy

/-- `loadOption` classifies the name and runs the case. -/
theorem loadOption_eq (px : ParseExt) (r : NetRule) (name value : Bytes) :
    loadOption px r name value = (optionKind name).run px r value := by
  unfold loadOption optionKind
  -- each of the 25 name tests: the branch is the body of its kind by definition
  iterate 25 refine ite_run (by rfl) ?_
  unfold contentKind
  cases contentTypeOf name with
  | some t => rfl
  | none =>
    dsimp only
    split
    · cases contentTypeOf (name.drop 1) <;> rfl
    · rfl

/-- Option bits written from rule text are below `OptionCsp` (2^15), content types are among the
    twelve `RequestType` bits. -/
def OptionKind.Valid : OptionKind → Prop
  | .flag opt _ => opt < 2 ^ 15
  | .reqType t _ => t < 2 ^ 12
  | _ => True

instance (k : OptionKind) : Decidable k.Valid := by
  cases k <;> unfold OptionKind.Valid <;> infer_instance

theorem ite_some_elim {α} {c : Prop} [Decidable c] {a b : Option α} {v : α} {P : Prop}
    (h : (if c then a else b) = some v) (h1 : a = some v → P) (h2 : b = some v → P) : P :=
  ite_pred (fun x : Option α => x = some v → P) (fun _ => h1) (fun _ => h2) h

theorem contentTypeOf_lt {name : Bytes} {ty : Nat} (h : contentTypeOf name = some ty) : ty < 2 ^ 12 := by
  unfold contentTypeOf at h
  iterate 11 (refine ite_some_elim h (fun e => by cases e; decide) ?_; clear h; intro h)
  cases h

theorem contentKind_valid (name : Bytes) : (contentKind name).Valid := by
  unfold contentKind
  split
  · exact contentTypeOf_lt ‹_›
  · split
    · split
      · exact contentTypeOf_lt ‹_›
      · trivial
    · trivial

theorem optionKind_valid (name : Bytes) : (optionKind name).Valid := by
  unfold optionKind
  iterate 25 refine ite_pred OptionKind.Valid (fun _ => by decide) fun _ => ?_
  exact contentKind_valid name

/-- `P` survives every write the option loop makes to the rule record. -/
structure LoopInv (px : ParseExt) (P : NetRule → Prop) : Prop where
  enable : ∀ r opt, opt < 2 ^ 15 → P r → P { r with enabled := r.enabled ||| opt }
  disable : ∀ r opt, opt < 2 ^ 15 → P r → P { r with disabled := r.disabled ||| opt }
  noExtension : ∀ r, P r → P { r with enabled := r.enabled ^^^ Facts.OptionExtension }
  permType : ∀ r t, t < 2 ^ 12 → P r → P { r with permTypes := r.permTypes ||| t }
  restrType : ∀ r t, t < 2 ^ 12 → P r → P { r with restrTypes := r.restrTypes ||| t }
  /-- the override after a document-level option -/
  documentOnly : ∀ r, P r → P { r with permTypes := Facts.TypeDocument }
  dns : ∀ r p rs, P r → P { r with permDns := p, restrDns := rs }
  domains : ∀ r v p rs, loadDomains v (ch '|') = .ok (p, rs) → P r →
    P { r with permDomains := p, restrDomains := rs }
  denyallow : ∀ r p, P r → P { r with denyallow := p }
  tags : ∀ r p rs, SortedB p → SortedB rs → P r → P { r with permTags := p, restrTags := rs }
  clients : ∀ r p rs, (∀ c, p = some c → SortedB c.hosts) → (∀ c, rs = some c → SortedB c.hosts) →
    P r → P { r with permClients := p, restrClients := rs }
  rewrite : ∀ r v rw, px.loadDNSRewrite v = some rw → P r → P { r with rewrite := some rw }

theorem loadCTags_sorted {v : Bytes} {p rs : List Bytes} (h : loadCTags v = .ok (p, rs)) :
    SortedB p ∧ SortedB rs := by
  unfold loadCTags at h
  refine ite_ok_elim h (fun h => nomatch h) fun h => ?_
  obtain ⟨⟨a, b⟩, _, h⟩ := bind_ok_elim h
  cases pure_ok_elim h
  exact ⟨sortB_sorted _, sortB_sorted _⟩

theorem finalize_sorted (c : Option Clients) : ∀ c', Clients.finalize c = some c' → SortedB c'.hosts := by
  intro c' h
  cases c with
  | none => cases h
  | some c0 =>
    cases h
    exact sortB_sorted _

theorem loadClients_sorted {ext : Ext} {v : Bytes} {p rs : Option Clients}
    (h : loadClients ext v = .ok (p, rs)) :
    (∀ c, p = some c → SortedB c.hosts) ∧ (∀ c, rs = some c → SortedB c.hosts) := by
  unfold loadClients at h
  refine ite_ok_elim h (fun h => nomatch h) fun h => ?_
  obtain ⟨list, _, h⟩ := bind_ok_elim h
  obtain ⟨⟨a, b⟩, _, h⟩ := bind_ok_elim h
  cases pure_ok_elim h
  exact ⟨finalize_sorted _, finalize_sorted _⟩

section
variable {px : ParseExt} {P : NetRule → Prop} (hP : LoopInv px P)
include hP

theorem setOptionEnabled_loopInv {r r' : NetRule} {opt : Nat} {en : Bool} (ho : opt < 2 ^ 15)
    (hr : P r) (h : setOptionEnabled r opt en = .ok r') : P r' := by
  unfold setOptionEnabled at h
  refine ite_ok_elim h (fun h => nomatch h) fun h => ?_
  refine ite_ok_elim h (fun h => nomatch h) fun h => ?_
  refine ite_ok_elim h (fun h => ?_) fun h => ?_
  · cases pure_ok_elim h
    exact hP.enable r opt ho hr
  · cases pure_ok_elim h
    exact hP.disable r opt ho hr

theorem setIgnoringError_loopInv {r : NetRule} {opt : Nat} (ho : opt < 2 ^ 15) (hr : P r) :
    P (setIgnoringError r opt) := by
  unfold setIgnoringError
  split
  · exact setOptionEnabled_loopInv hP ho hr ‹_›
  · exact hr

theorem OptionKind.run_loopInv {k : OptionKind} (hk : k.Valid) {r r' : NetRule} {value : Bytes}
    (hr : P r) (h : k.run px r value = .ok r') : P r' := by
  cases k with
  | flag opt en => exact setOptionEnabled_loopInv hP hk hr h
  | dnstype =>
    obtain ⟨⟨p, rs⟩, _, h⟩ := bind_ok_elim h
    cases pure_ok_elim h
    exact hP.dns r p rs hr
  | dnsrewrite =>
    cases hv : px.loadDNSRewrite value with
    | none => rw [OptionKind.run, hv] at h; cases h
    | some rw =>
      rw [OptionKind.run, hv] at h
      cases pure_ok_elim h
      exact hP.rewrite r value rw hv hr
  | domain =>
    obtain ⟨⟨p, rs⟩, hx, h⟩ := bind_ok_elim h
    cases pure_ok_elim h
    exact hP.domains r value p rs hx hr
  | denyallow =>
    obtain ⟨⟨p, rs⟩, _, h⟩ := bind_ok_elim h
    refine ite_ok_elim h (fun h => nomatch h) fun h => ?_
    cases pure_ok_elim h
    exact hP.denyallow r p hr
  | ctag =>
    obtain ⟨⟨p, rs⟩, hx, h⟩ := bind_ok_elim h
    cases pure_ok_elim h
    exact hP.tags r p rs (loadCTags_sorted hx).1 (loadCTags_sorted hx).2 hr
  | client =>
    obtain ⟨⟨p, rs⟩, hx, h⟩ := bind_ok_elim h
    cases pure_ok_elim h
    exact hP.clients r p rs (loadClients_sorted hx).1 (loadClients_sorted hx).2 hr
  | noExtension =>
    cases pure_ok_elim h
    exact hP.noExtension r hr
  | document =>
    obtain ⟨r1, hx, h⟩ := bind_ok_elim h
    cases pure_ok_elim h
    exact setIgnoringError_loopInv hP (by decide) (setIgnoringError_loopInv hP (by decide)
      (setIgnoringError_loopInv hP (by decide) (setIgnoringError_loopInv hP (by decide)
        (setOptionEnabled_loopInv hP (by decide) hr hx))))
  | reqType t permitted =>
    cases pure_ok_elim h
    unfold setRequestType
    split
    · exact hP.permType r t hk hr
    · exact hP.restrType r t hk hr
  | unknown => cases h

theorem loadOption_loopInv {r r' : NetRule} {name value : Bytes} (hr : P r)
    (h : loadOption px r name value = .ok r') : P r' :=
  OptionKind.run_loopInv hP (optionKind_valid name) hr (loadOption_eq px r name value ▸ h)

omit hP in
/-- One element of the option list is one call of `loadOption`. -/
theorem loadOptionsStep_ok_elim {r r' : NetRule} {o : Bytes} (h : loadOptionsStep px r o = .ok r') :
    ∃ name value, loadOption px r name value = .ok r' := by
  unfold loadOptionsStep at h
  split at h
  · refine ite_ok_elim h (fun h => ?_) fun h => ⟨_, _, h⟩
    obtain ⟨name, _, h⟩ := bind_ok_elim h
    obtain ⟨value, _, h⟩ := bind_ok_elim h
    exact ⟨name, value, h⟩
  · exact ⟨_, _, h⟩

theorem loadOptions_loopInv {r r' : NetRule} {opts : Bytes} (hr : P r)
    (h : loadOptions px r opts = .ok r') : P r' := by
  unfold loadOptions at h
  refine ite_ok_elim h (fun h => ?_) fun h => ?_
  · cases pure_ok_elim h
    exact hr
  · obtain ⟨parts, _, h⟩ := bind_ok_elim h
    obtain ⟨r1, hf, h⟩ := bind_ok_elim h
    have hr1 : P r1 := by
      refine foldlM_inv P (loadOptionsStep px) (fun b o b' hb hs => ?_) parts r r1 hr hf
      obtain ⟨name, value, hs⟩ := loadOptionsStep_ok_elim hs
      exact loadOption_loopInv hP hb hs
    refine ite_ok_elim h (fun h => ?_) fun h => ?_
    · cases pure_ok_elim h
      exact hP.documentOnly r1 hr1
    · cases pure_ok_elim h
      exact hr1

end

end UF.E
