import UF.Proofs.TrimSpace
/-
  `strings.TrimSpace` is idempotent (so the text of a rule, which is a trimmed line, is a fixed
  point -- the parser assumption `TrimsFirst` is satisfiable by parsers that look at the text).
-/
namespace UF

section
variable {u2 : UInt8 → UInt8 → Bool} {u3 : UInt8 → UInt8 → UInt8 → Bool}

/-- The scan drops a prefix and stops at a string it leaves alone. -/
theorem trimU_shape (s : Bytes) :
    (∃ p, s = p ++ trimU u2 u3 s) ∧ trimU u2 u3 (trimU u2 u3 s) = trimU u2 u3 s := by
  induction s using trimU.induct u2 u3 with
  | case1 => exact ⟨⟨[], rfl⟩, rfl⟩
  | case2 c r hc ih =>
    obtain ⟨⟨p, hp⟩, hi⟩ := ih
    rw [trimU_sp hc]; exact ⟨⟨c :: p, congrArg (c :: ·) hp⟩, hi⟩
  | case3 c hc =>
    have e := trimU_one (u2 := u2) (u3 := u3) (c := c) (by simpa using hc)
    rw [e]; exact ⟨⟨[], rfl⟩, e⟩
  | case4 c hc d r2 hu ih =>
    obtain ⟨⟨p, hp⟩, hi⟩ := ih
    rw [trimU_uni2 (by simpa using hc) hu]; exact ⟨⟨c :: d :: p, congrArg (c :: d :: ·) hp⟩, hi⟩
  | case5 c hc d hu =>
    have e := trimU_two (u3 := u3) (c := c) (d := d) (by simpa using hc) (by simpa using hu)
    rw [e]; exact ⟨⟨[], rfl⟩, e⟩
  | case6 c hc d hu e r3 h3 ih =>
    obtain ⟨⟨p, hp⟩, hi⟩ := ih
    rw [trimU_uni3 (by simpa using hc) (by simpa using hu) h3]
    exact ⟨⟨c :: d :: e :: p, congrArg (c :: d :: e :: ·) hp⟩, hi⟩
  | case7 c hc d hu e r3 h3 =>
    have e := trimU_three (c := c) (d := d) (e := e) (by simpa using hc) (by simpa using hu) (by simpa using h3) r3
    rw [e]; exact ⟨⟨[], rfl⟩, e⟩

theorem trimU_length_le (s : Bytes) : (trimU u2 u3 s).length ≤ s.length := by
  obtain ⟨p, hp⟩ := (trimU_shape (u2 := u2) (u3 := u3) s).1
  have := congrArg List.length hp
  rw [List.length_append] at this
  omega


/-- A prefix of a string the scan leaves alone is left alone. -/
theorem trimU_fix_prefix (y p : Bytes) (h : trimU u2 u3 (y ++ p) = y ++ p) : trimU u2 u3 y = y := by
  have hlen := fun s => trimU_length_le (u2 := u2) (u3 := u3) s
  match y with
  | [] => rfl
  | c :: r =>
    have hc : asciiSp c = false := by
      cases hc : asciiSp c with
      | false => rfl
      | true =>
        rw [List.cons_append, trimU_sp hc] at h
        have := hlen (r ++ p); rw [h] at this; simp only [List.length_cons, List.length_append] at this; omega
    match r with
    | [] => exact trimU_one hc
    | d :: r2 =>
      have hu : u2 c d = false := by
        cases hu : u2 c d with
        | false => rfl
        | true =>
          simp only [List.cons_append] at h
          rw [trimU_uni2 hc hu] at h
          have := hlen (r2 ++ p); rw [h] at this; simp only [List.length_cons, List.length_append] at this; omega
      match r2 with
      | [] => exact trimU_two hc hu
      | e :: r3 =>
        have h3 : u3 c d e = false := by
          cases h3 : u3 c d e with
          | false => rfl
          | true =>
            simp only [List.cons_append] at h
            rw [trimU_uni3 hc hu h3] at h
            have := hlen (r3 ++ p); rw [h] at this; simp only [List.length_cons, List.length_append] at this; omega
        exact trimU_three hc hu h3 r3

end

theorem trimRightU_prefix (x : Bytes) : ∃ p, x = trimRightU x ++ p := by
  obtain ⟨p, hp⟩ := (trimU_shape (u2 := fun c d => uni2 d c) (u3 := fun c d e => uni3 e d c) x.reverse).1
  refine ⟨p.reverse, ?_⟩
  have := congrArg List.reverse hp
  simpa [trimRightU, trimRevU_eq] using this

theorem trimSpaceRef_idem (s : Bytes) : trimSpaceRef (trimSpaceRef s) = trimSpaceRef s := by
  unfold trimSpaceRef
  obtain ⟨p, hp⟩ := trimRightU_prefix (trimLeftU s)
  have h1 : trimLeftU (trimRightU (trimLeftU s)) = trimRightU (trimLeftU s) := by
    rw [trimLeftU_eq (trimRightU _)]
    apply trimU_fix_prefix _ p
    rw [← hp, trimLeftU_eq, (trimU_shape s).2]
  rw [h1]
  unfold trimRightU
  rw [List.reverse_reverse, trimRevU_eq, trimRevU_eq, (trimU_shape _).2]

/-- `strings.TrimSpace(strings.TrimSpace(s)) == strings.TrimSpace(s)`. -/
theorem trimSpace_idem (s : Bytes) : trimSpace (trimSpace s) = trimSpace s := by
  rw [trimSpace_eq_ref, trimSpace_eq_ref, trimSpaceRef_idem]

end UF
