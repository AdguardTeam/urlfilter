import UF.Model.RegexParse
/-
  Facts about the model of Go's `factor` quirk (UF/Model/RegexQuirk.lean): what `goTree` can answer.
-/
namespace UF.Re

theorem hazard_mkCat : ∀ l : List Re, (mkCat l).hazard = l.any hazard
  | [] => rfl
  | [a] => by simp [mkCat]
  | a :: b :: rest => by
    have hc : (Re.cat a (mkCat (b :: rest))).hazard = (a.hazard || (mkCat (b :: rest)).hazard) := by
      simp only [hazard, hasTwoCase, hasCaseAlt]; ac_rfl
    simp only [mkCat, hc, hazard_mkCat (b :: rest), List.any_cons]

theorem goTree_of_not_hazard (p : Bytes) (r : Re) (h : r.hazard = false) : goTree p r = some r := by
  simp [goTree, h]

theorem goTree_cases {p : Bytes} {t c : Re} (h : goTree p t = some c) : c = t ∨ ∃ m, c = applyFlags m t 0 := by
  unfold goTree at h
  split at h
  · exact .inl (Option.some.inj h).symm
  · split at h
    · cases h
    · simp only [quirkTree, Option.map_eq_some_iff] at h
      obtain ⟨out, _, rfl⟩ := h
      exact .inr ⟨out.1, rfl⟩

/-- Go's tree of `[aA]b|A.` (the replay of `parser.factor` is dear to evaluate: done here once, for the
    test vector that shows the tree and the one that searches it). -/
theorem parseRE_quirk_vector : parseRE (UF.lit "[aA]b|A.") =
    some (.alt (.cat (.cls false [(97, 97), (65, 65)] false) (.lit [98] false)) (.cat (.lit [65] true) .any)) := by
  decide +kernel

end UF.Re
