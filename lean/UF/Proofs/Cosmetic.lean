import UF.Proofs.EngineMatch
import UF.Spec.Cosmetic
/-
  Lemmas for C15: the probes of `findByHostname`, the contents of the built lookup table,
  the candidate loop `add`.
-/
namespace UF.B
open UF UF.Bytes

/-- A non-empty name `d` is probed whenever the hostname is `d` or ends in `"." ++ d`. -/
theorem mem_probes (host d : Bytes) (hd : d ≠ []) (h : host = d ∨ ∃ x, host = x ++ ch '.' :: d) :
    d ∈ probes host := by
  have aux : ∀ x : Bytes, d ∈ probesAux (x ++ ch '.' :: d) := by
    intro x
    induction x with
    | nil => simp [probesAux, hd]
    | cons c x ih =>
      simp only [List.cons_append, probesAux]
      split
      · simp [ih]
      · exact ih
  rcases h with rfl | ⟨x, rfl⟩
  · simp [probes, hd]
  · simp [probes, aux x]

@[simp] theorem sget_sset {α} (d : α) (m : SMap α) (k : Bytes) (v : α) (x : Bytes) :
    sget d (sset m k v) x = if x = k then v else sget d m x := rfl

theorem mem_sset_push {β} (m : SMap (List β)) (k : Bytes) (v y : β) (x : Bytes) :
    y ∈ sget [] (sset m k (sget [] m k ++ [v])) x ↔ y ∈ sget [] m x ∨ (y = v ∧ x = k) := by
  rw [sget_sset]
  by_cases h : x = k
  · subst h; simp
  · simp [h]

theorem mem_foldl_sset {β} (c : β) (ds : List Bytes) (m : SMap (List β)) (y : β) (x : Bytes) :
    y ∈ sget [] (ds.foldl (fun m d => sset m d (sget [] m d ++ [c])) m) x ↔
      y ∈ sget [] m x ∨ (x ∈ ds ∧ y = c) := by
  rw [mem_foldl_iff (proj := fun m => sget [] m x) (fun m d y => mem_sset_push m d c y x)]
  simp

def hasWild (r : CosRule) : Bool := r.permDomains.any (fun d => Bytes.hasSuffix d (lit ".*"))

theorem mem_ite_concat {β} (c : Prop) [Decidable c] (l : List β) (a x : β) :
    x ∈ (if c then l ++ [a] else l) ↔ x ∈ l ∨ (c ∧ x = a) := by
  split <;> simp [*]

theorem CosTable.addRule_eq (t : CosTable) (n : Nat) (r : CosRule) :
    t.addRule n r =
      { whitelist := if r.whitelist = true then
          sset t.whitelist r.content (sget [] t.whitelist r.content ++ [r]) else t.whitelist
        generic := if r.whitelist = false ∧ cosIsGeneric r = true then t.generic ++ [r] else t.generic
        wildcard := if r.whitelist = false ∧ cosIsGeneric r = false ∧ hasWild r = true then
          t.wildcard ++ [(n, r)] else t.wildcard
        byHostname := if r.whitelist = false ∧ cosIsGeneric r = false ∧ hasWild r = false then
          r.permDomains.foldl (fun m d => sset m d (sget [] m d ++ [(n, r)])) t.byHostname
          else t.byHostname } := by
  unfold CosTable.addRule hasWild
  cases r.whitelist <;> cases cosIsGeneric r <;> cases r.permDomains.any _ <;> rfl

theorem mem_build {β} {proj : CosTable → List β} {φ : CosRule × Nat → β → Prop} (h0 : proj {} = [])
    (h : ∀ t p x, x ∈ proj (t.addRule p.2 p.1) ↔ x ∈ proj t ∨ φ p x) (L : List CosRule) (x : β) :
    x ∈ proj (CosTable.build L) ↔ ∃ p ∈ L.zipIdx, φ p x := by
  unfold CosTable.build
  rw [mem_foldl_iff h, h0]
  simp

theorem zipIdx_unique (L : List CosRule) (r r' : CosRule) (n : Nat)
    (h : (r, n) ∈ L.zipIdx) (h' : (r', n) ∈ L.zipIdx) : r = r' := by
  rw [List.mem_zipIdx_iff_getElem?] at h h'
  simp only at h h'
  rw [h] at h'; cases h'; rfl

theorem zipIdx_mem (L : List CosRule) (r : CosRule) : (∃ n, (r, n) ∈ L.zipIdx) ↔ r ∈ L := by
  constructor
  · rintro ⟨n, h⟩
    rw [List.mem_zipIdx_iff_getElem?] at h
    exact List.mem_of_getElem? h
  · intro h
    obtain ⟨n, hn⟩ := List.getElem?_of_mem h
    exact ⟨n, by rw [List.mem_zipIdx_iff_getElem?]; simpa using hn⟩

theorem mem_whitelist_build (L : List CosRule) (c : Bytes) (r : CosRule) :
    r ∈ sget [] (CosTable.build L).whitelist c ↔ r ∈ L ∧ r.whitelist = true ∧ r.content = c := by
  rw [mem_build (proj := fun t => sget [] t.whitelist c)
    (φ := fun p x => p.1.whitelist = true ∧ x = p.1 ∧ c = p.1.content) rfl, ← zipIdx_mem]
  · constructor
    · rintro ⟨⟨r', n⟩, hp, hw, rfl, hc⟩; exact ⟨⟨n, hp⟩, hw, hc.symm⟩
    · rintro ⟨⟨n, hp⟩, hw, hc⟩; exact ⟨(r, n), hp, hw, rfl, hc.symm⟩
  · intro t p x
    rw [CosTable.addRule_eq]
    show x ∈ sget [] (if _ then _ else _) c ↔ _
    split
    · rw [mem_sset_push]; simp [*]
    · simp [*]

theorem mem_generic_build (L : List CosRule) (r : CosRule) :
    r ∈ (CosTable.build L).generic ↔ r ∈ L ∧ r.whitelist = false ∧ cosIsGeneric r = true := by
  rw [mem_build (proj := (·.generic))
    (φ := fun p x => (p.1.whitelist = false ∧ cosIsGeneric p.1 = true) ∧ x = p.1) rfl, ← zipIdx_mem]
  · constructor
    · rintro ⟨⟨r', n⟩, hp, hc, rfl⟩; exact ⟨⟨n, hp⟩, hc⟩
    · rintro ⟨⟨n, hp⟩, hc⟩; exact ⟨(r, n), hp, hc, rfl⟩
  · intro t p x
    rw [CosTable.addRule_eq]
    exact mem_ite_concat ..

theorem mem_wildcard_build (L : List CosRule) (n : Nat) (r : CosRule) :
    (n, r) ∈ (CosTable.build L).wildcard ↔
      (r, n) ∈ L.zipIdx ∧ r.whitelist = false ∧ cosIsGeneric r = false ∧ hasWild r = true := by
  rw [mem_build (proj := (·.wildcard))
    (φ := fun p x => (p.1.whitelist = false ∧ cosIsGeneric p.1 = false ∧ hasWild p.1 = true) ∧ x = (p.2, p.1)) rfl]
  · constructor
    · rintro ⟨⟨r', n'⟩, hp, hc, h⟩; cases h; exact ⟨hp, hc⟩
    · rintro ⟨hp, hc⟩; exact ⟨(r, n), hp, hc, rfl⟩
  · intro t p x
    rw [CosTable.addRule_eq]
    exact mem_ite_concat ..

theorem mem_byHostname_build (L : List CosRule) (d : Bytes) (n : Nat) (r : CosRule) :
    (n, r) ∈ sget [] (CosTable.build L).byHostname d ↔
      (r, n) ∈ L.zipIdx ∧ r.whitelist = false ∧ cosIsGeneric r = false ∧ hasWild r = false ∧ d ∈ r.permDomains := by
  rw [mem_build (proj := fun t => sget [] t.byHostname d)
    (φ := fun p x => (p.1.whitelist = false ∧ cosIsGeneric p.1 = false ∧ hasWild p.1 = false) ∧
      d ∈ p.1.permDomains ∧ x = (p.2, p.1)) rfl]
  · constructor
    · rintro ⟨⟨r', n'⟩, hp, ⟨h1, h2, h3⟩, hd, h⟩; cases h; exact ⟨hp, h1, h2, h3, hd⟩
    · rintro ⟨hp, h1, h2, h3, hd⟩; exact ⟨(r, n), hp, ⟨h1, h2, h3⟩, hd, rfl⟩
  · intro t p x
    rw [CosTable.addRule_eq]
    show x ∈ sget [] (if _ then _ else _) d ↔ _
    split
    · rw [mem_foldl_sset]; simp [*]
    · simp [*]

def cosCand (ext : Ext) (t : CosTable) (host : Bytes) (c : Nat × CosRule) : Option (Nat × CosRule) :=
  if cosMatches ext c.2 host && !t.isWhitelisted ext host c.2 then some c else none

theorem cosCand_eq_some {ext : Ext} {t : CosTable} {host : Bytes} {c x : Nat × CosRule} :
    cosCand ext t host c = some x ↔
      x = c ∧ cosMatches ext c.2 host = true ∧ t.isWhitelisted ext host c.2 = false := by
  unfold cosCand
  constructor
  · intro h
    split at h
    · next hc =>
      cases h
      simpa using hc
    · cases h
  · rintro ⟨rfl, hm, hw⟩
    simp [hm, hw]

theorem addFound_eq (ext : Ext) (t : CosTable) (host : Bytes) (found cands : List (Nat × CosRule)) :
    t.addFound ext host found cands = cands.foldl (dedupStep Prod.fst (cosCand ext t host)) found := by
  unfold CosTable.addFound
  congr 1
  funext found c
  unfold dedupStep cosCand
  cases cosMatches ext c.2 host <;> cases t.isWhitelisted ext host c.2 <;>
    simp only [Bool.not_true, Bool.not_false, Bool.or_false, Bool.or_true, Bool.and_true, Bool.and_false,
      if_true, if_false, Bool.false_eq_true]

theorem CosTable.findByHostname_eq (ext : Ext) (t : CosTable) (host : Bytes) :
    t.findByHostname ext host =
      ((probes host).flatMap (fun d => sget [] t.byHostname d) ++ t.wildcard).foldl
        (dedupStep Prod.fst (cosCand ext t host)) [] := by
  unfold CosTable.findByHostname
  simp only [List.foldl_append, List.foldl_flatMap, addFound_eq]

theorem findByHostname_sound (ext : Ext) (t : CosTable) (host : Bytes) :
    ∀ x ∈ t.findByHostname ext host,
      ((∃ d, x ∈ sget [] t.byHostname d) ∨ x ∈ t.wildcard) ∧
      cosMatches ext x.2 host = true ∧ t.isWhitelisted ext host x.2 = false := by
  intro x hx
  rw [CosTable.findByHostname_eq] at hx
  rcases mem_foldl_dedupStep hx with hx | ⟨c, hc, hx⟩
  · cases hx
  · obtain ⟨rfl, hm, hw⟩ := cosCand_eq_some.1 hx
    refine ⟨?_, hm, hw⟩
    rcases List.mem_append.1 hc with hc | hc
    · obtain ⟨d, _, hd⟩ := List.mem_flatMap.1 hc
      exact Or.inl ⟨d, hd⟩
    · exact Or.inr hc

theorem findByHostname_complete (ext : Ext) (t : CosTable) (host : Bytes) (c : Nat × CosRule)
    (hc : (∃ d ∈ probes host, c ∈ sget [] t.byHostname d) ∨ c ∈ t.wildcard)
    (hm : cosMatches ext c.2 host = true) (hw : t.isWhitelisted ext host c.2 = false) :
    ∃ r', (c.1, r') ∈ t.findByHostname ext host := by
  rw [CosTable.findByHostname_eq]
  have hmem : c ∈ (probes host).flatMap (fun d => sget [] t.byHostname d) ++ t.wildcard :=
    List.mem_append.2 (hc.imp (fun ⟨d, hd, h⟩ => List.mem_flatMap.2 ⟨d, hd, h⟩) id)
  obtain ⟨⟨n, r'⟩, hx, hk⟩ := foldl_dedupStep_hit (key := Prod.fst) [] hmem (cosCand_eq_some.2 ⟨rfl, hm, hw⟩)
  cases hk
  exact ⟨r', hx⟩

theorem cosApplicable_iff (ext : Ext) (L : List CosRule) (host : Bytes) (r : CosRule) :
    cosApplicable ext L host r = true ↔
      r.whitelist = false ∧ cosMatches ext r host = true ∧ (CosTable.build L).isWhitelisted ext host r = false := by
  have hw : (CosTable.build L).isWhitelisted ext host r =
      L.any (fun e => e.whitelist && e.content == r.content && cosMatches ext e host) := by
    apply Bool.eq_iff_iff.2
    unfold CosTable.isWhitelisted
    simp only [List.any_eq_true, mem_whitelist_build, Bool.and_eq_true, beq_iff_eq, and_assoc]
  rw [hw]
  unfold cosApplicable
  simp only [Bool.and_eq_true, Bool.not_eq_true', and_assoc]

theorem cos_matches_probe (ext : Ext) (r : CosRule) (host : Bytes)
    (hwf : ∀ d ∈ r.permDomains, d ≠ []) (hg : r.permDomains ≠ [])
    (hm : cosMatches ext r host = true) : hasWild r = true ∨ ∃ d ∈ r.permDomains, d ∈ probes host := by
  cases hw : hasWild r
  · right
    have hpe : r.permDomains.isEmpty = false := by simpa using hg
    unfold cosMatches at hm
    rw [if_neg (by simp [hpe])] at hm
    obtain ⟨d, hd, hcase⟩ := exists_plain_of_any ext host _
      (fun d hd => by simpa using fun hc => (List.any_eq_false.1 hw d hd) hc)
      (domainGate _ _ _ hm (by simpa using List.length_pos_iff.2 hg))
    exact ⟨d, hd, mem_probes host d (hwf d hd) hcase⟩
  · exact Or.inl rfl

theorem mem_found_build (ext : Ext) (L : List CosRule) (host : Bytes) (hwf : CosDomainsWF L) (r : CosRule) :
    r ∈ ((CosTable.build L).findByHostname ext host).map (·.2) ↔
      r ∈ L ∧ cosIsGeneric r = false ∧ cosApplicable ext L host r = true := by
  rw [cosApplicable_iff]
  -- what is reported comes from the list, under its own identity
  have key : ∀ x ∈ (CosTable.build L).findByHostname ext host,
      (x.2, x.1) ∈ L.zipIdx ∧ x.2.whitelist = false ∧ cosIsGeneric x.2 = false ∧
        cosMatches ext x.2 host = true ∧ (CosTable.build L).isWhitelisted ext host x.2 = false := by
    intro x hx
    obtain ⟨hsrc, hm, hw⟩ := findByHostname_sound ext _ host _ hx
    rcases hsrc with ⟨d, hd⟩ | hwc
    · obtain ⟨h1, h2, h3, _⟩ := (mem_byHostname_build L d x.1 x.2).1 hd
      exact ⟨h1, h2, h3, hm, hw⟩
    · obtain ⟨h1, h2, h3, _⟩ := (mem_wildcard_build L x.1 x.2).1 hwc
      exact ⟨h1, h2, h3, hm, hw⟩
  constructor
  · intro h
    obtain ⟨⟨n, r'⟩, hx, rfl⟩ := List.mem_map.1 h
    obtain ⟨h1, h2, h3, hm, hw⟩ := key _ hx
    exact ⟨(zipIdx_mem L r').1 ⟨n, h1⟩, h3, h2, hm, hw⟩
  · rintro ⟨hL, hg, hwl, hm, hw⟩
    obtain ⟨n, hn⟩ := (zipIdx_mem L r).2 hL
    have hc : (∃ d ∈ probes host, (n, r) ∈ sget [] (CosTable.build L).byHostname d) ∨
        (n, r) ∈ (CosTable.build L).wildcard := by
      cases hwi : hasWild r
      · obtain ⟨d, hd, hp⟩ := (cos_matches_probe ext r host (hwf r hL) (by simpa [cosIsGeneric] using hg) hm).resolve_left
          (by simp [hwi])
        exact Or.inl ⟨d, hp, (mem_byHostname_build L d n r).2 ⟨hn, hwl, hg, hwi, hd⟩⟩
      · exact Or.inr ((mem_wildcard_build L n r).2 ⟨hn, hwl, hg, hwi⟩)
    obtain ⟨r', hx⟩ := findByHostname_complete ext _ host (n, r) hc hm hw
    cases zipIdx_unique L r' r n (key _ hx).1 hn
    exact List.mem_map.2 ⟨(n, r), hx, rfl⟩

/-- The generic pass of `CosmeticEngine.Match`. -/
def genericPass (ext : Ext) (t : CosTable) (host : Bytes) (includeGenericCSS : Bool) : List CosRule :=
  if includeGenericCSS then
    t.generic.filter (fun r => !t.isWhitelisted ext host r && cosMatches ext r host) else []

theorem matchHost_eq (ext : Ext) (t : CosTable) (host : Bytes) (js gen : Bool) :
    t.matchHost ext host true js gen =
      (((genericPass ext t host gen ++ (t.findByHostname ext host).map (·.2)).filter (fun r => cosIsGeneric r)).map (·.content),
       ((genericPass ext t host gen ++ (t.findByHostname ext host).map (·.2)).filter (fun r => !cosIsGeneric r)).map (·.content)) := rfl

theorem mem_genericPass (ext : Ext) (L : List CosRule) (host : Bytes) (gen : Bool) (r : CosRule) :
    r ∈ genericPass ext (CosTable.build L) host gen ↔
      gen = true ∧ r ∈ L ∧ cosIsGeneric r = true ∧ cosApplicable ext L host r = true := by
  unfold genericPass
  cases gen with
  | false => simp
  | true =>
    rw [if_pos rfl, List.mem_filter, mem_generic_build, cosApplicable_iff]
    constructor
    · rintro ⟨⟨h1, h2, h3⟩, h4⟩
      simp only [Bool.and_eq_true, Bool.not_eq_true'] at h4
      exact ⟨rfl, h1, h3, h2, h4.2, h4.1⟩
    · rintro ⟨_, h1, h3, h2, h4, h5⟩
      refine ⟨⟨h1, h2, h3⟩, ?_⟩
      simp only [Bool.and_eq_true, Bool.not_eq_true']
      exact ⟨h5, h4⟩

theorem mem_all_generic (ext : Ext) (L : List CosRule) (host : Bytes) (hwf : CosDomainsWF L) (gen : Bool) (r : CosRule) :
    r ∈ (genericPass ext (CosTable.build L) host gen ++
          ((CosTable.build L).findByHostname ext host).map (·.2)).filter (fun r => cosIsGeneric r) ↔
      gen = true ∧ r ∈ (L.filter (cosApplicable ext L host)).filter (·.permDomains.isEmpty) := by
  rw [List.mem_filter, List.mem_append, mem_genericPass, mem_found_build ext L host hwf, List.mem_filter,
    List.mem_filter]
  constructor
  · rintro ⟨h | h, hg⟩
    · exact ⟨h.1, ⟨h.2.1, h.2.2.2⟩, hg⟩
    · rw [h.2.1] at hg; cases hg
  · rintro ⟨h1, ⟨h2, h4⟩, h3⟩
    exact ⟨Or.inl ⟨h1, h2, h3, h4⟩, h3⟩

theorem mem_all_specific (ext : Ext) (L : List CosRule) (host : Bytes) (hwf : CosDomainsWF L) (gen : Bool) (r : CosRule) :
    r ∈ (genericPass ext (CosTable.build L) host gen ++
          ((CosTable.build L).findByHostname ext host).map (·.2)).filter (fun r => !cosIsGeneric r) ↔
      r ∈ (L.filter (cosApplicable ext L host)).filter (!·.permDomains.isEmpty) := by
  rw [List.mem_filter, List.mem_append, mem_genericPass, mem_found_build ext L host hwf, List.mem_filter,
    List.mem_filter]
  constructor
  · rintro ⟨h | h, hg⟩
    · rw [h.2.2.1] at hg; cases hg
    · exact ⟨⟨h.1, h.2.2⟩, hg⟩
  · rintro ⟨⟨h1, h3⟩, h2⟩
    exact ⟨Or.inr ⟨h1, by simpa [cosIsGeneric] using h2, h3⟩, h2⟩

end UF.B
