import UF.Model.HostRule
import UF.Spec.HostLine
import UF.Proofs.BytesSearch
/-
  For C18: `NewHostRule` = the blank-token reference on every line (`newHostRule_eq_spec`), and what
  the reference reads on the lines `ip names… trail comment?` of the grammar.
-/
namespace UF.H
open Bytes

theorem dropWhile_head_not {α} (p : α → Bool) (l : List α) (c : α) (t : List α)
    (h : l.dropWhile p = c :: t) : p c = false := by
  have := List.head?_dropWhile_not p l
  rwa [h] at this

theorem scanWhile_le (p : UInt8 → Bool) (s : Bytes) (i : Nat) (hi : i ≤ s.length) :
    i ≤ scanWhile p s i ∧ scanWhile p s i ≤ s.length := by
  have := (List.takeWhile_prefix p (l := s.drop i)).length_le
  rw [List.length_drop] at this
  unfold scanWhile
  omega

theorem drop_scanWhile (p : UInt8 → Bool) (s : Bytes) (i : Nat) :
    s.drop (scanWhile p s i) = (s.drop i).dropWhile p := by
  rw [scanWhile, ← List.drop_drop]
  have := List.drop_left' (l₁ := (s.drop i).takeWhile p) (l₂ := (s.drop i).dropWhile p) rfl
  rwa [List.takeWhile_append_dropWhile] at this

theorem slice_scanWhile (p : UInt8 → Bool) (s : Bytes) (i : Nat) :
    (s.take (scanWhile p s i)).drop i = (s.drop i).takeWhile p := by
  rw [scanWhile, List.drop_take, Nat.add_sub_cancel_left]
  have := List.take_left' (l₁ := (s.drop i).takeWhile p) (l₂ := (s.drop i).dropWhile p) rfl
  rwa [List.takeWhile_append_dropWhile] at this

/-! ### `splitNextByWhitespace`, structurally -/

def notBlank (c : UInt8) : Bool := !isBlank c

def splitTok (s : Bytes) : Bytes := (s.dropWhile isBlank).takeWhile notBlank
def splitRest (s : Bytes) : Bytes := ((s.dropWhile isBlank).dropWhile notBlank).dropWhile isBlank

theorem splitNextByWhitespace_eq (s : Bytes) :
    splitNextByWhitespace s = .ok (splitTok s, splitRest s) := by
  have hb := scanWhile_le isBlank s 0 (Nat.zero_le _)
  have he := scanWhile_le (fun c => !isBlank c) s _ hb.2
  have hi := scanWhile_le isBlank s _ he.2
  unfold splitNextByWhitespace
  simp only
  rw [sliceE_of_le he.1 he.2, sliceE_to_end hi.2, slice_scanWhile,
    drop_scanWhile, drop_scanWhile, drop_scanWhile, drop_scanWhile, List.drop_zero]
  rfl

theorem splitNextByWhitespace_noPanic (s : Bytes) : splitNextByWhitespace s ≠ .error .panic := by
  rw [splitNextByWhitespace_eq]; simp

theorem splitRest_head (s : Bytes) (c : UInt8) (t : Bytes) (h : splitRest s = c :: t) :
    isBlank c = false :=
  dropWhile_head_not isBlank _ c t h

/-- Either a blank or a token byte is consumed. -/
theorem splitRest_length_lt {s : Bytes} (h : s ≠ []) : (splitRest s).length < s.length := by
  cases s with
  | nil => exact absurd rfl h
  | cons c t =>
    have h1 := (List.dropWhile_suffix isBlank (l := ((c :: t).dropWhile isBlank).dropWhile notBlank)).length_le
    unfold splitRest
    by_cases hc : isBlank c = true
    · have h2 := (List.dropWhile_suffix notBlank (l := t.dropWhile isBlank)).length_le
      have h3 := (List.dropWhile_suffix isBlank (l := t)).length_le
      rw [List.dropWhile_cons_of_pos hc] at h1 ⊢
      simp only [List.length_cons]
      omega
    · have h2 := (List.dropWhile_suffix notBlank (l := t)).length_le
      rw [List.dropWhile_cons_of_neg hc, List.dropWhile_cons_of_pos (by simpa [notBlank] using hc)] at h1 ⊢
      simp only [List.length_cons]
      omega

/-! ### The token reference -/

theorem blankTokens_go_cons (s cur : Bytes) (h : cur ≠ []) :
    blankTokens.go s cur =
      (cur.reverse ++ s.takeWhile notBlank) :: blankTokens.go (s.dropWhile notBlank) [] := by
  induction s generalizing cur with
  | nil =>
    cases cur with
    | nil => exact absurd rfl h
    | cons a r => simp [blankTokens.go]
  | cons c t ih =>
    by_cases hc : isBlank c = true
    · cases cur with
      | nil => exact absurd rfl h
      | cons a r => simp [blankTokens.go, hc, notBlank]
    · have hc' : isBlank c = false := by simpa using hc
      rw [blankTokens.go]
      simp only [hc', Bool.false_eq_true, if_false]
      rw [ih (c :: cur) (by simp)]
      simp [notBlank, hc']

theorem blankTokens_dropWhile (s : Bytes) : blankTokens (s.dropWhile isBlank) = blankTokens s := by
  induction s with
  | nil => rfl
  | cons c t ih =>
    by_cases hc : isBlank c = true
    · simp only [List.dropWhile_cons, hc, if_true]
      rw [ih]
      simp [blankTokens, blankTokens.go, hc]
    · simp [hc]

theorem blankTokens_cons_notBlank (c : UInt8) (t : Bytes) (hc : isBlank c = false) :
    blankTokens (c :: t) =
      (c :: t).takeWhile notBlank :: blankTokens ((c :: t).dropWhile notBlank) := by
  unfold blankTokens
  rw [blankTokens.go]
  simp only [hc, Bool.false_eq_true, if_false]
  rw [blankTokens_go_cons t [c] (by simp)]
  simp [notBlank, hc]

theorem blankTokens_eq (s : Bytes) (h : s.dropWhile isBlank ≠ []) :
    blankTokens s = splitTok s :: blankTokens (splitRest s) := by
  rw [← blankTokens_dropWhile s, splitRest, blankTokens_dropWhile (List.dropWhile notBlank _)]
  cases hd : s.dropWhile isBlank with
  | nil => exact absurd hd h
  | cons c t => exact hd ▸ blankTokens_cons_notBlank c t (dropWhile_head_not isBlank s c t hd)

theorem blankTokens_split (s : Bytes) (hne : s ≠ []) (hs : ∀ c t, s = c :: t → isBlank c = false) :
    blankTokens s = splitTok s :: blankTokens (splitRest s) := by
  apply blankTokens_eq
  cases s with
  | nil => exact absurd rfl hne
  | cons c t => simp [hs c t rfl]

theorem blankTokens_nil : blankTokens [] = [] := rfl

theorem hostNamesLoop_eq (fuel : Nat) :
    ∀ (s : Bytes) (acc : List Bytes), s.length ≤ fuel →
      (∀ c t, s = c :: t → isBlank c = false) →
      hostNamesLoop fuel s acc = .ok (acc.reverse ++ blankTokens s) := by
  induction fuel with
  | zero =>
    intro s acc hlen _
    have : s = [] := List.eq_nil_of_length_eq_zero (by omega)
    subst this
    simp [hostNamesLoop, blankTokens_nil]
  | succ n ih =>
    intro s acc hlen hs
    by_cases hne : s = []
    · subst hne
      simp [hostNamesLoop, blankTokens_nil]
    · have hl : (s.length == 0) = false := by
        cases s with
        | nil => exact absurd rfl hne
        | cons c t => simp
      rw [hostNamesLoop]
      simp only [hl, Bool.false_eq_true, if_false, splitNextByWhitespace_eq]
      have hlt := splitRest_length_lt hne
      rw [ih (splitRest s) (splitTok s :: acc) (by omega) (splitRest_head s)]
      rw [blankTokens_split s hne hs]
      simp

/-- The loop with the fuel `NewHostRule`'s model uses never runs out of it. -/
theorem hostNamesLoop_fuel (s : Bytes) (hs : ∀ c t, s = c :: t → isBlank c = false) :
    hostNamesLoop s.length s [] = .ok (blankTokens s) := by
  simpa using hostNamesLoop_eq s.length s [] (Nat.le_refl _) hs

/-! ### `NewHostRule` = the token reference, for EVERY line -/

theorem stripHostComment_eq (text : Bytes) : stripHostComment text = .ok (hostLineBody text) := by
  unfold stripHostComment hostLineBody
  cases hi : indexByte text (ch '#') with
  | none => rfl
  | some i =>
    have := indexByte_lt hi
    simp only
    by_cases h0 : i > 0
    · simp only [h0, if_true]
      rw [sliceE_of_le (Nat.zero_le _) (by omega)]
      simp
    · simp [h0]

/-- The answer of the reference as a parse result. -/
def specHostResult (ext : Ext) (dn : Bytes → Bool) (text : Bytes) (listID : Int) : Except HErr HostRule :=
  match specHostLine ext dn text with
  | some (names, a) => .ok { text := text, listID := listID, hostnames := names, ip := a }
  | none => .error .reject

theorem newHostRule_eq_spec (ext : Ext) (dn : Bytes → Bool) (text : Bytes) (listID : Int) :
    newHostRule ext dn text listID = specHostResult ext dn text listID := by
  unfold newHostRule specHostResult specHostLine
  simp only [stripHostComment_eq, splitNextByWhitespace_eq]
  generalize hostLineBody text = body
  by_cases h1 : body.dropWhile isBlank = []
  · -- nothing but blanks
    have hb : blankTokens body = [] := by rw [← blankTokens_dropWhile, h1]; rfl
    simp only [splitTok, splitRest, h1, hb, List.takeWhile_nil, List.dropWhile_nil, List.length_nil,
      beq_self_eq_true, if_true]
    cases dn [] <;> rfl
  · -- a first token exists
    rw [blankTokens_eq body h1]
    cases hr : splitRest body with
    | nil =>
      simp only [List.length_nil, beq_self_eq_true, if_true, blankTokens_nil]
      cases dn (splitTok body) <;> rfl
    | cons c t =>
      have hc := splitRest_head body c t hr
      rw [← hr, hostNamesLoop_fuel _ (splitRest_head body), hr, blankTokens_cons_notBlank c t hc]
      cases hp : ext.parseAddr (splitTok body) <;> simp [hp]

/-! ### Lines of the grammar -/

theorem hostLineBody_comment (pre c : Bytes) (hne : pre ≠ []) (hf : hashFree pre = true) :
    hostLineBody (pre ++ ch '#' :: c) = pre := by
  unfold hostLineBody indexByte
  rw [indexByte_go_append_hit _ _ _ _ hf]
  have : 0 < pre.length := List.length_pos_iff.mpr hne
  simp [this]

theorem hostLineBody_plain (pre : Bytes) (hf : hashFree pre = true) : hostLineBody pre = pre := by
  unfold hostLineBody indexByte
  rw [indexByte_go_none _ _ _ hf]

/-- The body of a line `pre ++ comment?` with a non-empty '#'-free `pre`. -/
theorem hostLineBody_tail (pre cmt : Bytes) (hne : pre ≠ []) (hf : hashFree pre = true)
    (hc : isCommentTail cmt = true) : hostLineBody (pre ++ cmt) = pre := by
  cases cmt with
  | nil => simpa using hostLineBody_plain pre hf
  | cons x c =>
    have hx : x = ch '#' := by simpa [isCommentTail] using hc
    subst hx
    exact hostLineBody_comment pre c hne hf

def startsBlankOrNil (rest : Bytes) : Bool :=
  match rest with
  | [] => true
  | c :: _ => isBlank c

theorem blankTokens_tok_append (tok rest : Bytes) (hne : tok ≠ []) (h : blankFree tok = true)
    (hr : startsBlankOrNil rest = true) : blankTokens (tok ++ rest) = tok :: blankTokens rest := by
  have hall : ∀ a ∈ tok, notBlank a = true := List.all_eq_true.mp h
  have hrest : rest.takeWhile notBlank = [] ∧ rest.dropWhile notBlank = rest := by
    cases rest with
    | nil => exact ⟨rfl, rfl⟩
    | cons c r =>
      have : isBlank c = true := hr
      simp [notBlank, this]
  cases tok with
  | nil => exact absurd rfl hne
  | cons c t =>
    have hc : isBlank c = false := by simpa [notBlank] using hall c List.mem_cons_self
    rw [List.cons_append, blankTokens_cons_notBlank c _ hc, ← List.cons_append,
      List.takeWhile_append_of_pos hall, List.dropWhile_append_of_pos hall, hrest.1, hrest.2, List.append_nil]

theorem blankTokens_blank_append (w rest : Bytes) (h : allBlank w = true) :
    blankTokens (w ++ rest) = blankTokens rest := by
  rw [← blankTokens_dropWhile, List.dropWhile_append_of_pos (List.all_eq_true.mp h), blankTokens_dropWhile]

/-! ### The text `ip names… trail` before the comment sign of a grammar line -/

theorem isHostToken_iff {n : Bytes} :
    isHostToken n = true ↔ n ≠ [] ∧ blankFree n = true ∧ hashFree n = true := by
  cases n <;> simp [isHostToken]

theorem goodPairs_cons {w n : Bytes} {r : List (Bytes × Bytes)} :
    goodPairs ((w, n) :: r) = true ↔
      (w ≠ [] ∧ allBlank w = true) ∧ isHostToken n = true ∧ goodPairs r = true := by
  cases w <;> simp [goodPairs, isBlankRun, and_assoc]

theorem hostLineBare_eq (name trail cmt : Bytes) :
    hostLineBare name trail cmt = hostLineIP name [] trail cmt := by
  simp [hostLineBare, hostLineIP, namesText]

theorem startsBlankOrNil_namesText (wn : List (Bytes × Bytes)) (trail : Bytes)
    (hwn : goodPairs wn = true) (ht : allBlank trail = true) :
    startsBlankOrNil (namesText wn ++ trail) = true := by
  have hblank : ∀ w : Bytes, allBlank w = true → ∀ r, w ≠ [] ∨ r = [] → startsBlankOrNil (w ++ r) = true := by
    intro w hw r hr
    cases w with
    | nil => rcases hr with hr | hr <;> simp_all [startsBlankOrNil]
    | cons c q => exact (Bool.and_eq_true_iff.1 hw).1
  cases wn with
  | nil => simpa [namesText] using hblank trail ht [] (.inr rfl)
  | cons p r =>
    obtain ⟨w, n⟩ := p
    obtain ⟨⟨hwne, hwb⟩, _⟩ := goodPairs_cons.1 hwn
    simpa [namesText] using hblank w hwb _ (.inl hwne)

theorem blankTokens_namesText (wn : List (Bytes × Bytes)) (trail : Bytes)
    (hwn : goodPairs wn = true) (ht : allBlank trail = true) :
    blankTokens (namesText wn ++ trail) = wn.map (·.2) := by
  induction wn with
  | nil => simpa [namesText, blankTokens_nil] using blankTokens_blank_append trail [] ht
  | cons p r ih =>
    obtain ⟨w, n⟩ := p
    obtain ⟨⟨_, hwb⟩, hn, hr⟩ := goodPairs_cons.1 hwn
    obtain ⟨hnne, hnb, _⟩ := isHostToken_iff.1 hn
    simp only [namesText, List.append_assoc, List.map_cons]
    rw [blankTokens_blank_append w _ hwb,
        blankTokens_tok_append n _ hnne hnb (startsBlankOrNil_namesText r trail hr ht), ih hr]

theorem blankTokens_linePrefix (ip : Bytes) (wn : List (Bytes × Bytes)) (trail : Bytes)
    (hip : isHostToken ip = true) (hwn : goodPairs wn = true) (ht : allBlank trail = true) :
    blankTokens (ip ++ namesText wn ++ trail) = ip :: wn.map (·.2) := by
  obtain ⟨hne, hb, _⟩ := isHostToken_iff.1 hip
  rw [List.append_assoc, blankTokens_tok_append ip _ hne hb (startsBlankOrNil_namesText wn trail hwn ht),
    blankTokens_namesText wn trail hwn ht]

theorem all_linePrefix {p : UInt8 → Bool} (hsp : p (ch ' ') = true) (htab : p (ch '\t') = true)
    (ip : Bytes) (wn : List (Bytes × Bytes)) (trail : Bytes) (hip : ip.all p = true)
    (hwn : goodPairs wn = true) (hn : wn.all (fun q => q.2.all p) = true) (ht : allBlank trail = true) :
    (ip ++ namesText wn ++ trail).all p = true := by
  have hblank : ∀ w : Bytes, allBlank w = true → w.all p = true := by
    intro w hw
    rw [List.all_eq_true]
    intro x hx
    have := List.all_eq_true.mp hw x hx
    simp only [isBlank, Bool.or_eq_true, beq_iff_eq] at this
    rcases this with h | h <;> subst h <;> assumption
  have hnames : (namesText wn).all p = true := by
    induction wn with
    | nil => rfl
    | cons q r ih =>
      obtain ⟨w, n⟩ := q
      obtain ⟨⟨_, hwb⟩, _, hr⟩ := goodPairs_cons.1 hwn
      rw [List.all_cons, Bool.and_eq_true] at hn
      simp only [namesText, List.all_append, hblank w hwb, hn.1, ih hr hn.2, Bool.and_self]
  simp only [List.all_append, hip, hnames, hblank trail ht, Bool.and_self]

theorem hashFree_linePrefix (ip : Bytes) (wn : List (Bytes × Bytes)) (trail : Bytes)
    (hip : isHostToken ip = true) (hwn : goodPairs wn = true) (ht : allBlank trail = true) :
    hashFree (ip ++ namesText wn ++ trail) = true := by
  refine all_linePrefix (by decide) (by decide) ip wn trail (isHostToken_iff.1 hip).2.2 hwn ?_ ht
  rw [List.all_eq_true]
  intro q hq
  have := List.all_eq_true.mp hwn q hq
  rw [Bool.and_eq_true] at this
  exact (isHostToken_iff.1 this.2).2.2

theorem hostLineBody_hostLineIP (ip : Bytes) (wn : List (Bytes × Bytes)) (trail cmt : Bytes)
    (hip : isHostToken ip = true) (hwn : goodPairs wn = true) (ht : allBlank trail = true)
    (hc : isCommentTail cmt = true) :
    hostLineBody (hostLineIP ip wn trail cmt) = ip ++ namesText wn ++ trail :=
  hostLineBody_tail _ cmt (by simp [(isHostToken_iff.1 hip).1]) (hashFree_linePrefix ip wn trail hip hwn ht) hc

end UF.H
