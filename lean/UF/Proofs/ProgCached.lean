import UF.Proofs.ProgSound
/-
  C19, "rules already materialised continue to be served": an index that is in the cache when a query
  starts is found by `cacheGet` (the cache never forgets a key), so the rule goes to the nil check,
  `ruleIn`, `preparePattern` and `Match` without touching the list, whatever lists are closed; and the
  lazy-compile cell it meets is what compiling that rule gives (`CellInv`), so the verdict is the
  stateless one.
-/
namespace UF.Prog
variable {R Re : Type}

section
variable {env : Env R Re} {s s' : State R Re} {t t' : Thread R}

/-- A cached object is never replaced and never dropped, by any action of any thread. -/
theorem Step.lookup {env : Env R Re} {s s' : State R Re} {t t' : Thread R} (h : Step env s t s' t') {idx : Idx} {r : R}
    (hl : cacheLookup s.cache idx = some r) : cacheLookup s'.cache idx = some r := by
  rcases h.cache with h1 | ⟨_, i, r', _, hnone, h1⟩
  · rw [h1]; exact hl
  · rw [h1, cacheLookup_cacheInsert]
    split
    · next hi => subst hi; rw [hnone] at hl; cases hl
    · exact hl

/-- The cache never forgets a key. -/
theorem Step.lookup_isSome (h : Step env s t s' t') (idx : Idx) (hl : (cacheLookup s.cache idx).isSome) :
    (cacheLookup s'.cache idx).isSome := by
  obtain ⟨r, hr⟩ := Option.isSome_iff_exists.1 hl
  rw [h.lookup hr]
  rfl

/-- The thread is working on the item `.st src idx` with the cached rule `r` in hand (or about to get it). -/
def PC.tracks (src : Src) (idx : Idx) (r : R) : PC R → Prop
  | .get s i => s = src ∧ i = idx
  | .use s i (some x) | .prep (.st s i) x | .rx (.st s i) x => s = src ∧ i = idx ∧ x = r
  | _ => False

/-- Where the cached rule `r` of the work item `.st src idx` is, from the point of view of a thread: collected,
    still ahead, or in progress. -/
def Track (src : Src) (idx : Idx) (r : R) (t : Thread R) : Prop :=
  (Item.st src idx, r) ∈ t.acc ∨ Item.st src idx ∈ t.todo ∨ t.pc.tracks src idx r

theorem track_advance {src : Src} {idx : Idx} {r : R} {t : Thread R}
    (h : (Item.st src idx, r) ∈ t.acc ∨ Item.st src idx ∈ t.todo) : Track src idx r t.advance := by
  rcases h with h | h
  · exact Or.inl (by rw [advance_acc]; exact h)
  · fun_cases Thread.advance t
    case case1 hd _ | case2 hd _ => rw [hd] at h; cases h
    case case3 hd =>
      rw [hd] at h
      rcases List.mem_cons.1 h with h | h
      · cases h; exact Or.inr (Or.inr ⟨rfl, rfl⟩)
      · exact Or.inr (Or.inl h)
    case case4 hd =>
      rw [hd] at h
      rcases List.mem_cons.1 h with h | h
      · cases h
      · exact Or.inr (Or.inl h)

variable {src : Src} {idx : Idx} {r : R}

/-- Within an item: the cached rule is found by `get`, passes the nil check and `ruleIn`, and its pattern
    compiles (or is compiled already). -/
theorem Goto.track {pc' : PC R} (h : Goto env s t s' pc') (hs : SInv env s) (hrx : RxOK s t)
    (hl : (cacheLookup s.cache idx).isSome) (htr : env.truth idx = some r) (hw : env.wants src r = true)
    (hk : Track src idx r t) : Track src idx r { t with pc := pc' } := by
  rcases hk with hk | hk | hk
  · exact Or.inl hk
  · exact Or.inr (Or.inl hk)
  · refine Or.inr (Or.inr ?_)
    cases h with
    | get_hit hpc hl' =>
      rw [hpc] at hk; obtain ⟨rfl, rfl⟩ := hk
      cases (hs.1 _ _ (cacheLookup_mem hl')).symm.trans htr
      simp [Option.filter, hw, PC.tracks]
    | get_miss hpc hl' => rw [hpc] at hk; obtain ⟨rfl, rfl⟩ := hk; rw [hl'] at hl; cases hl
    | use_prep hpc => rw [hpc] at hk; exact hk
    | @prep_hit it _ _ hpc | @prep_compile it _ _ hpc => rw [hpc] at hk; cases it <;> exact hk
    | rx_nil hpc hn => obtain ⟨x, hx⟩ := hrx _ _ hpc; exact absurd hx (hn x)
    | read_closed hpc | read_some hpc | read_none hpc | put_hit hpc | put_miss hpc | seq_prep hpc =>
      rw [hpc] at hk; exact hk.elim

/-- At the end of an item: if it was ours, the rule has been collected (now, or before: `ruleIn`). -/
theorem Finish.track {add : Option (Item × R)} (h : Finish env s t s' add) (hs : SInv env s) (ht : TInv env t)
    (hsd : Sound env t) (htr : env.truth idx = some r) (hv : env.verdict src r t.req = true)
    (hk : Track src idx r t) : Track src idx r (t.collect add).advance := by
  have keep : ∀ {e}, e ∈ t.acc → e ∈ (t.collect add).acc := by
    intro e he; cases add
    · exact he
    · exact List.mem_append_left _ he
  rcases hk with hk | hk | hk
  · exact track_advance (Or.inl (keep hk))
  · exact track_advance (Or.inr (by simpa using hk))
  · -- `prep` / `rx` on our item: `Match` on a fresh object accepts, so the entry is collected
    have key : ∀ {it x}, (t.pc = .prep it x ∨ t.pc = .rx it x) → Track src idx r (t.collect add).advance := by
      intro it x hpc
      have hit : it = .st src idx ∧ x = r := by
        rcases hpc with e | e <;> rw [e] at hk <;> cases it <;>
          first | exact hk.elim | (obtain ⟨rfl, rfl, rfl⟩ := hk; exact ⟨rfl, rfl⟩)
      obtain ⟨rfl, rfl⟩ := hit
      have hh := (hsd.prep_src src idx x hpc).2
      rw [h.mtch hs ht hpc, if_pos (by rw [← verdict_not_host env hh]; exact hv)]
      exact track_advance (Or.inl (by simp [Thread.collect]))
    cases h with
    | use_dup hpc hd =>
      rw [hpc] at hk; obtain ⟨rfl, rfl, rfl⟩ := hk
      simp only [Bool.and_eq_true, beq_iff_eq, ruleIn, List.any_eq_true] at hd
      obtain ⟨rfl, ⟨e1, e2⟩, he, hee⟩ := hd
      cases hee
      cases (hsd.acc_ok _ he).1.1.symm.trans htr
      exact track_advance (Or.inl he)
    | use_host hpc =>
      rw [hpc] at hk; obtain ⟨rfl, rfl, rfl⟩ := hk
      exact track_advance (Or.inl (by simp [Thread.collect]))
    | use_skip hpc _ hp =>
      rw [hpc] at hk; obtain ⟨rfl, rfl, rfl⟩ := hk
      simp [Env.verdict, Env.mtch, hp] at hv
    | prep_invalid hpc | prep_any hpc | prep_bad hpc => exact key (Or.inl hpc)
    | rx_add hpc | rx_skip hpc => exact key (Or.inr hpc)
    | use_nil hpc | seq_none hpc | seq_skip hpc => rw [hpc] at hk; exact hk.elim

theorem Step.track (h : Step env s t s' t') (hs : SInv env s) (hg : Good env s t) (hsd : Sound env t)
    (hl : (cacheLookup s.cache idx).isSome) (htr : env.truth idx = some r) (hw : env.wants src r = true)
    (hv : env.verdict src r t.req = true) (hst : t.pc ≠ .start) (hk : Track src idx r t) : Track src idx r t' := by
  cases h with
  | idle => exact hk
  | start_triv h | start h => exact absurd h hst
  | goto h => exact h.track hs hg.2.1 hl htr hw hk
  | finish h => exact h.track hs hg.1 hsd htr hv hk
  | mid hpc =>
    -- between the stages nothing is ahead: the rule has been collected
    rcases hk with hk | hk | hk
    · exact track_advance (Or.inl hk)
    · rw [hg.1.end_todo (Or.inl hpc)] at hk; cases hk
    · rw [hpc] at hk; exact hk.elim
  | fin hpc =>
    rcases hk with hk | hk | hk
    · exact Or.inl hk
    · exact Or.inr (Or.inl hk)
    · rw [hpc] at hk; exact hk.elim

/-- One action of the thread itself, from any point of its run. -/
theorem Step.track_any (h : Step env s t s' t') (hs : SInv env s) (hg : Good env s t) (hsd : Sound env t)
    (hl : (cacheLookup s.cache idx).isSome) (htr : env.truth idx = some r) (hw : env.wants src r = true)
    (hq : t.q.trivial = false) (hitem : Item.st src idx ∈ env.items1 (env.reqOf t.q))
    (hv : env.verdict src r (env.reqOf t.q) = true) (hk : t.pc ≠ .start → Track src idx r t) :
    Track src idx r t' := by
  by_cases hst : t.pc = .start
  · -- the first action puts every item of the work list ahead of the thread
    rw [h.of_start hst hq]
    exact track_advance (Or.inr hitem)
  · exact h.track hs hg hsd hl htr hw (by rw [hg.1.req_eq hst hq]; exact hv) hst (hk hst)

end

/-- A finished thread that has tracked a rule has collected it. -/
theorem Track.done {env : Env R Re} {src : Src} {idx : Idx} {r : R} {t : Thread R} (hk : Track src idx r t)
    (ht : TInv env t) (hd : t.pc = .done) : (Item.st src idx, r) ∈ t.acc := by
  rcases hk with hk | hk | hk
  · exact hk
  · rw [ht.end_todo (Or.inr (Or.inr hd))] at hk; cases hk
  · rw [hd] at hk; exact hk.elim

theorem items1_of_cand {env : Env R Re} {req : Request} {b : Bool} {idx : Idx} (h : (b, idx) ∈ env.cands req) :
    Item.st (if b then .sc else .dom) idx ∈ env.items1 req :=
  List.mem_append_left _ (List.mem_map.2 ⟨(b, idx), h, rfl⟩)

/-- A cached, matching candidate of the network tables is in the answer of a sequentially run query -- in
    ANY fault state, whatever the lazy-compile cells hold. -/
theorem runQuery_cached {env : Env R Re} {s : State R Re} (q : Query) {b : Bool} {idx : Idx} {r : R}
    (hs : SInv env s) (hq : q.trivial = false) (hin : (idx, r) ∈ s.cache)
    (hcand : (b, idx) ∈ env.cands (env.reqOf q)) (hw : env.wants (if b then .sc else .dom) r = true)
    (hm : env.mtch r (env.reqOf q) = true) : r ∈ (runQuery env s q).2.answer.1 := by
  have hnh : ((if b then Src.sc else Src.dom) == Src.host) = false := by cases b <;> rfl
  obtain ⟨-, ⟨ht, -, -⟩, -, -, hk⟩ := runQuery_inv env
    (fun s t => (SInv env s ∧ (cacheLookup s.cache idx).isSome) ∧ Good env s t ∧ Sound env t ∧ t.q = q ∧
      (t.pc ≠ .start → Track (if b then .sc else .dom) idx r t))
    (fun _ t _ _ h hp => by
      obtain ⟨⟨hs', hl⟩, hg, hsd, htq, hk⟩ := hp
      exact ⟨⟨h.sinv hs' hg.1, h.lookup_isSome idx hl⟩, h.good hs' hg, h.sound hs' hg hsd, h.q.trans htq,
        fun _ => h.track_any hs' hg hsd hl (hs.1 _ _ hin) hw (by rw [htq]; exact hq)
          (by rw [htq]; exact items1_of_cand hcand) (by rw [htq, verdict_not_host env hnh]; exact hm) hk⟩)
    s q ⟨⟨hs, cacheLookup_isSome_of_mem hin⟩, good_init env s q, sound_init env q, rfl, fun h => absurd rfl h⟩
  have hd := (runQuery_good q hs).2.2
  exact mem_nets.2 ⟨_, by cases b <;> rfl, (hk (by rw [hd]; simp)).done ht hd⟩

/-! ### the hosts table (second stage of `MatchRequest`) -/

/-- In the second stage only host entries are appended: the network rules found stay what they were at `mid`. -/
theorem Step.nets_stage2 {env : Env R Re} {s s' : State R Re} {t t' : Thread R} (h : Step env s t s' t')
    (hs : SInv env s) (ht : TInv env t) (hsd : Sound env t) (hst : t.stage = true) (hstart : t.pc ≠ .start) :
    nets t'.acc = nets t.acc := by
  cases h with
  | idle | goto | fin => rfl
  | start_triv h | start h => exact absurd h hstart
  | mid => simp
  | @finish _ add h =>
    rw [advance_acc]
    cases hadd : add with
    | none => rfl
    | some e =>
      have hk := hsd.pend_ok _ (h.entry hs ht hsd hadd).2
      simp only [hst, Known, if_true] at hk
      obtain ⟨i, _, he⟩ := hk
      obtain ⟨e1, e2⟩ := e
      cases he
      simp [Thread.collect, nets, Item.isHost]

/-- A cached, matching host rule of the bucket is in the answer of a sequentially run DNS query whenever the
    (possibly degraded) network rules found leave the decision to the hosts table -- in ANY fault state. -/
theorem runQuery_cached_host {env : Env R Re} {s : State R Re} (d : DReq) {idx : Idx} {r : R}
    (hs : SInv env s) (hq : d.hostname.isEmpty = false) (hin : (idx, r) ∈ s.cache)
    (hcand : idx ∈ env.hcands (env.reqOf (.dns d))) (hw : env.wants .host r = true)
    (hm : env.pre r (env.reqOf (.dns d)) = true)
    (hb : env.basic (runQuery env s (.dns d)).2.answer.1 = false) :
    r ∈ (runQuery env s (.dns d)).2.answer.2 := by
  have hqt : (Query.dns d).trivial = false := by simpa [Query.trivial] using hq
  obtain ⟨-, ⟨ht, -, -⟩, -, htq, hk⟩ := runQuery_inv env
    (fun s t => (SInv env s ∧ (cacheLookup s.cache idx).isSome) ∧ Good env s t ∧ Sound env t ∧ t.q = .dns d ∧
      (t.stage = true → t.pc ≠ .start → env.basic (nets t.acc) = false → Track .host idx r t))
    (fun s t _ t' h hp => by
      obtain ⟨⟨hs', hl⟩, hg, hsd, htq, hk⟩ := hp
      refine ⟨⟨h.sinv hs' hg.1, h.lookup_isSome idx hl⟩, h.good hs' hg, h.sound hs' hg hsd, h.q.trans htq,
        fun hstage _ hbasic => ?_⟩
      have hqt' : t.q.trivial = false := by rw [htq]; exact hqt
      by_cases hst : t.pc = .start
      · -- the first action leaves the thread in the first stage
        rw [h.of_start hst hqt', advance_stage] at hstage; cases hstage
      · have hreq := hg.1.req_eq hst hqt'
        by_cases hmid : t.pc = .mid
        · -- `mid`: the hosts table is consulted because no basic rule was found
          rw [h.of_mid hmid, advance_acc] at hbasic
          rw [h.of_mid hmid]
          apply track_advance; right
          simp only [htq, Env.items2, hbasic, Bool.false_eq_true, if_false, List.mem_map]
          exact ⟨idx, by rw [hreq, htq]; exact hcand, rfl⟩
        · have hstage' : t.stage = true := by rw [h.stage hst hmid] at hstage; exact hstage
          rw [h.nets_stage2 hs' hg.1 hsd hstage' hst] at hbasic
          exact h.track hs' hg hsd hl (hs.1 _ _ hin) hw
            (by rw [hreq, htq]; simpa [Env.verdict] using hm) hst (hk hstage' hst hbasic))
    s (.dns d) ⟨⟨hs, cacheLookup_isSome_of_mem hin⟩, good_init env s _, sound_init env _, rfl,
      fun h => by simp [Thread.init] at h⟩
  have hd := (runQuery_good (.dns d) hs).2.2
  have hstage := ht.done_stage hd (by rw [htq]; exact hqt)
  exact mem_hosts.2 ⟨_, rfl, (hk hstage (by rw [hd]; simp) hb).done ht hd⟩

end UF.Prog
