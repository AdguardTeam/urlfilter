import UF.Proofs.StorageMain
import UF.Proofs.StorageRef
import UF.Proofs.TrimSpaceIdem
/-
  A small concrete parser and storage used by the non-vacuity `example`s of Props/C11:
  the hypotheses of the C11 theorems (`TrimsFirst`, `ListsOK`, a scanned entry) are satisfiable.
-/
namespace UF.Storage

/-- A toy stand-in for `rules.NewRule`: trims, drops blanks and `!` comments, reads `##…` as a
    cosmetic rule, rejects `@@…`, takes everything else for a network rule. -/
def demoParser : Parser := fun l _ =>
  let t := trimSpace l
  if t.isEmpty then .nothing
  else if Bytes.hasPrefix t (lit "!") then .nothing
  else if Bytes.hasPrefix t (lit "##") then .rule .cosmetic t
  else if Bytes.hasPrefix t (lit "@@") then .error
  else .rule .network t

theorem demoParser_trimsFirst : TrimsFirst demoParser := by
  refine ⟨?_, ?_, ?_⟩
  · intro l id
    unfold demoParser
    simp only [trimSpace_idem]
  · intro l id h
    unfold demoParser
    simp [h]
  · -- whichever tests succeed, a branch that returns a rule returns the trimmed line
    intro l id k t
    unfold demoParser
    generalize trimSpace l = x
    simp only
    generalize x.isEmpty = b1
    generalize Bytes.hasPrefix x (lit "!") = b2
    generalize Bytes.hasPrefix x (lit "##") = b3
    generalize Bytes.hasPrefix x (lit "@@") = b4
    cases b1 <;> cases b2 <;> cases b3 <;> cases b4 <;> intro h <;> cases h <;> rfl

/-- Two lists with extreme ids: CRLF, a padded rule, a comment, no final newline; the second one is
    file-backed and ignores cosmetic rules. -/
def demoLists : List RList :=
  [⟨-2147483648, false, lit " ||a^ \r\n! c\n##b", false⟩, ⟨2147483647, true, lit "##x\n@@\n||y^\n", true⟩]

/-- The scan of the demo storage: three rules; the storage indices are
    `min int32 <<32 | 0`, `… | 12` and `max int32 << 32 | 7`. -/
theorem demo_storageScan : storageScan demoParser demoLists =
    [(⟨.network, lit "||a^", -2147483648⟩, pack (BitVec.ofInt 32 (-2147483648)) (BitVec.ofNat 32 0)),
     (⟨.cosmetic, lit "##b", -2147483648⟩, pack (BitVec.ofInt 32 (-2147483648)) (BitVec.ofNat 32 12)),
     (⟨.network, lit "||y^", 2147483647⟩, pack (BitVec.ofInt 32 2147483647) (BitVec.ofNat 32 7))] := by
  -- the scanner recurses on the length of the input; the reference scan evaluates structurally
  unfold storageScan
  simp only [scanList_eq_spec demoParser_trimsFirst]
  decide +kernel

theorem demo_listsOK : ListsOK demoLists := ⟨by decide +kernel, by decide +kernel, by decide +kernel⟩

end UF.Storage
