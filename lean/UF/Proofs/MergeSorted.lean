import UF.Spec.Match
/- Sorted byte-string lists: `bytes.Compare` is the lexicographic order, the model's insertion sort yields a sorted
   permutation, and the merge over two sorted slices and the binary search decide membership. -/
namespace UF.E
open Bytes

/-- `bytes.Compare` is the lexicographic order of byte lists, so its order facts are those of `List`. -/
theorem cmp_spec (a b : Bytes) :
    (Bytes.cmp a b = .lt ↔ a < b) ∧ (Bytes.cmp a b = .gt ↔ b < a) := by
  induction a generalizing b with
  | nil => cases b <;> simp [Bytes.cmp, List.lt_irrefl]
  | cons x a ih =>
    cases b with
    | nil => simp [Bytes.cmp]
    | cons y b =>
      simp only [Bytes.cmp, List.cons_lt_cons_iff]
      by_cases h1 : x < y
      · have h2 : ¬ y < x := UInt8.lt_asymm h1
        have h3 : y ≠ x := fun e => UInt8.lt_irrefl x (e ▸ h1)
        simp [h1, h2, h3]
      · by_cases h2 : y < x
        · have h3 : x ≠ y := fun e => UInt8.lt_irrefl y (e ▸ h2)
          simp [h1, h2, h3]
        · have : x = y := UInt8.le_antisymm (UInt8.not_lt.mp h2) (UInt8.not_lt.mp h1)
          subst this
          simp [h1, ih]

theorem cmp_lt_iff {a b : Bytes} : Bytes.cmp a b = .lt ↔ a < b := (cmp_spec a b).1

theorem cmp_ne_gt_iff_le {a b : Bytes} : Bytes.cmp a b ≠ .gt ↔ a ≤ b := by
  rw [Ne, (cmp_spec a b).2, List.not_lt]

theorem cmp_gt_iff_lt (a b : Bytes) : Bytes.cmp a b = .gt ↔ Bytes.cmp b a = .lt := by
  rw [(cmp_spec a b).2, cmp_lt_iff]

theorem cmp_eq_iff (a b : Bytes) : Bytes.cmp a b = .eq ↔ a = b := by
  have h := cmp_spec a b
  constructor
  · intro e
    refine List.le_antisymm (List.not_lt.mp fun hl => ?_) (List.not_lt.mp fun hl => ?_)
    · cases e.symm.trans (h.2.mpr hl)
    · cases e.symm.trans (h.1.mpr hl)
  · rintro rfl
    cases hc : Bytes.cmp a a
    · exact absurd (h.1.mp hc) (List.lt_irrefl a)
    · rfl
    · exact absurd (h.2.mp hc) (List.lt_irrefl a)

theorem cmp_refl (a : Bytes) : Bytes.cmp a a = .eq := (cmp_eq_iff a a).mpr rfl

theorem cmp_le_trans {a b c : Bytes} :
    Bytes.cmp a b ≠ .gt → Bytes.cmp b c ≠ .gt → Bytes.cmp a c ≠ .gt := by
  simp only [cmp_ne_gt_iff_le]
  exact List.le_trans

theorem cmp_antisymm {a b : Bytes} : Bytes.cmp a b ≠ .gt → Bytes.cmp b a ≠ .gt → a = b := by
  simp only [cmp_ne_gt_iff_le]
  exact List.le_antisymm

theorem cmp_total (a b : Bytes) : Bytes.cmp a b ≠ .gt ∨ Bytes.cmp b a ≠ .gt := by
  simp only [cmp_ne_gt_iff_le]
  exact List.le_total a b

theorem cmp_lt_of_le_of_lt {a b c : Bytes} :
    Bytes.cmp a b ≠ .gt → Bytes.cmp b c = .lt → Bytes.cmp a c = .lt := by
  simp only [cmp_ne_gt_iff_le, cmp_lt_iff]
  exact List.lt_of_le_of_lt

theorem cmp_lt_of_lt_of_le {a b c : Bytes} :
    Bytes.cmp a b = .lt → Bytes.cmp b c ≠ .gt → Bytes.cmp a c = .lt := by
  simp only [cmp_ne_gt_iff_le, cmp_lt_iff]
  intro h1 h2
  refine Classical.byContradiction fun h => ?_
  exact List.not_lt.mpr h2 (List.lt_of_le_of_lt (List.not_lt.mp h) h1)

theorem cmp_lt_ne {a b : Bytes} (h : Bytes.cmp a b = .lt) : a ≠ b := by
  rintro rfl
  exact List.lt_irrefl a (cmp_lt_iff.mp h)

theorem insertSorted_perm (x : Bytes) (l : List Bytes) :
    (Bytes.insertSorted x l).Perm (x :: l) := by
  induction l with
  | nil => exact List.Perm.refl _
  | cons y ys ih =>
    simp only [Bytes.insertSorted]
    split
    · exact List.Perm.refl _
    · exact (List.Perm.cons y ih).trans (List.Perm.swap x y ys)

theorem sortB_perm (l : List Bytes) : (Bytes.sortB l).Perm l := by
  induction l with
  | nil => exact List.Perm.refl _
  | cons x l ih =>
    show (Bytes.insertSorted x (Bytes.sortB l)).Perm (x :: l)
    exact (insertSorted_perm x _).trans (List.Perm.cons x ih)

theorem insertSorted_sorted (x : Bytes) (l : List Bytes) (h : SortedB l) :
    SortedB (Bytes.insertSorted x l) := by
  induction l with
  | nil => simp [Bytes.insertSorted, SortedB]
  | cons y ys ih =>
    simp only [Bytes.insertSorted]
    have hy := List.pairwise_cons.mp h
    split
    · rename_i hle
      have hxy : Bytes.cmp x y ≠ .gt := by simpa [Bytes.leB] using hle
      refine List.pairwise_cons.mpr ⟨?_, h⟩
      intro z hz
      rcases List.mem_cons.mp hz with rfl | hz
      · exact hxy
      · exact cmp_le_trans hxy (hy.1 z hz)
    · rename_i hle
      have hyx : Bytes.cmp y x ≠ .gt := by
        rcases cmp_total x y with h' | h'
        · exact absurd (by simpa [Bytes.leB] using h') hle
        · exact h'
      refine List.pairwise_cons.mpr ⟨?_, ih hy.2⟩
      intro z hz
      have := (insertSorted_perm x ys).mem_iff.mp hz
      rcases List.mem_cons.mp this with rfl | hz
      · exact hyx
      · exact hy.1 z hz

theorem sortB_sorted (l : List Bytes) : SortedB (Bytes.sortB l) := by
  induction l with
  | nil => simp [Bytes.sortB, SortedB]
  | cons x l ih =>
    show SortedB (Bytes.insertSorted x (Bytes.sortB l))
    exact insertSorted_sorted x _ ih

theorem sorted_perm_eq {l l' : List Bytes} (h : l.Perm l') (hl : SortedB l) (hl' : SortedB l') :
    l = l' := by
  induction l generalizing l' with
  | nil => exact (List.nil_perm.mp h).symm ▸ rfl
  | cons x xs ih =>
    cases l' with
    | nil => exact absurd h.length_eq (by simp)
    | cons y ys =>
      have hx := List.pairwise_cons.mp hl
      have hy := List.pairwise_cons.mp hl'
      have hxy : x = y := by
        have h1 : x ∈ y :: ys := h.mem_iff.mp (List.mem_cons_self)
        have h2 : y ∈ x :: xs := h.mem_iff.mpr (List.mem_cons_self)
        rcases List.mem_cons.mp h1 with e | h1
        · exact e
        · rcases List.mem_cons.mp h2 with e | h2
          · exact e.symm
          · exact cmp_antisymm (hx.1 y h2) (hy.1 x h1)
      subst hxy
      rw [ih (List.Perm.cons_inv h) hx.2 hy.2]

theorem sortB_eq_of_perm {l l' : List Bytes} (h : l.Perm l') : Bytes.sortB l = Bytes.sortB l' :=
  sorted_perm_eq (((sortB_perm l).trans h).trans (sortB_perm l').symm) (sortB_sorted l) (sortB_sorted l')

theorem sortB_of_sorted {l : List Bytes} (h : SortedB l) : Bytes.sortB l = l :=
  sorted_perm_eq (sortB_perm l) (sortB_sorted l) h

/-- What is below the head of a sorted list is not in it. -/
theorem not_mem_of_lt_head {z y : Bytes} {l : List Bytes} (hz : Bytes.cmp z y = .lt)
    (h : SortedB (y :: l)) : z ∉ y :: l := by
  intro hm
  rcases List.mem_cons.mp hm with e | hm
  · exact cmp_lt_ne hz e
  · exact cmp_lt_ne (cmp_lt_of_lt_of_le hz ((List.pairwise_cons.mp h).1 z hm)) rfl

/-- the two-index merge finds a common element iff one exists, given both lists sorted -/
theorem mergeCommon_iff (a b : List Bytes) (ha : SortedB a) (hb : SortedB b) (fuel : Nat)
    (hf : a.length + b.length ≤ fuel) : mergeCommon a b fuel = a.any (fun t => b.contains t) := by
  induction fuel generalizing a b with
  | zero =>
    have : a = [] := List.eq_nil_of_length_eq_zero (by omega)
    subst this
    cases b <;> simp [mergeCommon]
  | succ fuel ih =>
    cases a with
    | nil => simp [mergeCommon]
    | cons x a =>
      cases b with
      | nil => simp [mergeCommon]
      | cons y b =>
        simp only [List.length_cons] at hf
        cases hc : Bytes.cmp x y with
        | eq =>
          have : x = y := (cmp_eq_iff x y).mp hc
          subst this
          simp [mergeCommon, hc]
        | lt =>
          -- `x` is below all of `y :: b`: it is not common, go on with `a`
          simp only [mergeCommon, hc]
          rw [ih a (y :: b) (List.pairwise_cons.mp ha).2 hb (by simp only [List.length_cons]; omega)]
          have hnot : (y :: b).contains x = false := by
            rw [List.contains_eq_mem]
            exact decide_eq_false (not_mem_of_lt_head hc hb)
          simp only [List.any_cons, hnot, Bool.false_or]
        | gt =>
          -- `y` is below all of `x :: a`: nothing of `x :: a` equals it, go on with `b`
          simp only [mergeCommon, hc]
          rw [ih (x :: a) b ha (List.pairwise_cons.mp hb).2 (by simp only [List.length_cons]; omega)]
          have hne : ∀ t, t ∈ x :: a → (y :: b).contains t = b.contains t := fun t ht => by
            have hty : t ≠ y := fun e => not_mem_of_lt_head ((cmp_gt_iff_lt x y).mp hc) ha (e ▸ ht)
            simp [hty]
          rw [Bool.eq_iff_iff, List.any_eq_true, List.any_eq_true]
          constructor
          · rintro ⟨t, ht, h⟩; exact ⟨t, ht, (hne t ht) ▸ h⟩
          · rintro ⟨t, ht, h⟩; exact ⟨t, ht, (hne t ht).symm ▸ h⟩

theorem matchClientTagsSpecific_iff (a b : List Bytes) (ha : SortedB a) (hb : SortedB b) :
    matchClientTagsSpecific a b = a.any (fun t => b.contains t) :=
  mergeCommon_iff a b ha hb _ (Nat.le_refl _)

theorem toArray_getD_of_lt (xs : List Bytes) (i : Nat) (h : i < xs.length) :
    xs.toArray.getD i [] = xs[i] := by
  simp [Array.getD, h]

theorem sorted_getElem_le {xs : List Bytes} (h : SortedB xs) {i j : Nat} (hij : i ≤ j)
    (hj : j < xs.length) : Bytes.cmp (xs[i]'(by omega)) xs[j] ≠ .gt := by
  rcases Nat.lt_or_eq_of_le hij with hlt | heq
  · exact List.pairwise_iff_getElem.mp h i j (by omega) hj hlt
  · subst heq; rw [cmp_refl]; simp

theorem bsearch_go_eq (xs : List Bytes) (x : Bytes) (h : SortedB xs) (fuel lo hi : Nat)
    (hlo : ∀ i (hi' : i < xs.length), i < lo → Bytes.cmp xs[i] x = .lt)
    (hhi : ∀ i (hi' : i < xs.length), hi ≤ i → Bytes.cmp xs[i] x ≠ .lt)
    (hle : lo ≤ hi) (hn : hi ≤ xs.length) (hfuel : hi - lo < fuel) :
    bsearch.go xs.toArray x lo hi fuel = xs.contains x := by
  induction fuel generalizing lo hi with
  | zero => omega
  | succ fuel ih =>
    unfold bsearch.go
    by_cases hlt : lo < hi
    · simp only [hlt, if_true]
      -- all that matters of the middle index
      obtain ⟨mid, hmid, h1, h2⟩ : ∃ mid, (lo + hi) / 2 = mid ∧ lo ≤ mid ∧ mid < hi :=
        ⟨_, rfl, by omega, by omega⟩
      rw [hmid, toArray_getD_of_lt xs mid (by omega)]
      -- not to the right of `mid` when the middle element is not smaller (`eq`, `gt`)
      have hright : Bytes.cmp (xs[mid]'(by omega)) x ≠ .lt → ∀ i (hi' : i < xs.length), mid ≤ i →
          Bytes.cmp xs[i] x ≠ .lt := fun hc i hi' hi2 hcon =>
        hc (cmp_lt_of_le_of_lt (sorted_getElem_le h hi2 hi') hcon)
      cases hc : Bytes.cmp (xs[mid]'(by omega)) x with
      | lt =>
        refine ih _ _ (fun i hi' hi2 => ?_) hhi (by omega) hn (by omega)
        exact cmp_lt_of_le_of_lt (sorted_getElem_le h (by omega) (by omega)) hc
      | eq => exact ih _ _ hlo (hright (by rw [hc]; nofun)) (by omega) (by omega) (by omega)
      | gt => exact ih _ _ hlo (hright (by rw [hc]; nofun)) (by omega) (by omega) (by omega)
    · have heq : lo = hi := by omega
      subst heq
      simp only [hlt, if_false, List.size_toArray]
      rw [Bool.eq_iff_iff, List.contains_iff_mem]
      constructor
      · intro hh
        simp only [Bool.and_eq_true, decide_eq_true_eq, beq_iff_eq] at hh
        rw [toArray_getD_of_lt xs _ hh.1] at hh
        rw [← hh.2]; exact List.getElem_mem _
      · intro hm
        obtain ⟨j, hj, hjx⟩ := List.mem_iff_getElem.mp hm
        have hjlo : lo ≤ j := by
          apply Nat.le_of_not_lt
          intro hjl
          have := hlo j hj hjl
          rw [hjx, cmp_refl] at this; cases this
        have hlon : lo < xs.length := by omega
        simp only [Bool.and_eq_true, decide_eq_true_eq, beq_iff_eq]
        refine ⟨hlon, ?_⟩
        rw [toArray_getD_of_lt xs _ hlon]
        have h1 : Bytes.cmp xs[lo] x ≠ .gt := by
          have := sorted_getElem_le h hjlo hj
          rwa [hjx] at this
        have h2 : Bytes.cmp x xs[lo] ≠ .gt := by
          intro hg
          exact hhi lo hlon (Nat.le_refl _) ((cmp_gt_iff_lt _ _).mp hg)
        exact cmp_antisymm h1 h2

theorem bsearch_iff (xs : List Bytes) (x : Bytes) (h : SortedB xs) :
    bsearch xs.toArray x = xs.contains x := by
  unfold bsearch
  simp only [List.size_toArray]
  apply bsearch_go_eq xs x h
  · intro i _ hi; omega
  · intro i hi' hi; omega
  · omega
  · omega
  · omega

end UF.E
