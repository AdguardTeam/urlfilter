import UF.Model.ParseOptions
import UF.Spec.Match
import UF.Proofs.MergeSorted
import UF.Proofs.MatchSpec
import UF.Proofs.ParseTotal
/- The order of the values inside a modifier: the value loops of the parser, run on permuted values, end in records
   that differ only by a permutation of the value lists (`PermEquiv`). -/
namespace UF.E
open Bytes

/-- two parser results agree up to R on success and exactly on failure -/
def PE.Rel {α} (R : α → α → Prop) : PE α → PE α → Prop
  | .ok a, .ok b => R a b
  | .error e, .error e' => e = e'
  | _, _ => False
def sepFree (sep : UInt8) (l : List Bytes) : Prop := ∀ x ∈ l, sep ∉ x

theorem splitByte_go_nosep (sep : UInt8) (x cur : Bytes) (hx : sep ∉ x) :
    splitByte.go sep x cur = [cur.reverse ++ x] :=
  H.splitByte_go_free sep x cur (List.all_eq_true.2 fun _ hy => bne_iff_ne.2 fun e => hx (e ▸ hy))

theorem splitByte_go_sep (sep : UInt8) (x t cur : Bytes) (hx : sep ∉ x) :
    splitByte.go sep (x ++ sep :: t) cur = (cur.reverse ++ x) :: splitByte.go sep t [] := by
  rw [H.splitByte_go_append_sep, splitByte_go_nosep sep x cur hx]
  rfl

/-- Split is a left inverse of Join on separator-free, non-empty lists of values -/
theorem splitByte_joinSep (l : List Bytes) (sep : UInt8) (hne : l ≠ []) (hs : sepFree sep l) :
    splitByte (joinSep l [sep]) sep = l := by
  induction l with
  | nil => exact absurd rfl hne
  | cons p ps ih =>
    cases ps with
    | nil =>
      simp only [joinSep, splitByte]
      rw [splitByte_go_nosep sep p [] (hs p List.mem_cons_self)]
      simp
    | cons q qs =>
      have ih' := ih (by simp) (fun x hx => hs x (List.mem_cons_of_mem _ hx))
      simp only [joinSep, splitByte, List.append_assoc, List.singleton_append] at ih' ⊢
      rw [splitByte_go_sep sep p _ [] (hs p List.mem_cons_self), ih']
      simp

theorem PE.Rel.bind {α β} {R : α → α → Prop} {S : β → β → Prop} {x x' : PE α} {f f' : α → PE β}
    (hx : PE.Rel R x x') (hf : ∀ a a', R a a' → PE.Rel S (f a) (f' a')) :
    PE.Rel S (x >>= f) (x' >>= f') := by
  cases x with
  | error e =>
    cases x' with
    | error e' => exact hx
    | ok b => exact hx.elim
  | ok a =>
    cases x' with
    | error e' => exact hx.elim
    | ok b => exact hf a b hx

theorem PE.Rel.trans {α} {R : α → α → Prop} (ht : ∀ a b c, R a b → R b c → R a c) {x y z : PE α}
    (h1 : PE.Rel R x y) (h2 : PE.Rel R y z) : PE.Rel R x z := by
  cases x <;> cases y <;> cases z <;> simp only [PE.Rel] at h1 h2 ⊢
  · exact h1.trans h2
  · exact ht _ _ _ h1 h2

theorem PE.Rel.mono {α} {R S : α → α → Prop} (h : ∀ a b, R a b → S a b) {x y : PE α}
    (h1 : PE.Rel R x y) : PE.Rel S x y := by
  cases x <;> cases y <;> simp only [PE.Rel] at h1 ⊢
  · exact h1
  · exact h _ _ h1

theorem PE.Rel.eq_of_eq {α} {x y : PE α} (h : PE.Rel (· = ·) x y) : x = y := by
  cases x <;> cases y <;> simp only [PE.Rel] at h
  · rw [h]
  · rw [h]

/-- "classify, then update": the step reads the accumulator only in a final pure update -/
def Cls {γ σ} (upd : σ → γ → σ) (F : σ → PE σ) : Prop :=
  ∃ cx : PE γ, ∀ a, F a = cx >>= fun g => pure (upd a g)

theorem Cls.bind {β γ σ} {upd : σ → γ → σ} (m : PE β) (F : β → σ → PE σ)
    (h : ∀ v, Cls upd (F v)) : Cls upd (fun a => m >>= fun v => F v a) := by
  cases m with
  | error e => exact ⟨.error e, fun a => rfl⟩
  | ok v => obtain ⟨cx, hcx⟩ := h v; exact ⟨cx, fun a => hcx a⟩

theorem Cls.ite {γ σ} {upd : σ → γ → σ} (c : Prop) [Decidable c] {X Y : σ → PE σ}
    (hX : Cls upd X) (hY : Cls upd Y) : Cls upd (fun a => if c then X a else Y a) := by
  by_cases h : c
  · obtain ⟨cx, hcx⟩ := hX; exact ⟨cx, fun a => (if_pos h).trans (hcx a)⟩
  · obtain ⟨cx, hcx⟩ := hY; exact ⟨cx, fun a => (if_neg h).trans (hcx a)⟩

theorem Cls.throw {γ σ} {upd : σ → γ → σ} (e : PErr) : Cls upd (fun _ : σ => (throw e : PE σ)) :=
  ⟨.error e, fun _ => rfl⟩

theorem foldlM_rel_same {α σ} (R : σ → σ → Prop) (step : σ → α → PE σ)
    (hstep : ∀ a a' x, R a a' → PE.Rel R (step a x) (step a' x)) :
    ∀ (l : List α) a a', R a a' → PE.Rel R (l.foldlM step a) (l.foldlM step a') := by
  intro l
  induction l with
  | nil => intro a a' r; simpa [List.foldlM, pure, Except.pure, PE.Rel] using r
  | cons x l ih =>
    intro a a' r
    simp only [List.foldlM_cons]
    exact PE.Rel.bind (hstep a a' x r) ih

theorem foldlM_perm_rel {α σ} (R : σ → σ → Prop) (step : σ → α → PE σ)
    (hrefl : ∀ a, R a a) (htrans : ∀ a b c, R a b → R b c → R a c)
    (hstep : ∀ a a' x, R a a' → PE.Rel R (step a x) (step a' x))
    (hswap : ∀ a a' x y, R a a' →
      PE.Rel R (step a y >>= fun b => step b x) (step a' x >>= fun b => step b y))
    {l l' : List α} (h : l.Perm l') :
    ∀ a a', R a a' → PE.Rel R (l.foldlM step a) (l'.foldlM step a') := by
  induction h with
  | nil => intro a a' r; simpa [List.foldlM, pure, Except.pure, PE.Rel] using r
  | cons x _ ih =>
    intro a a' r
    simp only [List.foldlM_cons]
    exact PE.Rel.bind (hstep a a' x r) ih
  | swap x y l =>
    intro a a' r
    simp only [List.foldlM_cons]
    rw [← bind_assoc, ← bind_assoc]
    exact PE.Rel.bind (hswap a a' x y r) (foldlM_rel_same R step hstep l)
  | trans _ _ ih1 ih2 =>
    intro a a' r
    exact PE.Rel.trans htrans (ih1 a a' r) (ih2 a' a' (hrefl a'))

/-- Steps of the shape "classify the item (may fail, never panics), then update the accumulator". -/
theorem foldlM_perm_classify {α γ σ} (R : σ → σ → Prop) (step : σ → α → PE σ) (upd : σ → γ → σ)
    (hcls : ∀ x, Cls upd (fun a => step a x))
    (hnp : ∀ a x, step a x ≠ .error .panic)
    (hrefl : ∀ a, R a a) (htrans : ∀ a b c, R a b → R b c → R a c)
    (hupd : ∀ a a' g, R a a' → R (upd a g) (upd a' g))
    (hcomm : ∀ a g g', R (upd (upd a g) g') (upd (upd a g') g))
    {l l' : List α} (h : l.Perm l') :
    ∀ a a', R a a' → PE.Rel R (l.foldlM step a) (l'.foldlM step a') := by
  have herr : ∀ (a : σ) x (cx : PE γ) e, (∀ a, step a x = cx >>= fun g => pure (upd a g)) →
      cx = .error e → e = .err := by
    intro a x cx e hc he
    have := hnp a x
    rw [hc a, he] at this
    cases e with
    | panic => exact absurd rfl this
    | err => rfl
  refine foldlM_perm_rel R step hrefl htrans ?_ ?_ h
  · intro a a' x r
    obtain ⟨cx, hc⟩ : ∃ cx : PE γ, ∀ a, step a x = cx >>= fun g => pure (upd a g) := hcls x
    rw [hc a, hc a']
    cases cx with
    | error e => exact rfl
    | ok g => exact hupd a a' g r
  · intro a a' x y r
    obtain ⟨cx, hcx⟩ : ∃ cx : PE γ, ∀ a, step a x = cx >>= fun g => pure (upd a g) := hcls x
    obtain ⟨cy, hcy⟩ : ∃ cy : PE γ, ∀ a, step a y = cy >>= fun g => pure (upd a g) := hcls y
    have ex := herr a x cx
    have ey := herr a y cy
    simp only [hcx, hcy]
    cases cx with
    | error e1 =>
      cases cy with
      | error e2 =>
        have := ex e1 hcx rfl
        have := ey e2 hcy rfl
        subst_vars
        exact rfl
      | ok g2 => exact rfl
    | ok g1 =>
      cases cy with
      | error e2 => exact rfl
      | ok g2 =>
        show R (upd (upd a g2) g1) (upd (upd a' g1) g2)
        exact htrans _ _ _ (hcomm a g2 g1) (hupd _ _ g2 (hupd _ _ g1 r))

/-- append the classified value to the restricted (`true`) or to the permitted (`false`) list -/
def upd2 {β} (acc : List β × List β) (g : Bool × β) : List β × List β :=
  if g.1 then (acc.1, acc.2 ++ [g.2]) else (acc.1 ++ [g.2], acc.2)

theorem Cls.leaf2 {β} (b : Bool) (v : β) :
    Cls upd2 (fun a : List β × List β =>
      if b = true then (pure (a.1, a.2 ++ [v]) : PE _) else pure (a.1 ++ [v], a.2)) :=
  ⟨.ok (b, v), fun a => by cases b <;> rfl⟩

theorem foldlM_perm_pair {α β} (step : List β × List β → α → PE (List β × List β))
    (hcls : ∀ x, Cls upd2 (fun a => step a x))
    (hnp : ∀ a x, step a x ≠ .error .panic) {l l' : List α} (h : l.Perm l') :
    PE.Rel (fun a b => a.1.Perm b.1 ∧ a.2.Perm b.2) (l.foldlM step ([], [])) (l'.foldlM step ([], [])) := by
  refine foldlM_perm_classify (fun a b => a.1.Perm b.1 ∧ a.2.Perm b.2) step upd2 hcls hnp
    (fun a => ⟨List.Perm.refl _, List.Perm.refl _⟩)
    (fun a b c h1 h2 => ⟨h1.1.trans h2.1, h1.2.trans h2.2⟩) ?_ ?_ h _ _
    ⟨List.Perm.refl _, List.Perm.refl _⟩
  · intro a a' g r
    obtain ⟨b, v⟩ := g
    cases b
    · exact ⟨r.1.append_right _, r.2⟩
    · exact ⟨r.1, r.2.append_right _⟩
  · intro a g g'
    obtain ⟨b, v⟩ := g
    obtain ⟨b', v'⟩ := g'
    cases b <;> cases b' <;> simp only [upd2, Bool.false_eq_true, ↓reduceIte]
    · refine ⟨?_, List.Perm.refl _⟩
      rw [List.append_assoc, List.append_assoc]
      exact List.Perm.append_left _ (List.Perm.swap _ _ _)
    · exact ⟨List.Perm.refl _, List.Perm.refl _⟩
    · exact ⟨List.Perm.refl _, List.Perm.refl _⟩
    · refine ⟨List.Perm.refl _, ?_⟩
      rw [List.append_assoc, List.append_assoc]
      exact List.Perm.append_left _ (List.Perm.swap _ _ _)

theorem loadCTags_items_perm {l l' : List Bytes} (h : l.Perm l') :
    PE.Rel (fun a b => a.1.Perm b.1 ∧ a.2.Perm b.2) (l.foldlM loadCTagsStep ([], [])) (l'.foldlM loadCTagsStep ([], [])) :=
  foldlM_perm_pair loadCTagsStep (fun x => by
    -- along the shape of the `do` block: binds, `if`s, `throw`s, and the update at the leaves
    unfold loadCTagsStep
    dsimp only
    with_reducible repeat' first
      | exact Cls.leaf2 _ _
      | exact Cls.throw _
      | apply Cls.ite
      | (apply Cls.bind; intro _)) loadCTagsStep_noPanic h

theorem ne_nil_perm {α} {l l' : List α} (h : l.Perm l') (hne : l ≠ []) : l' ≠ [] := by
  intro e; subst e; exact hne h.eq_nil

/-- Only no value at all or one empty value joins to the empty text. -/
theorem joinSep_eq_nil_iff (l : List Bytes) (sep : UInt8) :
    joinSep l [sep] = [] ↔ l = [] ∨ l = [[]] := by
  match l with
  | [] => simp [joinSep]
  | [p] => simp [joinSep]
  | p :: q :: ps => simp [joinSep]

/-- What is computed from `strings.Split` of the joined values is computed from the values, so the order
    in which they are written matters only as far as it matters to that computation. -/
theorem split_join_perm {σ} {R : σ → σ → Prop} {F : List Bytes → PE σ} {sep : UInt8}
    (hitems : ∀ {l l' : List Bytes}, l.Perm l' → PE.Rel R (F l) (F l'))
    {l l' : List Bytes} (h : l.Perm l') (hne : l ≠ []) (hs : sepFree sep l) :
    PE.Rel R
      (if (joinSep l [sep]).isEmpty then throw .err else F (splitByte (joinSep l [sep]) sep))
      (if (joinSep l' [sep]).isEmpty then throw .err else F (splitByte (joinSep l' [sep]) sep)) := by
  have hemp : (joinSep l [sep]).isEmpty = (joinSep l' [sep]).isEmpty := by
    rw [Bool.eq_iff_iff, List.isEmpty_iff, List.isEmpty_iff, joinSep_eq_nil_iff, joinSep_eq_nil_iff]
    exact or_congr ⟨fun e => (e ▸ h).symm.eq_nil, fun e => (e ▸ h).eq_nil⟩
      ⟨fun e => List.perm_singleton.mp (e ▸ h).symm, fun e => List.perm_singleton.mp (e ▸ h)⟩
  rw [hemp]
  split
  · exact rfl
  · rw [splitByte_joinSep l _ hne hs,
      splitByte_joinSep l' _ (ne_nil_perm h hne) fun x hx => hs x (h.mem_iff.mpr hx)]
    exact hitems h

/-- for tags the parser sorts: the results are EQUAL -/
theorem loadCTags_perm {l l' : List Bytes} (h : l.Perm l') (hne : l ≠ []) (hs : sepFree (ch '|') l) :
    loadCTags (joinSep l [ch '|']) = loadCTags (joinSep l' [ch '|']) := by
  refine PE.Rel.eq_of_eq (split_join_perm (F := fun vs => do
    let (p, r) ← vs.foldlM loadCTagsStep ([], [])
    pure (sortB p, sortB r)) (fun h => PE.Rel.bind (loadCTags_items_perm h) ?_) h hne hs)
  rintro ⟨a1, a2⟩ ⟨b1, b2⟩ ⟨h1, h2⟩
  show (sortB a1, sortB a2) = (sortB b1, sortB b2)
  rw [sortB_eq_of_perm h1, sortB_eq_of_perm h2]

theorem loadDomains_items_perm {l l' : List Bytes} (h : l.Perm l') :
    PE.Rel (fun a b => a.1.Perm b.1 ∧ a.2.Perm b.2) (l.foldlM loadDomainsStep ([], [])) (l'.foldlM loadDomainsStep ([], [])) :=
  foldlM_perm_pair loadDomainsStep (fun x => by
    unfold loadDomainsStep
    dsimp only
    with_reducible repeat' first
      | exact Cls.leaf2 _ _
      | exact Cls.throw _
      | apply Cls.ite
      | (apply Cls.bind; intro _)) loadDomainsStep_noPanic h

/-- text level: writing the `|`-separated values in another order -/
theorem loadDomains_perm {l l' : List Bytes} (h : l.Perm l') (hne : l ≠ []) (hs : sepFree (ch '|') l) :
    PE.Rel (fun a b => a.1.Perm b.1 ∧ a.2.Perm b.2) (loadDomains (joinSep l [ch '|']) (ch '|')) (loadDomains (joinSep l' [ch '|']) (ch '|')) :=
  split_join_perm (F := fun vs => vs.foldlM loadDomainsStep ([], [])) loadDomains_items_perm h hne hs

theorem loadDNSTypes_items_perm {l l' : List Bytes} (h : l.Perm l') :
    PE.Rel (fun a b => a.1.Perm b.1 ∧ a.2.Perm b.2) (l.foldlM loadDNSTypesStep ([], [])) (l'.foldlM loadDNSTypesStep ([], [])) :=
  foldlM_perm_pair loadDNSTypesStep (fun x => by
    unfold loadDNSTypesStep
    dsimp only
    with_reducible repeat' first
      | exact Cls.leaf2 _ _
      | exact Cls.throw _
      | apply Cls.ite
      | (apply Cls.bind; intro _)) loadDNSTypesStep_noPanic h

theorem loadDNSTypes_perm {l l' : List Bytes} (h : l.Perm l') (hne : l ≠ []) (hs : sepFree (ch '|') l) :
    PE.Rel (fun a b => a.1.Perm b.1 ∧ a.2.Perm b.2) (loadDNSTypes (joinSep l [ch '|'])) (loadDNSTypes (joinSep l' [ch '|'])) :=
  split_join_perm (F := fun vs => vs.foldlM loadDNSTypesStep ([], [])) loadDNSTypes_items_perm h hne hs

def updC (ext : Ext) (acc : Option Clients × Option Clients) (g : Bool × Bytes) :
    Option Clients × Option Clients :=
  if g.1 then (acc.1, addClient ext acc.2 g.2) else (addClient ext acc.1 g.2, acc.2)

theorem Cls.leafC (ext : Ext) (b : Bool) (c : Bytes) :
    Cls (updC ext) (fun a => if b = true then (pure (a.1, addClient ext a.2 c) : PE _)
      else pure (addClient ext a.1 c, a.2)) :=
  ⟨.ok (b, c), fun a => by cases b <;> rfl⟩

theorem loadClientsStep_cls (ext : Ext) (x : Bytes) :
    Cls (updC ext) (fun a => loadClientsStep ext a x) := by
  unfold loadClientsStep
  dsimp only
  with_reducible repeat' first
    | exact Cls.leafC ext _ _
    | exact Cls.throw _
    | apply Cls.ite
    | (apply Cls.bind; intro _)

/-- what `clients.add` appends: (host names, subnets); it depends on the item only -/
def clientDelta (ext : Ext) (client : Bytes) : List Bytes × List Prefix :=
  if isProbablyIP client then
    match ext.parseAddr client with
    | some ip => ([], [{ addr := ip, bits := ip.bitLen }])
    | none => ([client], [])
  else if hasSub client (lit "/") then
    match ext.parsePrefix client with
    | some p => ([], [p])
    | none => ([client], [])
  else ([client], [])

theorem Clients.add_eq (ext : Ext) (c : Clients) (x : Bytes) :
    Clients.add ext c x =
      { hosts := c.hosts ++ (clientDelta ext x).1, nets := c.nets ++ (clientDelta ext x).2 } := by
  unfold Clients.add clientDelta
  split
  · cases ext.parseAddr x <;> simp
  · split
    · cases ext.parsePrefix x <;> simp
    · simp

/-- the accumulators before `finalize`: same host names and subnets up to order -/
def ClientsPerm : Option Clients → Option Clients → Prop
  | none, none => True
  | some a, some b => a.hosts.Perm b.hosts ∧ a.nets.Perm b.nets
  | _, _ => False

theorem ClientsPerm.refl (a : Option Clients) : ClientsPerm a a := by
  cases a with
  | none => trivial
  | some a => exact ⟨List.Perm.refl _, List.Perm.refl _⟩

theorem ClientsPerm.trans {a b c : Option Clients} (h1 : ClientsPerm a b) (h2 : ClientsPerm b c) :
    ClientsPerm a c := by
  cases a <;> cases b <;> cases c <;> simp only [ClientsPerm] at h1 h2 ⊢
  exact ⟨h1.1.trans h2.1, h1.2.trans h2.2⟩

theorem addClient_perm (ext : Ext) {c c' : Option Clients} (h : ClientsPerm c c') (x : Bytes) :
    ClientsPerm (addClient ext c x) (addClient ext c' x) := by
  cases c <;> cases c' <;> simp only [ClientsPerm] at h
  · exact ClientsPerm.refl _
  · simp only [addClient, Option.getD_some, Clients.add_eq, ClientsPerm]
    exact ⟨h.1.append_right _, h.2.append_right _⟩

theorem addClient_comm (ext : Ext) (c : Option Clients) (x y : Bytes) :
    ClientsPerm (addClient ext (addClient ext c x) y) (addClient ext (addClient ext c y) x) := by
  simp only [addClient, Option.getD_some, Clients.add_eq, ClientsPerm, List.append_assoc]
  exact ⟨List.Perm.append_left _ List.perm_append_comm, List.Perm.append_left _ List.perm_append_comm⟩

theorem ClientsPerm.finalize {a b : Option Clients} (h : ClientsPerm a b) :
    Clients.PermEquiv (Clients.finalize a) (Clients.finalize b) := by
  cases a <;> cases b <;> simp only [ClientsPerm] at h
  · simp [Clients.finalize, Clients.PermEquiv]
  · rename_i a b
    cases a; cases b
    exact finalize_permEquiv _ _ _ _ h.1 h.2

theorem loadClients_items_perm (ext : Ext) {l l' : List Bytes} (h : l.Perm l') :
    PE.Rel (fun a b => Clients.PermEquiv (Clients.finalize a.1) (Clients.finalize b.1) ∧
                       Clients.PermEquiv (Clients.finalize a.2) (Clients.finalize b.2))
      (l.foldlM (loadClientsStep ext) (none, none)) (l'.foldlM (loadClientsStep ext) (none, none)) := by
  refine PE.Rel.mono (R := fun a b => ClientsPerm a.1 b.1 ∧ ClientsPerm a.2 b.2)
    (fun a b r => ⟨r.1.finalize, r.2.finalize⟩) ?_
  refine foldlM_perm_classify _ (loadClientsStep ext) (updC ext) (loadClientsStep_cls ext)
    (loadClientsStep_noPanic ext)
    (fun a => ⟨ClientsPerm.refl _, ClientsPerm.refl _⟩)
    (fun a b c h1 h2 => ⟨h1.1.trans h2.1, h1.2.trans h2.2⟩) ?_ ?_ h _ _
    ⟨ClientsPerm.refl _, ClientsPerm.refl _⟩
  · intro a a' g r
    obtain ⟨b, v⟩ := g
    cases b
    · exact ⟨addClient_perm ext r.1 v, r.2⟩
    · exact ⟨r.1, addClient_perm ext r.2 v⟩
  · intro a g g'
    obtain ⟨b, v⟩ := g
    obtain ⟨b', v'⟩ := g'
    cases b <;> cases b' <;> simp only [updC, Bool.false_eq_true, ↓reduceIte]
    · exact ⟨addClient_comm ext _ _ _, ClientsPerm.refl _⟩
    · exact ⟨ClientsPerm.refl _, ClientsPerm.refl _⟩
    · exact ⟨ClientsPerm.refl _, ClientsPerm.refl _⟩
    · exact ⟨ClientsPerm.refl _, addClient_comm ext _ _ _⟩

end UF.E
