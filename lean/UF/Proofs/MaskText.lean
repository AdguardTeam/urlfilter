import UF.Model.Mask
import UF.Proofs.ShortcutBytes
import UF.Proofs.BytesSearch
/-
  C03, text level: the step-by-step model of `patternToRegexp` equals the closed form
  `maskText` (start text ++ one piece per body byte ++ end text) for every pattern that is neither an
  any-URL pattern nor a `/regex/`, and it never panics.
-/
namespace UF.Mask
open UF UF.MaskSpec

/-- Every entry of `specialCharReplacer` puts a backslash before its byte. -/
theorem escapeTable_shape : ∀ p ∈ Facts.escapeTable, p.2 = [92, p.1] := by decide

theorem escByte_cases (b : UInt8) : escByte b = [b] ∨ escByte b = [92, b] := by
  unfold escByte
  cases h : Facts.escapeTable.lookup b with
  | none => exact .inl rfl
  | some v =>
    obtain ⟨l₁, l₂, hl, _⟩ := List.lookup_eq_some_iff.1 h
    exact .inr (escapeTable_shape (b, v) (by rw [hl]; simp))

theorem escByte_pipe : escByte 124 = [124] := by decide

/-! ### `strings.ReplaceAll` with a one-byte `old` is a byte-wise map -/

def subst1 (c : UInt8) (new : Bytes) (b : UInt8) : Bytes := if b == c then new else [b]

theorem replaceAll_single (s : Bytes) (c : UInt8) (new : Bytes) :
    Bytes.replaceAll s [c] new = s.flatMap (subst1 c new) := by
  unfold Bytes.replaceAll
  simp only [List.isEmpty_cons, Bool.false_eq_true, ↓reduceIte]
  induction s with
  | nil => simp [Bytes.replaceAll.go]
  | cons a t ih =>
    simp only [Bytes.replaceAll.go, Bytes.hasPrefix, List.flatMap_cons, subst1]
    cases h : a == c <;> simp [ih]

/-! ### Checked slices on strings of a known shape -/

theorem sliceZ_nat (s : Bytes) (i j : Nat) (h1 : i ≤ j) (h2 : j ≤ s.length) :
    sliceZ? s (i : Int) (j : Int) = some ((s.take j).drop i) := by
  simp [sliceZ?, Bytes.slice?, h1, h2]

theorem escapeInnerPipes_eq (a m : Bytes) (l : UInt8) :
    escapeInnerPipes (a ++ m ++ [l]) a.length
      = some (a ++ m.flatMap (subst1 124 [92, 124]) ++ [l]) := by
  have hlen : lenZ (a ++ m ++ [l]) - 1 = ((a.length + m.length : Nat) : Int) := by
    simp [lenZ]; omega
  have hlen2 : lenZ (a ++ m ++ [l]) = ((a.length + m.length + 1 : Nat) : Int) := by
    simp [lenZ]; omega
  have t1 : (a ++ m ++ [l]).take a.length = a := by
    rw [List.append_assoc]; exact List.take_left' rfl
  have t2 : (a ++ m ++ [l]).take (a.length + m.length) = a ++ m :=
    List.take_left' (by simp)
  have t3 : (a ++ m ++ [l]).take (a.length + m.length + 1) = a ++ m ++ [l] :=
    List.take_of_length_le (by simp; omega)
  have d2 : (a ++ m).drop a.length = m := List.drop_left' rfl
  have d3 : (a ++ m ++ [l]).drop (a.length + m.length) = [l] := List.drop_left' (by simp)
  unfold escapeInnerPipes
  rw [hlen, hlen2]
  rw [show ((0 : Int)) = ((0 : Nat) : Int) from rfl]
  rw [sliceZ_nat _ 0 a.length (by omega) (by simp)]
  rw [sliceZ_nat _ a.length (a.length + m.length) (by omega) (by simp)]
  rw [sliceZ_nat _ (a.length + m.length) (a.length + m.length + 1) (by omega) (by simp; omega)]
  rw [t1, t2, t3, d2, d3]
  simp [Facts.MaskPipe, escapedPipe, replaceAll_single]

theorem sliceZ_from (s : Bytes) (k : Nat) (h : k ≤ s.length) :
    sliceZ? s (k : Int) (lenZ s) = some (s.drop k) := by
  unfold lenZ
  rw [sliceZ_nat _ k s.length h (Nat.le_refl _)]
  simp

theorem sliceZ_dropLast (s : Bytes) (x : UInt8) :
    sliceZ? (s ++ [x]) 0 (lenZ (s ++ [x]) - 1) = some s := by
  have : lenZ (s ++ [x]) - 1 = ((s.length : Nat) : Int) := by simp [lenZ]
  rw [this, show ((0 : Int)) = ((0 : Nat) : Int) from rfl, sliceZ_nat _ 0 s.length (by omega) (by simp)]
  simp

theorem hasPrefix_single (s : Bytes) (c : UInt8) : Bytes.hasPrefix s [c] = (s.head? == some c) := by
  cases s with
  | nil => simp [Bytes.hasPrefix]
  | cons a t => simp [Bytes.hasPrefix]

theorem hasSuffix_single (s : Bytes) (c : UInt8) : Bytes.hasSuffix s [c] = (s.getLast? == some c) := by
  unfold Bytes.hasSuffix
  rw [List.reverse_singleton, hasPrefix_single, List.head?_reverse]

theorem hasPrefix_cons_cons (a b c d : UInt8) (t : Bytes) :
    Bytes.hasPrefix (a :: b :: t) [c, d] = (a == c && b == d) := by
  simp [Bytes.hasPrefix]

theorem hasPrefix_short (a : UInt8) (p : Bytes) (c d : UInt8) : Bytes.hasPrefix [a] (c :: d :: p) = false := by
  simp [Bytes.hasPrefix]

/-! ### The steps after the pipe escaping -/

def startBytes : Start → Bytes
  | .none => []
  | .pipe => [124]
  | .dbl => [124, 124]

def endBytes (e : Bool) : Bytes := if e then [124] else []

/-- `*` and `^` expanded, byte by byte. -/
def expand2 (m : Bytes) : Bytes :=
  (m.flatMap (subst1 42 Facts.RegexAnyCharacter)).flatMap (subst1 94 Facts.RegexSeparator)

theorem expand2_append (a b : Bytes) : expand2 (a ++ b) = expand2 a ++ expand2 b := by
  simp [expand2]

theorem expand2_startBytes (s : Start) : expand2 (startBytes s) = startBytes s := by
  cases s <;> simp [expand2, startBytes, subst1]

theorem expand2_endBytes (e : Bool) : expand2 (endBytes e) = endBytes e := by
  cases e <;> simp [expand2, endBytes, subst1]

/-- The start marker is recognised by its own bytes (the byte after it is not a pipe). -/
theorem hasPrefix_startBytes (s : Start) (Y : Bytes) (hhead : s ≠ .dbl → Y.head? ≠ some 124) :
    Bytes.hasPrefix (startBytes s ++ Y) Facts.MaskStartURL = decide (s = .dbl) ∧
    Bytes.hasPrefix (startBytes s ++ Y) Facts.MaskPipe = decide (s ≠ .none) := by
  cases s with
  | dbl => simp [startBytes, Facts.MaskStartURL, Facts.MaskPipe, Bytes.hasPrefix]
  | pipe =>
    have := hhead (by simp)
    cases Y with
    | nil => exact ⟨rfl, rfl⟩
    | cons y t => simp_all [startBytes, Facts.MaskStartURL, Facts.MaskPipe, Bytes.hasPrefix]
  | none =>
    have := hhead (by simp)
    match Y with
    | [] => exact ⟨rfl, rfl⟩
    | [y] | y :: _ :: _ => simp_all [startBytes, Facts.MaskStartURL, Facts.MaskPipe, Bytes.hasPrefix]

theorem replaceStart_eq (s : Start) (Y : Bytes) (hhead : s ≠ .dbl → Y.head? ≠ some 124) :
    replaceStart (startBytes s ++ Y) = some (startText s ++ Y) := by
  obtain ⟨h1, h2⟩ := hasPrefix_startBytes s Y hhead
  unfold replaceStart
  rw [h1, h2]
  cases s with
  | dbl => simpa [startBytes, startText, Facts.MaskStartURL] using sliceZ_from (124 :: 124 :: Y) 2 (by simp)
  | pipe => simpa [startBytes, startText, Facts.MaskPipe] using sliceZ_from (124 :: Y) 1 (by simp)
  | none => simp [startBytes, startText]

theorem replaceEnd_eq (Z : Bytes) (e : Bool) (hlast : e = false → Z.getLast? ≠ some 124) :
    replaceEnd (Z ++ endBytes e) = some (Z ++ endText e) := by
  unfold replaceEnd
  cases e with
  | true =>
    have : Bytes.hasSuffix (Z ++ endBytes true) Facts.MaskPipe = true := by
      simp [Facts.MaskPipe, hasSuffix_single, endBytes]
    rw [if_pos this]
    simp only [endBytes, ↓reduceIte]
    rw [sliceZ_dropLast]
    simp [endText]
  | false =>
    have : Bytes.hasSuffix (Z ++ endBytes false) Facts.MaskPipe = false := by
      simp only [Facts.MaskPipe, hasSuffix_single, endBytes]
      simpa using hlast rfl
    rw [if_neg (by simp [this])]
    simp [endText, endBytes]

theorem expandMasks_eq (s : Start) (m : Bytes) (e : Bool)
    (hhead : s ≠ .dbl → (expand2 m ++ endBytes e).head? ≠ some 124)
    (hlast : e = false → (startText s ++ expand2 m).getLast? ≠ some 124) :
    expandMasks (startBytes s ++ m ++ endBytes e) = some (startText s ++ expand2 m ++ endText e) := by
  unfold expandMasks
  simp only [Facts.MaskAnyCharacter, Facts.MaskSeparator, replaceAll_single]
  have h6 : ((startBytes s ++ m ++ endBytes e).flatMap (subst1 42 Facts.RegexAnyCharacter)).flatMap
      (subst1 94 Facts.RegexSeparator) = startBytes s ++ (expand2 m ++ endBytes e) := by
    have : expand2 (startBytes s ++ m ++ endBytes e) = startBytes s ++ (expand2 m ++ endBytes e) := by
      rw [expand2_append, expand2_append, expand2_startBytes, expand2_endBytes, List.append_assoc]
    exact this
  rw [h6, replaceStart_eq s _ hhead, Option.bind_some, ← List.append_assoc, replaceEnd_eq _ e hlast]

/-- `|` → `\|`, byte by byte. -/
def pipeE (m : Bytes) : Bytes := m.flatMap (subst1 124 [92, 124])

theorem pipeE_append (a b : Bytes) : pipeE (a ++ b) = pipeE a ++ pipeE b := by simp [pipeE]

theorem pipeE_single {x : UInt8} (h : x ≠ 124) : pipeE [x] = [x] := by simp [pipeE, subst1, h]

theorem escapeSpecial_append (a b : Bytes) : escapeSpecial (a ++ b) = escapeSpecial a ++ escapeSpecial b := by
  simp [escapeSpecial]

theorem escapeSpecial_startBytes (s : Start) : escapeSpecial (startBytes s) = startBytes s := by
  cases s <;> simp [escapeSpecial, startBytes, escByte_pipe]

theorem esc_snoc (r : Bytes) (x : UInt8) :
    ∃ M, escapeSpecial (r ++ [x]) = M ++ [x] ∧ (x = 124 → M = escapeSpecial r) := by
  rcases escByte_cases x with h | h
  · exact ⟨escapeSpecial r, by simp [escapeSpecial, h], fun _ => rfl⟩
  · refine ⟨escapeSpecial r ++ [92], by simp [escapeSpecial, h], ?_⟩
    intro hx; subst hx; rw [escByte_pipe] at h; simp at h

theorem esc_head (l : Bytes) (h : l.head? ≠ some 124) : (escapeSpecial l).head? ≠ some 124 := by
  cases l with
  | nil => simp [escapeSpecial]
  | cons b t =>
    have hb : b ≠ 124 := by simpa using h
    rcases escByte_cases b with h' | h' <;> simp [escapeSpecial, h', hb]

theorem escapePipes_eq (s : Start) (r : Bytes) (x : UInt8)
    (hhead : s ≠ .dbl → (r ++ [x]).head? ≠ some 124) :
    escapePipes (escapeSpecial (startBytes s ++ r ++ [x]))
      = some (startBytes s ++ pipeE (escapeSpecial (if x = 124 then r else r ++ [x]))
              ++ endBytes (decide (x = 124))) := by
  obtain ⟨M, hM, hM2⟩ := esc_snoc r x
  have he : escapeSpecial (startBytes s ++ r ++ [x]) = startBytes s ++ M ++ [x] := by
    rw [List.append_assoc, escapeSpecial_append, escapeSpecial_startBytes, hM, List.append_assoc]
  have hMx : s ≠ .dbl → (M ++ [x]).head? ≠ some 124 := fun h => hM ▸ esc_head _ (hhead h)
  -- every branch yields `startBytes s ++ pipeE M ++ [x]`
  have key : escapePipes (startBytes s ++ M ++ [x]) = some (startBytes s ++ pipeE M ++ [x]) := by
    unfold escapePipes
    rw [List.append_assoc, (hasPrefix_startBytes s (M ++ [x]) hMx).1, ← List.append_assoc]
    cases s with
    | dbl => exact escapeInnerPipes_eq [124, 124] M x
    | pipe =>
      rw [if_neg (by decide), if_pos (by simp [startBytes, Facts.MaskPipe])]
      exact escapeInnerPipes_eq [124] M x
    | none =>
      rw [if_neg (by decide)]
      cases M with
      | nil => simp [startBytes, Facts.MaskPipe, pipeE]
      | cons y t =>
        have hy : y ≠ 124 := by simpa using hMx (by simp)
        rw [if_pos (by simp [startBytes, Facts.MaskPipe])]
        simpa [startBytes, pipeE, subst1, hy, Facts.MaskPipe] using escapeInnerPipes_eq [y] t x
  rw [he, key]
  by_cases hx : x = 124
  · simp [hx, hM2 hx, endBytes]
  · simp [hx, hM, pipeE_append, pipeE_single hx, endBytes]

theorem emitByte_of_ne {b : UInt8} (h42 : b ≠ 42) (h94 : b ≠ 94) (h124 : b ≠ 124) : emitByte b = escByte b := by
  simp [emitByte, h42, h94, h124]

theorem emitByte_eq (b : UInt8) : expand2 (pipeE (escByte b)) = emitByte b := by
  by_cases h42 : b = 42
  · rw [h42]; rfl
  by_cases h94 : b = 94
  · rw [h94]; rfl
  by_cases h124 : b = 124
  · rw [h124]; rfl
  rw [emitByte_of_ne h42 h94 h124]
  rcases escByte_cases b with h | h <;> rw [h] <;> simp [expand2, pipeE, subst1, h42, h94, h124]

/-- The text of one body byte: `.*` for `*`, the separator group for `^`, and otherwise the byte
    itself, after a backslash if it is `|` or in the replacer's table. -/
theorem emitByte_cases (b : UInt8) :
    b = 42 ∧ emitByte b = [46, 42] ∨ b = 94 ∧ emitByte b = Facts.RegexSeparator ∨
    emitByte b = [92, b] ∨ b ≠ 124 ∧ escByte b = [b] ∧ emitByte b = [b] := by
  by_cases h42 : b = 42
  · exact .inl ⟨h42, by rw [h42]; rfl⟩
  by_cases h94 : b = 94
  · exact .inr (.inl ⟨h94, by rw [h94]; rfl⟩)
  by_cases h124 : b = 124
  · exact .inr (.inr (.inl (by rw [h124]; rfl)))
  have he := emitByte_of_ne h42 h94 h124
  rcases escByte_cases b with h | h
  · exact .inr (.inr (.inr ⟨h124, h, he.trans h⟩))
  · exact .inr (.inr (.inl (he.trans h)))

theorem emitByte_ne_nil (b : UInt8) : emitByte b ≠ [] := by
  rcases emitByte_cases b with ⟨_, h⟩ | ⟨_, h⟩ | h | ⟨_, _, h⟩ <;> rw [h] <;> simp [Facts.RegexSeparator]

theorem emitByte_head (b : UInt8) (rest : Bytes) : (emitByte b ++ rest).head? ≠ some 124 := by
  rcases emitByte_cases b with ⟨_, h⟩ | ⟨_, h⟩ | h | ⟨h124, _, h⟩ <;> rw [h] <;> simp [Facts.RegexSeparator]
  exact h124

theorem emitByte_last (b : UInt8) (hb : b ≠ 124) (pre : Bytes) : (pre ++ emitByte b).getLast? ≠ some 124 := by
  rcases emitByte_cases b with ⟨_, h⟩ | ⟨_, h⟩ | h | ⟨_, _, h⟩ <;> rw [h] <;> simp [Facts.RegexSeparator, hb]

theorem expand2_pipeE_esc (body : Bytes) : expand2 (pipeE (escapeSpecial body)) = body.flatMap emitByte := by
  induction body with
  | nil => rfl
  | cons b t ih =>
    have : escapeSpecial (b :: t) = escByte b ++ escapeSpecial t := by simp [escapeSpecial]
    rw [this, pipeE_append, expand2_append, ih, emitByte_eq]
    simp

theorem splitEnd_snoc (r : Bytes) (x : UInt8) :
    splitEnd (r ++ [x]) = (if x = 124 then r else r ++ [x], decide (x = 124)) := by
  unfold splitEnd
  by_cases hx : x = 124 <;> simp [hx]

theorem splitMask_shape (p : Bytes) :
    ∃ s r, p = startBytes s ++ r ∧ (s ≠ .dbl → r.head? ≠ some 124) ∧ splitMask p = (s, splitEnd r) := by
  match p with
  | [] => exact ⟨.none, [], rfl, by simp, by simp [splitMask]⟩
  | [a] =>
    by_cases ha : a = 124
    · subst ha; exact ⟨.pipe, [], rfl, by simp, by simp [splitMask]⟩
    · refine ⟨.none, [a], rfl, by simp [ha], ?_⟩
      unfold splitMask; split <;> simp_all
  | a :: b :: t =>
    by_cases ha : a = 124
    · subst ha
      by_cases hb : b = 124
      · subst hb; exact ⟨.dbl, t, rfl, by simp, by simp [splitMask]⟩
      · refine ⟨.pipe, b :: t, rfl, by simp [hb], ?_⟩
        unfold splitMask; split <;> simp_all
    · refine ⟨.none, a :: b :: t, rfl, by simp [ha], ?_⟩
      unfold splitMask; split <;> simp_all

/-- The step-by-step model equals the closed form on every mask pattern that is not an any-URL
    pattern (and not a `/regex/`); all bytes, not only printable ASCII. -/
theorem patternToRegexpText_eq (p : Bytes) (h1 : isAnyPattern p = false) (h2 : isRegexPattern p = false) :
    patternToRegexpText p = some (maskText p) := by
  obtain ⟨s, r, hp, hhd, hsplit⟩ := splitMask_shape p
  have hr : r ≠ [] := by
    intro h; subst h; subst hp
    cases s <;> simp [isAnyPattern, startBytes, Facts.MaskStartURL, Facts.MaskPipe] at h1
  obtain ⟨r', x, rfl⟩ : ∃ r' x, r = r' ++ [x] := by
    rcases List.eq_nil_or_concat r with h | ⟨r', x, h⟩
    · exact absurd h hr
    · exact ⟨r', x, by simpa using h⟩
  unfold patternToRegexpText maskText
  rw [if_neg (by rw [h1]; exact Bool.false_ne_true), if_neg (by rw [h2]; exact Bool.false_ne_true)]
  rw [hsplit, splitEnd_snoc]
  subst hp
  rw [← List.append_assoc, escapePipes_eq s r' x hhd, Option.bind_some]
  generalize hbody : (if x = 124 then r' else r' ++ [x]) = body
  rw [expandMasks_eq, expand2_pipeE_esc]
  · -- head condition
    intro hs
    rw [expand2_pipeE_esc]
    cases body with
    | nil =>
      by_cases hx : x = 124
      · simp [hx] at hbody; subst hbody; subst hx
        exact absurd rfl (hhd hs)
      · simp [hx] at hbody
    | cons b t => rw [List.flatMap_cons, List.append_assoc]; exact emitByte_head b _
  · -- last condition
    intro he
    have hx : x ≠ 124 := by simpa using he
    simp only [hx, ↓reduceIte] at hbody
    subst hbody
    rw [expand2_pipeE_esc, List.flatMap_append, ← List.append_assoc]
    simp only [List.flatMap_cons, List.flatMap_nil, List.append_nil]
    exact emitByte_last x hx _

theorem isRegexPattern_len {p : Bytes} (h : isRegexPattern p = true) : p.length > 1 := by
  simp [isRegexPattern] at h; exact h.1.1

theorem sliceZ_regex (p : Bytes) (h : p.length > 1) : sliceZ? p 1 (lenZ p - 1) = some ((p.take (p.length - 1)).drop 1) := by
  have : lenZ p - 1 = ((p.length - 1 : Nat) : Int) := by simp [lenZ]; omega
  rw [this, show (1 : Int) = ((1 : Nat) : Int) from rfl, sliceZ_nat _ 1 (p.length - 1) (by omega) (by omega)]

theorem patternToRegexpText_isSome (p : Bytes) : patternToRegexpText p ≠ none := by
  by_cases h1 : isAnyPattern p = true
  · simp [patternToRegexpText, h1]
  · by_cases h2 : isRegexPattern p = true
    · simp [patternToRegexpText, h1, h2, sliceZ_regex p (isRegexPattern_len h2)]
    · rw [patternToRegexpText_eq p (by simpa using h1) (by simpa using h2)]; simp

theorem hasSuffix_length (s p : Bytes) (h : Bytes.hasSuffix s p = true) : p.length ≤ s.length := by
  have := H.hasPrefix_length_le h
  simpa using this

/-- The `/*` → `^` rewrite of `NewNetworkRule` never panics and is the spec's `normalize`. -/
theorem rewriteSlashStar_eq (p : Bytes) : rewriteSlashStar p = some (normalize p) := by
  unfold rewriteSlashStar normalize
  have hl : lit "/*" = [47, 42] := by decide
  have hc : lit "^" = [94] := by decide
  rw [hl, hc]
  by_cases h : Bytes.hasSuffix p [47, 42] = true
  · have hlen := hasSuffix_length _ _ h
    simp only [List.length_cons, List.length_nil] at hlen
    have : lenZ p - 2 = ((p.length - 2 : Nat) : Int) := by simp [lenZ]; omega
    rw [if_pos h, if_pos h, this, show (0 : Int) = ((0 : Nat) : Int) from rfl,
      sliceZ_nat _ 0 (p.length - 2) (by omega) (by omega)]
    simp
  · rw [if_neg h, if_neg h]

theorem preparePatternText_ne_panic (p : Bytes) (mc : Bool) : preparePatternText p mc ≠ .panic := by
  unfold preparePatternText
  cases h : patternToRegexpText p with
  | none => exact absurd h (patternToRegexpText_isSome p)
  | some t => simp only; split <;> (try split) <;> simp

end UF.Mask
