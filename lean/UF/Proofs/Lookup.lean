import UF.Proofs.LookupBytes
/-
  Lemmas about the three lookup tables, for an ARBITRARY pair of hash functions.
-/
namespace UF.B
open UF UF.Bytes

theorem foldl_inv {α β} (f : β → α → β) (P : β → Prop) (l : List α) (b : β) (hb : P b)
    (hstep : ∀ b a, a ∈ l → P b → P (f b a)) : P (l.foldl f b) := by
  induction l generalizing b with
  | nil => exact hb
  | cons a l ih =>
    exact ih _ (hstep b a (by simp) hb) (fun b a' ha' => hstep b a' (by simp [ha']))

theorem mem_filterMap_sel {α β} {f : α → Option β} {g : β → α} (h : ∀ a b, f a = some b ↔ a = g b)
    (l : List α) (b : β) : b ∈ l.filterMap f ↔ g b ∈ l := by
  simp only [List.mem_filterMap, h, exists_eq_right]

/-- A fold whose steps only add members to a component `proj` of the state: if a step with `a` adds
    exactly the `x` with `φ a x`, the fold over `l` adds exactly the `x` with `φ a x` for some `a ∈ l`.
    (All tables of the engines are filled this way.) -/
theorem mem_foldl_iff {σ α β} {f : σ → α → σ} {proj : σ → List β} {φ : α → β → Prop}
    (h : ∀ s a x, x ∈ proj (f s a) ↔ x ∈ proj s ∨ φ a x) (l : List α) (s : σ) (x : β) :
    x ∈ proj (l.foldl f s) ↔ x ∈ proj s ∨ ∃ a ∈ l, φ a x := by
  induction l generalizing s with
  | nil => simp
  | cons a l ih => simp only [List.foldl_cons, ih, h, List.mem_cons, exists_eq_or_imp, or_assoc]

@[simp] theorem hget_hset {α} (d : α) (m : HMap α) (k : UInt32) (v : α) (x : UInt32) :
    hget d (hset m k v) x = if x = k then v else hget d m x := rfl

theorem mem_pushIdx (m : HMap (List Idx)) (k : UInt32) (idx i : Idx) (x : UInt32) :
    i ∈ hget [] (pushIdx m k idx) x ↔ i ∈ hget [] m x ∨ (x = k ∧ i = idx) := by
  unfold pushIdx
  rw [hget_hset]
  by_cases h : x = k
  · subst h; simp
  · simp [h]

theorem mem_foldl_pushIdx (h : Bytes → UInt32) (idx : Idx) (ds : List Bytes) (m : HMap (List Idx))
    (i : Idx) (x : UInt32) :
    i ∈ hget [] (ds.foldl (fun lk d => pushIdx lk (h d) idx) m) x ↔
      i ∈ hget [] m x ∨ ∃ d ∈ ds, x = h d ∧ i = idx :=
  mem_foldl_iff (proj := fun m => hget [] m x) (fun m d i => mem_pushIdx m (h d) idx i x) ds m i

/-- With fewer than `MaxInt32` entries behind every histogram count the loop selects the hash of
    one of the windows (never the initial `0`). -/
theorem pickShortcut_mem (h : Bytes → UInt32) (hist : HMap Nat) (scs : List Bytes) (hne : scs ≠ [])
    (hb : ∀ x, hget 0 hist x < maxInt32) :
    ∃ w ∈ scs, pickShortcut h hist scs = (h w, hget 0 hist (h w)) := by
  cases scs with
  | nil => exact absurd rfl hne
  | cons w ws =>
    unfold pickShortcut
    -- the first window beats the initial `MaxInt32`; from then on the pair is that of some window
    simp only [List.foldl_cons, hb (h w), if_true]
    refine foldl_inv _ (fun p => ∃ w' ∈ w :: ws, p = (h w', hget 0 hist (h w'))) ws _ ⟨w, by simp, rfl⟩ ?_
    intro acc w' hw' hacc
    split
    · exact ⟨w', by simp [hw'], rfl⟩
    · exact hacc

theorem ruleShortcuts_sub (k : Nat) (r : NetRule) (w : Bytes) (h : w ∈ ruleShortcuts k r) :
    w ∈ windows k r.shortcut := by
  unfold ruleShortcuts at h
  split at h
  · cases h
  · split at h
    · cases h
    · exact h

theorem ShortcutsTable.tryAdd_eq_some {hf : HashFns} {k : Nat} {t t' : ShortcutsTable} {r : NetRule} {idx : Idx}
    (hb : ∀ x, hget 0 t.hist x < maxInt32) (h : t.tryAdd hf k r idx = some t') :
    ∃ w ∈ windows k r.shortcut,
      t' = { hist := hset t.hist (hf.h w) (hget 0 t.hist (hf.h w) + 1), lookup := pushIdx t.lookup (hf.h w) idx } := by
  unfold ShortcutsTable.tryAdd at h
  simp only at h
  split at h
  · cases h
  · next hne =>
    obtain ⟨w, hw, hp⟩ := pickShortcut_mem hf.h t.hist (ruleShortcuts k r) (by simpa using hne) hb
    rw [hp] at h
    exact ⟨w, ruleShortcuts_sub k r w hw, (Option.some.inj h).symm⟩

theorem DomainsTable.tryAdd_eq_some {hf : HashFns} {t t' : DomainsTable} {r : NetRule} {idx : Idx}
    (h : t.tryAdd hf r idx = some t') :
    r.permDomains ≠ [] ∧ (∀ d ∈ r.permDomains, Bytes.hasSuffix d (lit ".*") = false) ∧
      t' = ⟨r.permDomains.foldl (fun lk d => pushIdx lk (hf.h d) idx) t.lookup⟩ := by
  unfold DomainsTable.tryAdd at h
  split at h
  · cases h
  · next hpd =>
    split at h
    · cases h
    · next hwild =>
      refine ⟨by simpa using hpd, fun d hd => ?_, (Option.some.inj h).symm⟩
      simpa using fun hc => hwild (List.any_eq_true.2 ⟨d, hd, hc⟩)

/-- One step of the result loop of `ShortcutsTable.MatchAll` and of the cosmetic `findByHostname`: both walk
    a list of candidates, and candidate `a` contributes `b` when `cand a = some b`, unless an entry with
    the key of `b` (storage index, rule object) is in the result already. -/
def dedupStep {α β κ} [BEq κ] (key : β → κ) (cand : α → Option β) (res : List β) (a : α) : List β :=
  match cand a with
  | none => res
  | some b => if res.any (key · == key b) then res else res ++ [b]

section dedup
variable {α β κ : Type} [BEq κ] {key : β → κ} {cand : α → Option β}

theorem dedupStep_mono {res : List β} {x : β} (a : α) (h : x ∈ res) : x ∈ dedupStep key cand res a := by
  unfold dedupStep
  split
  · exact h
  · split
    · exact h
    · exact List.mem_append_left _ h

theorem mem_dedupStep {res : List β} {a : α} {x : β} (h : x ∈ dedupStep key cand res a) :
    x ∈ res ∨ cand a = some x := by
  unfold dedupStep at h
  split at h
  · exact Or.inl h
  · next b hb =>
    split at h
    · exact Or.inl h
    · rcases List.mem_append.1 h with h | h
      · exact Or.inl h
      · exact Or.inr (by rw [hb, List.mem_singleton.1 h])

theorem dedupStep_hit [LawfulBEq κ] (res : List β) {a : α} {b : β} (hb : cand a = some b) :
    ∃ x ∈ dedupStep key cand res a, key x = key b := by
  unfold dedupStep
  rw [hb]
  by_cases hin : res.any (key · == key b) = true
  · obtain ⟨x, hx, hk⟩ := List.any_eq_true.1 hin
    exact ⟨x, by simpa only [hin, if_true] using hx, by simpa using hk⟩
  · exact ⟨b, by simp [hin], rfl⟩

theorem mem_foldl_dedupStep {l : List α} {res : List β} {x : β} (h : x ∈ l.foldl (dedupStep key cand) res) :
    x ∈ res ∨ ∃ a ∈ l, cand a = some x := by
  induction l generalizing res with
  | nil => exact Or.inl h
  | cons a l ih =>
    rcases ih h with h | ⟨a', ha', h⟩
    · rcases mem_dedupStep h with h | h
      · exact Or.inl h
      · exact Or.inr ⟨a, by simp, h⟩
    · exact Or.inr ⟨a', by simp [ha'], h⟩

theorem foldl_dedupStep_hit [LawfulBEq κ] {l : List α} (res : List β) {a : α} {b : β} (ha : a ∈ l)
    (hb : cand a = some b) : ∃ x ∈ l.foldl (dedupStep key cand) res, key x = key b := by
  induction l generalizing res with
  | nil => cases ha
  | cons a' l ih =>
    rcases List.mem_cons.1 ha with rfl | h
    · exact foldl_inv _ (fun res => ∃ x ∈ res, key x = key b) l _ (dedupStep_hit res hb)
        (fun _ a' _ ⟨x, hx, hk⟩ => ⟨x, dedupStep_mono a' hx, hk⟩)
    · exact ih _ h

end dedup

def scCand (retrieve : Idx → Option NetRule) (m : NetRule → Bool) (idx : Idx) : Option (Idx × NetRule) :=
  (retrieveMatching retrieve m idx).map (idx, ·)

theorem retrieveMatching_eq_some {retrieve : Idx → Option NetRule} {m : NetRule → Bool} {idx : Idx} {r : NetRule} :
    retrieveMatching retrieve m idx = some r ↔ retrieve idx = some r ∧ m r = true := by
  unfold retrieveMatching
  cases retrieve idx with
  | none => simp
  | some r' =>
    by_cases hm : m r' = true
    · simp only [hm, if_true, Option.some.injEq]
      exact ⟨fun h => ⟨h, h ▸ hm⟩, fun h => h.1⟩
    · simp only [hm, if_false, Bool.false_eq_true]
      exact ⟨nofun, fun ⟨h, h'⟩ => absurd (Option.some.inj h ▸ h') hm⟩

theorem scCand_eq_some {retrieve : Idx → Option NetRule} {m : NetRule → Bool} {idx : Idx} {x : Idx × NetRule} :
    scCand retrieve m idx = some x ↔ x.1 = idx ∧ retrieve idx = some x.2 ∧ m x.2 = true := by
  obtain ⟨i, r⟩ := x
  simp only [scCand, Option.map_eq_some_iff, retrieveMatching_eq_some, Prod.mk.injEq]
  constructor
  · rintro ⟨r', h, rfl, rfl⟩; exact ⟨rfl, h⟩
  · rintro ⟨rfl, h⟩; exact ⟨r, h, rfl, rfl⟩

theorem scStep_eq (retrieve : Idx → Option NetRule) (m : NetRule → Bool) :
    scStep retrieve m = dedupStep Prod.fst (scCand retrieve m) := by
  funext res idx
  unfold scStep dedupStep scCand retrieveMatching ruleIn
  cases retrieve idx with
  | none => rfl
  | some r =>
    by_cases hm : m r = true
    · simp only [hm, Bool.not_true, Bool.or_false, if_true, Option.map_some]
    · simp only [hm, Bool.not_false, Bool.or_true, if_true, if_false, Option.map_none, Bool.false_eq_true]

theorem ShortcutsTable.matchAllG_eq (hf : HashFns) (k : Nat) (retrieve : Idx → Option NetRule)
    (m : NetRule → Bool) (url : Bytes) (t : ShortcutsTable) :
    t.matchAllG hf k retrieve m url =
      ((List.range (url.length + 1 - k)).flatMap fun i => hget [] t.lookup (hf.hb url i (i + k))).foldl
        (dedupStep Prod.fst (scCand retrieve m)) [] := by
  rw [List.foldl_flatMap, ← scStep_eq]
  rfl

/-- Completeness of the window loop: a bucket entry under the hash of ANY visited window
    (`0 ≤ j ≤ len-k`, the last one included) that retrieves a matching rule is reported. -/
theorem sc_matchAllG_complete (hf : HashFns) (k : Nat) (retrieve : Idx → Option NetRule)
    (m : NetRule → Bool) (url : Bytes) (t : ShortcutsTable) (j : Nat) (hj : j + k ≤ url.length)
    (idx : Idx) (hidx : idx ∈ hget [] t.lookup (hf.hb url j (j + k)))
    (r : NetRule) (hr : retrieve idx = some r) (hm : m r = true) :
    ∃ r', (idx, r') ∈ t.matchAllG hf k retrieve m url := by
  rw [ShortcutsTable.matchAllG_eq]
  have hcand : scCand retrieve m idx = some (idx, r) := scCand_eq_some.2 ⟨rfl, hr, hm⟩
  have hmem : idx ∈ (List.range (url.length + 1 - k)).flatMap fun i => hget [] t.lookup (hf.hb url i (i + k)) :=
    List.mem_flatMap.2 ⟨j, List.mem_range.2 (by omega), hidx⟩
  obtain ⟨⟨i, r'⟩, hx, hk⟩ := foldl_dedupStep_hit (key := Prod.fst) [] hmem hcand
  cases hk
  exact ⟨r', hx⟩

theorem sc_matchAllG_sound (hf : HashFns) (k : Nat) (retrieve : Idx → Option NetRule)
    (m : NetRule → Bool) (url : Bytes) (t : ShortcutsTable) :
    ∀ x ∈ t.matchAllG hf k retrieve m url,
      retrieve x.1 = some x.2 ∧ m x.2 = true ∧ ∃ hs, x.1 ∈ hget [] t.lookup hs := by
  intro x hx
  rw [ShortcutsTable.matchAllG_eq] at hx
  rcases mem_foldl_dedupStep hx with hx | ⟨idx, hidx, hc⟩
  · cases hx
  · obtain ⟨i, _, hi⟩ := List.mem_flatMap.1 hidx
    obtain ⟨rfl, hr, hm⟩ := scCand_eq_some.1 hc
    exact ⟨hr, hm, _, hi⟩

theorem mem_dom_matchAllG (hf : HashFns) (retrieve : Idx → Option NetRule) (m : NetRule → Bool)
    (src : Bytes) (t : DomainsTable) (r : NetRule) :
    r ∈ t.matchAllG hf retrieve m src ↔
      src ≠ [] ∧ ∃ d ∈ getSubdomains src, ∃ idx ∈ hget [] t.lookup (hf.h d), retrieve idx = some r ∧ m r = true := by
  unfold DomainsTable.matchAllG
  by_cases hs : src = []
  · simp [hs]
  · rw [if_neg (by simpa using hs)]
    simp only [List.mem_flatMap, List.mem_filterMap, retrieveMatching_eq_some, ne_eq, hs, not_false_eq_true,
      true_and]

end UF.B
