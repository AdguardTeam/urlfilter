import UF.Proofs.ProgBasic
/-
  One atomic action as a RELATION.  `Step env s t s' t'` lists the branches of `step` grouped by what they do to
  the thread: nothing (`idle`), the first action (`start_triv`, `start`), a move of the program counter within
  the item in progress (`goto`, branches in `Goto`), the end of an item, where the thread collects one entry or
  none and advances (`finish`, branches in `Finish`), and `mid`, `fin`.  Each branch carries what the code
  tested on the way.  `step_spec` ties the relation to `step`; everything the machine preserves is proved by
  cases on `Step`.
-/
namespace UF.Prog
variable {R Re : Type}

theorem step_def (env : Env R Re) (s : State R Re) (t : Thread R) : step env s t = stepG (fun _ => true) env s t := rfl

/-- The thread with one more collected entry, or as it is. -/
def Thread.collect (t : Thread R) : Option (Item × R) → Thread R
  | none => t
  | some e => { t with acc := t.acc ++ [e] }

/-- The program counter moves within the item in progress (`put` may insert into the cache, `prep` store the
    compiled pattern). -/
inductive Goto (env : Env R Re) (s : State R Re) (t : Thread R) : State R Re → PC R → Prop
  | get_hit {src idx r} : t.pc = .get src idx → cacheLookup s.cache idx = some r →
      Goto env s t s (.use src idx ((some r).filter (env.wants src)))
  | get_miss {src idx} : t.pc = .get src idx → cacheLookup s.cache idx = none → Goto env s t s (.read src idx)
  | read_closed {src idx} : t.pc = .read src idx → s.closed.contains (env.listOf idx) = true →
      Goto env s t s (.use src idx none)
  | read_some {src idx r} : t.pc = .read src idx → s.closed.contains (env.listOf idx) = false →
      env.truth idx = some r → Goto env s t s (.put src idx r)
  | read_none {src idx} : t.pc = .read src idx → s.closed.contains (env.listOf idx) = false →
      env.truth idx = none → Goto env s t s (.use src idx none)
  | put_hit {src idx r r'} : t.pc = .put src idx r → cacheLookup s.cache idx = some r' →
      Goto env s t s (.use src idx ((some r').filter (env.wants src)))
  | put_miss {src idx r} : t.pc = .put src idx r → cacheLookup s.cache idx = none →
      Goto env s t { s with cache := cacheInsert s.cache idx r } (.use src idx ((some r).filter (env.wants src)))
  | use_prep {src idx r} : t.pc = .use src idx (some r) → (src == .sc && ruleIn idx t.acc) = false →
      (src == .host) = false → env.pre r t.req = true → Goto env s t s (.prep (.st src idx) r)
  | seq_prep {k r} : t.pc = .seq k → env.resident[k]? = some r → env.pre r t.req = true →
      Goto env s t s (.prep (.seq k) r)
  | prep_hit {it r x} : t.pc = .prep it r → s.cells it.obj = .compiled x → Goto env s t s (.rx it r)
  | prep_compile {it r x} : t.pc = .prep it r → s.cells it.obj = .uncompiled → env.compile r = .re x →
      Goto env s t { s with cells := cellSet s.cells it.obj (.compiled x) } (.rx it r)
  | rx_nil {it r} : t.pc = .rx it r → (∀ x, s.cells it.obj ≠ .compiled x) → Goto env s t s .crash

/-- The item in progress is finished: the thread collects `add` (`prep` may mark the pattern invalid). -/
inductive Finish (env : Env R Re) (s : State R Re) (t : Thread R) : State R Re → Option (Item × R) → Prop
  | use_nil {src idx} : t.pc = .use src idx none → Finish env s t s none
  | use_dup {src idx r} : t.pc = .use src idx (some r) → (src == .sc && ruleIn idx t.acc) = true →
      Finish env s t s none
  | use_host {src idx r} : t.pc = .use src idx (some r) → (src == .sc && ruleIn idx t.acc) = false →
      (src == .host) = true → env.pre r t.req = true → Finish env s t s (some (.st src idx, r))
  | use_skip {src idx r} : t.pc = .use src idx (some r) → (src == .sc && ruleIn idx t.acc) = false →
      env.pre r t.req = false → Finish env s t s none
  | seq_none {k} : t.pc = .seq k → env.resident[k]? = none → Finish env s t s none
  | seq_skip {k r} : t.pc = .seq k → env.resident[k]? = some r → env.pre r t.req = false → Finish env s t s none
  | prep_invalid {it r} : t.pc = .prep it r → s.cells it.obj = .invalid → Finish env s t s none
  | prep_any {it r} : t.pc = .prep it r → s.cells it.obj = .uncompiled → env.compile r = .any →
      Finish env s t s (some (it, r))
  | prep_bad {it r} : t.pc = .prep it r → s.cells it.obj = .uncompiled → env.compile r = .bad →
      Finish env s t { s with cells := cellSet s.cells it.obj .invalid } none
  | rx_add {it r x} : t.pc = .rx it r → s.cells it.obj = .compiled x → env.accepts x r t.req = true →
      Finish env s t s (some (it, r))
  | rx_skip {it r x} : t.pc = .rx it r → s.cells it.obj = .compiled x → env.accepts x r t.req = false →
      Finish env s t s none

/-- One action of thread `t` on the shared state `s`.  In `start` the request is the one a fresh engine would
    build: no field of the pooled request survives the refill. -/
inductive Step (env : Env R Re) (s : State R Re) (t : Thread R) : State R Re → Thread R → Prop
  | idle : t.pc = .done ∨ t.pc = .crash → Step env s t s t
  | start_triv : t.pc = .start → t.q.trivial = true →
      Step env s t s { t with pc := .done, todo := [], acc := [], stage := false }
  | start {pool} : t.pc = .start → t.q.trivial = false →
      Step env s t { s with pool := pool }
        ({ t with req := env.reqOf t.q, todo := env.items1 (env.reqOf t.q), acc := [], stage := false } : Thread R).advance
  | goto {s' pc'} : Goto env s t s' pc' → Step env s t s' { t with pc := pc' }
  | finish {s' add} : Finish env s t s' add → Step env s t s' (t.collect add).advance
  | mid : t.pc = .mid →
      Step env s t s ({ t with todo := env.items2 t.q t.req (nets t.acc), stage := true } : Thread R).advance
  | fin {pool} : t.pc = .fin → Step env s t { s with pool := pool } { t with pc := .done }

/-- The branches of `stepG`, in the order of its text (`fun_cases` numbers them), each matched with its
    constructor. -/
theorem step_spec (env : Env R Re) (s : State R Re) (t : Thread R) : Step env s t (step env s t).1 (step env s t).2 := by
  unfold step
  fun_cases stepG (fun _ => true) env s t
  case case1 hpc d hq hd => exact .start_triv hpc (by rw [hq]; exact hd)
  case case2 hpc d hq hd old req =>
    have e : env.reqOf t.q = req := by rw [hq]; exact (fillFromPool_default env.etld1 old d).symm
    have := Step.start (env := env) (s := s) (pool := s.pool.tail) hpc (by rw [hq]; exact Bool.eq_false_iff.2 hd)
    rw [e] at this; exact this
  case case3 hpc r hq =>
    have := Step.start (env := env) (s := s) (pool := s.pool) hpc (by rw [hq]; rfl)
    rw [show env.reqOf t.q = r by rw [hq]; rfl] at this; exact this
  case case4 hpc r h => exact .goto (.get_hit hpc h)
  case case5 hpc h => exact .goto (.get_miss hpc h)
  case case6 hpc h => exact .goto (.read_closed hpc h)
  case case7 hpc h r hr => exact .goto (.read_some hpc (Bool.eq_false_iff.2 h) hr)
  case case8 hpc h hr => exact .goto (.read_none hpc (Bool.eq_false_iff.2 h) hr)
  case case9 hpc r' h => exact .goto (.put_hit hpc h)
  case case10 hpc h => exact .goto (.put_miss hpc h)
  case case11 hpc => exact .finish (.use_nil hpc)
  case case12 h _ => exact absurd rfl h
  case case13 hdup hpc => exact .finish (.use_dup hpc hdup)
  case case14 r hdup hh hpc =>
    by_cases hp : env.pre r t.req = true
    · simp only [hp, if_true]; exact .finish (.use_host hpc (Bool.eq_false_iff.2 hdup) hh hp)
    · simp only [hp]; exact .finish (.use_skip hpc (Bool.eq_false_iff.2 hdup) (Bool.eq_false_iff.2 hp))
  case case15 hdup hh hp hpc => exact .goto (.use_prep hpc (Bool.eq_false_iff.2 hdup) (Bool.eq_false_iff.2 hh) hp)
  case case16 hdup hh hp hpc => exact .finish (.use_skip hpc (Bool.eq_false_iff.2 hdup) (Bool.eq_false_iff.2 hp))
  case case17 hpc h => exact .finish (.seq_none hpc h)
  case case18 hpc r h hp => exact .goto (.seq_prep hpc h hp)
  case case19 hpc r h hp => exact .finish (.seq_skip hpc h (Bool.eq_false_iff.2 hp))
  case case20 hpc x h => exact .goto (.prep_hit hpc h)
  case case21 hpc h => exact .finish (.prep_invalid hpc h)
  case case22 hpc h hc => exact .finish (.prep_any hpc h hc)
  case case23 hpc h x hc => exact .goto (.prep_compile hpc h hc)
  case case24 hpc h hc => exact .finish (.prep_bad hpc h hc)
  case case25 r hpc x h =>
    by_cases ha : env.accepts x r t.req = true
    · simp only [ha, if_true]; exact .finish (.rx_add hpc h ha)
    · simp only [ha]; exact .finish (.rx_skip hpc h (Bool.eq_false_iff.2 ha))
  case case26 hpc h => exact .goto (.rx_nil hpc h)
  case case27 hpc => exact .mid hpc
  case case28 hpc d hq => exact .fin hpc
  case case29 hpc r hq => exact .fin (pool := s.pool) hpc
  case case30 hpc => exact .idle (Or.inl hpc)
  case case31 hpc => exact .idle (Or.inr hpc)

/-! ### what every action leaves alone -/

@[simp] theorem collect_q (t : Thread R) (add : Option (Item × R)) : (t.collect add).q = t.q := by cases add <;> rfl
@[simp] theorem collect_req (t : Thread R) (add : Option (Item × R)) : (t.collect add).req = t.req := by cases add <;> rfl
@[simp] theorem collect_stage (t : Thread R) (add : Option (Item × R)) : (t.collect add).stage = t.stage := by
  cases add <;> rfl
@[simp] theorem collect_todo (t : Thread R) (add : Option (Item × R)) : (t.collect add).todo = t.todo := by
  cases add <;> rfl

section
variable {env : Env R Re} {s s' : State R Re} {t t' : Thread R}

theorem Step.q (h : Step env s t s' t') : t'.q = t.q := by cases h <;> simp

theorem Step.pc_ne_start (h : Step env s t s' t') : t'.pc ≠ .start := by
  cases h with
  | idle h => intro h'; rw [h'] at h; simp at h
  | goto h => cases h <;> simp
  | _ => first | exact advance_pc_ne_start _ | simp

theorem Step.req (h : Step env s t s' t') (hs : t.pc ≠ .start) : t'.req = t.req := by
  cases h with
  | start_triv h | start h => exact absurd h hs
  | _ => simp

theorem Step.stage (h : Step env s t s' t') (hs : t.pc ≠ .start) (hm : t.pc ≠ .mid) : t'.stage = t.stage := by
  cases h with
  | start_triv h | start h => exact absurd h hs
  | mid h => exact absurd h hm
  | _ => simp

theorem Step.closed (h : Step env s t s' t') : s'.closed = s.closed := by
  cases h with
  | goto h => cases h <;> rfl
  | finish h => cases h <;> rfl
  | _ => rfl

/-- The cache changes only by the `put` of the thread itself, at a key that was absent. -/
theorem Step.cache (h : Step env s t s' t') :
    s'.cache = s.cache ∨ ∃ src idx r, t.pc = .put src idx r ∧ cacheLookup s.cache idx = none ∧
      s'.cache = cacheInsert s.cache idx r := by
  cases h with
  | goto h =>
    cases h with
    | put_miss hpc hc => exact Or.inr ⟨_, _, _, hpc, hc, rfl⟩
    | _ => exact Or.inl rfl
  | finish h => cases h <;> exact Or.inl rfl
  | _ => exact Or.inl rfl

def PC.busy : PC R → Bool
  | .get .. | .read .. | .put .. | .use .. | .seq _ | .prep .. | .rx .. => true
  | _ => false

theorem Goto.busy {pc' : PC R} (h : Goto env s t s' pc') : t.pc.busy = true := by cases h <;> simp [PC.busy, *]
theorem Finish.busy {add : Option (Item × R)} (h : Finish env s t s' add) : t.pc.busy = true := by
  cases h <;> simp [PC.busy, *]

theorem PC.busy_ne {pc : PC R} (h : pc.busy = true) : pc ≠ .start ∧ pc ≠ .mid ∧ pc ≠ .done ∧ pc ≠ .crash := by
  cases pc <;> simp [PC.busy] at h ⊢

/-- A thread inside an item runs a non-trivial query on the request a fresh engine would build. -/
theorem TInv.of_busy (ht : TInv env t) (h : t.pc.busy = true) : t.q.trivial = false ∧ t.req = env.reqOf t.q :=
  have hq := ht.nontriv (PC.busy_ne h).1 (PC.busy_ne h).2.2.1
  ⟨hq, ht.req_eq (PC.busy_ne h).1 hq⟩

/-- The first action of a non-trivial query. -/
theorem Step.of_start (h : Step env s t s' t') (hst : t.pc = .start) (hq : t.q.trivial = false) :
    t' = ({ t with req := env.reqOf t.q, todo := env.items1 (env.reqOf t.q), acc := [], stage := false } : Thread R).advance := by
  cases h with
  | start => rfl
  | start_triv _ hq' => rw [hq] at hq'; cases hq'
  | idle h' => rw [hst] at h'; simp at h'
  | goto h' => exact absurd hst (PC.busy_ne h'.busy).1
  | finish h' => exact absurd hst (PC.busy_ne h'.busy).1
  | mid h' | fin h' => rw [hst] at h'; cases h'

/-- The action between the two stages. -/
theorem Step.of_mid (h : Step env s t s' t') (hm : t.pc = .mid) :
    t' = ({ t with todo := env.items2 t.q t.req (nets t.acc), stage := true } : Thread R).advance := by
  cases h with
  | mid => rfl
  | idle h' => rw [hm] at h'; simp at h'
  | goto h' => exact absurd hm (PC.busy_ne h'.busy).2.1
  | finish h' => exact absurd hm (PC.busy_ne h'.busy).2.1
  | start_triv h' | start h' | fin h' => rw [hm] at h'; cases h'

/-! ### the shared state: guarantees of every action -/

theorem cellsLe_cellSet {ob : Obj} (c : Cell Re) (h : s.cells ob = .uncompiled) :
    CellsLe s { s with cells := cellSet s.cells ob c } := by
  intro o ho
  simp only [cellSet]
  split
  · next e => subst e; exact absurd h ho
  · rfl

/-- Guarantee: a cell that is set is never changed, by any action of any thread. -/
theorem Step.cellsLe (h : Step env s t s' t') : CellsLe s s' := by
  cases h with
  | goto h =>
    cases h with
    | prep_compile _ hc => exact cellsLe_cellSet _ hc
    | _ => exact CellsLe.refl _
  | finish h =>
    cases h with
    | prep_bad _ hc => exact cellsLe_cellSet _ hc
    | _ => exact CellsLe.refl _
  | _ => exact CellsLe.refl _

theorem sinv_cellSet {ob : Obj} {r : R} {c : Cell Re} (hs : SInv env s) (hob : env.objRule ob = some r)
    (hc : c = (env.compile r).cell) : SInv env { s with cells := cellSet s.cells ob c } := by
  refine ⟨hs.1, fun o => ?_⟩
  simp only [cellSet]
  split
  · next e => subst e; exact Or.inr ⟨r, hob, hc⟩
  · exact hs.2 o

/-- Guarantee: every action of every thread preserves the invariant of the shared state. -/
theorem Step.sinv (h : Step env s t s' t') (hs : SInv env s) (ht : TInv env t) : SInv env s' := by
  cases h with
  | goto h =>
    cases h with
    | put_miss hpc _ =>
      refine ⟨fun i x hm => ?_, hs.2⟩
      rcases mem_cacheInsert hm with ⟨h1, h2⟩ | h
      · subst h1 h2; exact ht.put_ok _ _ _ hpc
      · exact hs.1 i x h
    | prep_compile hpc _ hc => exact sinv_cellSet hs (ht.prep_ok _ _ (Or.inl hpc)).1 (by rw [hc]; rfl)
    | _ => exact hs
  | finish h =>
    cases h with
    | prep_bad hpc _ hc => exact sinv_cellSet hs (ht.prep_ok _ _ (Or.inl hpc)).1 (by rw [hc]; rfl)
    | _ => exact hs
  | _ => exact hs

/-- What `TInv` asks of a program counter inside an item. -/
def GotoOK (env : Env R Re) (req : Request) : PC R → Prop
  | .put _ idx r => env.truth idx = some r
  | .use src idx (some r) => env.truth idx = some r ∧ env.wants src r = true
  | .prep it r | .rx it r => env.objRule it.obj = some r ∧ env.pre r req = true
  | .start | .mid | .fin | .done => False
  | _ => True

theorem gotoOK_use {req : Request} {src : Src} {idx : Idx} {r : R} (h : env.truth idx = some r) :
    GotoOK env req (.use src idx ((some r).filter (env.wants src))) := by
  cases hw : env.wants src r
  · simp [Option.filter, hw, GotoOK]
  · simpa [Option.filter, hw, GotoOK] using h

theorem Goto.ok {pc' : PC R} (h : Goto env s t s' pc') (hc : CacheInv env s) (ht : TInv env t) :
    GotoOK env t.req pc' := by
  cases h with
  | get_hit _ hl | put_hit _ hl => exact gotoOK_use (hc _ _ (cacheLookup_mem hl))
  | put_miss hpc => exact gotoOK_use (ht.put_ok _ _ _ hpc)
  | read_some _ _ hr => exact hr
  | use_prep hpc _ _ hp => exact ⟨(ht.use_ok _ _ _ hpc).1, hp⟩
  | seq_prep _ hk hp => exact ⟨hk, hp⟩
  | prep_hit hpc | prep_compile hpc => exact ht.prep_ok _ _ (Or.inl hpc)
  | _ => trivial

theorem TInv.goto {pc' : PC R} (ht : TInv env t) (hb : t.pc.busy = true) (h : GotoOK env t.req pc') :
    TInv env { t with pc := pc' } := by
  obtain ⟨hq, hr⟩ := ht.of_busy hb
  refine ⟨fun _ _ => hr, ?_, ?_, ?_, ?_, ?_, ?_, ?_, fun h' => by rw [hq] at h'; cases h'⟩
  · intro src idx r e; rw [show pc' = _ from e] at h; exact h
  · intro src idx r e; rw [show pc' = _ from e] at h; exact h
  · intro it r e; rcases e with e | e <;> (rw [show pc' = _ from e] at h; exact h)
  · intro e; rcases e with e | e | e <;> (rw [show pc' = _ from e] at h; exact h.elim)
  · intro e; rw [show pc' = _ from e] at h; exact h.elim
  · intro e; rw [show pc' = _ from e] at h; exact h.elim
  · intro e; rw [show pc' = _ from e] at h; exact h.elim

/-- The thread-local invariant is preserved (relying only on `CacheInv` of the shared state). -/
theorem Step.tinv (h : Step env s t s' t') (hc : CacheInv env s) (ht : TInv env t) : TInv env t' := by
  cases h with
  | idle => exact ht
  | start_triv _ hq => constructor <;> simp [hq]
  | start _ hq => exact tinv_advance rfl hq
  | goto h => exact ht.goto h.busy (h.ok hc ht)
  | finish h =>
    obtain ⟨hq, hr⟩ := ht.of_busy h.busy
    exact tinv_advance (by simpa using hr) (by simpa using hq)
  | mid hpc =>
    exact tinv_advance (ht.req_eq (by simp [hpc]) (ht.nontriv (by simp [hpc]) (by simp [hpc])))
      (ht.nontriv (by simp [hpc]) (by simp [hpc]))
  | fin hpc =>
    have hq := ht.nontriv (by simp [hpc]) (by simp [hpc])
    exact ⟨fun _ _ => ht.req_eq (by simp [hpc]) hq, by simp, by simp, by simp, fun _ => ht.end_todo (by simp [hpc]),
      by simp, by simp, fun _ _ => ht.fin_stage hpc, fun h' => by rw [hq] at h'; cases h'⟩

/-! ### `regex` read outside the lock -/

/-- What a thread about to call `f.regex.MatchString` relies on: the `regex` of that object is set. -/
def RxOK (s : State R Re) (t : Thread R) : Prop :=
  ∀ it r, t.pc = .rx it r → ∃ x, s.cells it.obj = .compiled x

/-- … and no action of any other thread can invalidate it. -/
theorem rxOK_mono (hle : CellsLe s s') (h : RxOK s t) : RxOK s' t := by
  intro it r hpc
  obtain ⟨x, hx⟩ := h it r hpc
  exact ⟨x, by rw [hle _ (by rw [hx]; simp), hx]⟩

theorem rxOK_advance (s : State R Re) (t : Thread R) : RxOK s t.advance := by
  intro it r; fun_cases Thread.advance t <;> simp

/-- The thread's own action establishes it: `rx` is entered only from `prep`, with the cell compiled. -/
theorem Step.rxOK (h : Step env s t s' t') : RxOK s' t' := by
  cases h with
  | idle h => intro it r e; rw [e] at h; simp at h
  | goto h =>
    cases h with
    | prep_hit _ hc => intro it r e; cases e; exact ⟨_, hc⟩
    | @prep_compile _ _ x => intro it r e; cases e; exact ⟨x, by simp [cellSet]⟩
    | _ => intro it r e; cases e
  | start_triv | fin => intro it r e; cases e
  | _ => exact rxOK_advance _ _

/-- No crash: with the nil checks in place the only dereference left is `f.regex`, which `RxOK` covers. -/
theorem Step.no_crash (h : Step env s t s' t') (hrx : RxOK s t) (hc : t.pc ≠ .crash) : t'.pc ≠ .crash := by
  cases h with
  | idle => exact hc
  | goto h =>
    cases h with
    | rx_nil hpc hn => obtain ⟨x, hx⟩ := hrx _ _ hpc; exact absurd hx (hn x)
    | _ => simp
  | start_triv | fin => simp
  | _ => exact advance_pc_ne_crash _

/-! ### the lazy-compile cell of an object is a function of its rule -/

theorem cell_compiled {ob : Obj} {r : R} {x : Re} (hci : CellInv env s)
    (hob : env.objRule ob = some r) (hx : s.cells ob = .compiled x) : env.compile r = .re x := by
  rcases hci ob with h | ⟨r', hr', hc⟩
  · rw [hx] at h; cases h
  · rw [hob] at hr'; cases hr'
    rw [hx] at hc
    cases hcr : env.compile r <;> simp [hcr, Comp.cell] at hc
    subst hc; rfl

theorem cell_invalid {ob : Obj} {r : R} (hci : CellInv env s)
    (hob : env.objRule ob = some r) (hx : s.cells ob = .invalid) : env.compile r = .bad := by
  rcases hci ob with h | ⟨r', hr', hc⟩
  · rw [hx] at h; cases h
  · rw [hob] at hr'; cases hr'
    rw [hx] at hc
    cases hcr : env.compile r <;> simp [hcr, Comp.cell] at hc
    rfl

theorem verdict_not_host (env : Env R Re) {src : Src} (h : (src == Src.host) = false) (r : R) (req : Request) :
    env.verdict src r req = env.mtch r req := by
  simp [Env.verdict, h]

/-- `Match` on the thread's own (possibly shared, possibly already compiled) rule object is `Match` on a fresh
    one: what `prep` and `rx` find in the cell is what compiling the rule gives. -/
theorem Finish.mtch {add : Option (Item × R)} {it : Item} {r : R} (h : Finish env s t s' add) (hs : SInv env s)
    (ht : TInv env t) (hpc : t.pc = .prep it r ∨ t.pc = .rx it r) :
    add = if env.mtch r t.req then some (it, r) else none := by
  obtain ⟨hob, hpre⟩ := ht.prep_ok it r hpc
  cases h with
  | prep_invalid hpc' hc =>
    rcases hpc with e | e <;> rw [e] at hpc' <;> cases hpc'
    simp [Env.mtch, Env.patOK, cell_invalid hs.2 hob hc]
  | prep_any hpc' _ hc => rcases hpc with e | e <;> rw [e] at hpc' <;> cases hpc'; simp [Env.mtch, Env.patOK, hc, hpre]
  | prep_bad hpc' _ hc => rcases hpc with e | e <;> rw [e] at hpc' <;> cases hpc'; simp [Env.mtch, Env.patOK, hc]
  | rx_add hpc' hc ha =>
    rcases hpc with e | e <;> rw [e] at hpc' <;> cases hpc'
    simp [Env.mtch, Env.patOK, cell_compiled hs.2 hob hc, hpre, ha]
  | rx_skip hpc' hc ha =>
    rcases hpc with e | e <;> rw [e] at hpc' <;> cases hpc'
    simp [Env.mtch, Env.patOK, cell_compiled hs.2 hob hc, ha]
  | _ => rcases hpc with e | e <;> simp [e] at *

/-! ### the bookkeeping quantity is invariant

  `Tot` is taken in the engine `env.restrict av` in which the indexes outside `av` are struck out.  With nothing
  closed `av` is constantly true and that engine is `env` itself (`restrict_true`); for a query run alone in a
  state with closed lists `av` is the availability at its start (`UF/Proofs/ProgDegradedRun.lean`). -/

/-- What `Tot` of `env.restrict av` needs of `av`: a cached index is in it, and a `read` succeeds exactly on
    the indexes in it. -/
structure AvOK (env : Env R Re) (av : Idx → Bool) (s : State R Re) (t : Thread R) : Prop where
  cached : ∀ idx r, cacheLookup s.cache idx = some r → av idx = true
  read : ∀ src idx, t.pc = .read src idx → av idx = !s.closed.contains (env.listOf idx)

theorem avOK_true (h0 : s.closed = []) : AvOK env (fun _ => true) s t :=
  ⟨fun _ _ _ => rfl, fun _ _ _ => by rw [h0]; rfl⟩

variable (av : Idx → Bool)

/-- Within an item the pending contribution does not change. -/
theorem Goto.pend {pc' : PC R} (h : Goto env s t s' pc') (hs : SInv env s) (ht : TInv env t)
    (hrx : RxOK s t) (hav : AvOK env av s t) :
    pendAcc (env.restrict av) { t with pc := pc' } = pendAcc (env.restrict av) t := by
  cases h with
  | get_hit hpc hl =>
    simp only [pendAcc, hpc, pureStep, restrict_truth, hav.cached _ _ hl, if_true, hs.1 _ _ (cacheLookup_mem hl)]
    rfl
  | get_miss hpc => simp only [pendAcc, hpc]
  | read_closed hpc hc => simp only [pendAcc, hpc, pureStep, restrict_truth, hav.read _ _ hpc, hc]; rfl
  | read_some hpc hc hr => simp only [pendAcc, hpc, pureStep, restrict_truth, hav.read _ _ hpc, hc, hr]; rfl
  | read_none hpc hc hr => simp only [pendAcc, hpc, pureStep, restrict_truth, hav.read _ _ hpc, hc, hr]; rfl
  | put_hit hpc hl =>
    have := (hs.1 _ _ (cacheLookup_mem hl)).symm.trans (ht.put_ok _ _ _ hpc)
    cases this
    simp only [pendAcc, hpc]; rfl
  | put_miss hpc => simp only [pendAcc, hpc]; rfl
  | use_prep hpc hd hh hp =>
    simp only [pendAcc, hpc, useStep, hd, restrict_verdict, verdict_not_host env hh, restrict_mtch]
    rfl
  | seq_prep hpc hk hp => simp only [pendAcc, hpc, seqStep, restrict_resident, hk, restrict_mtch]
  | prep_hit hpc | prep_compile hpc => simp only [pendAcc, hpc]
  | rx_nil hpc hn => obtain ⟨x, hx⟩ := hrx _ _ hpc; exact absurd hx (hn x)

/-- At the end of an item the thread has collected the pending contribution. -/
theorem Finish.pend {add : Option (Item × R)} (h : Finish env s t s' add) (hs : SInv env s) (ht : TInv env t) :
    pendAcc (env.restrict av) t = (t.collect add).acc := by
  have key : ∀ it r, (t.pc = .prep it r ∨ t.pc = .rx it r) → pendAcc (env.restrict av) t = (t.collect add).acc := by
    intro it r hpc
    rw [h.mtch hs ht hpc]
    by_cases hm : env.mtch r t.req = true <;> rcases hpc with e | e <;> simp [pendAcc, e, restrict_mtch, hm, Thread.collect]
  cases h with
  | use_nil hpc => simp only [pendAcc, hpc]; rfl
  | use_dup hpc hd => simp [pendAcc, hpc, useStep, hd, Thread.collect]
  | use_host hpc hd hh hp => simp [pendAcc, hpc, useStep, hd, Env.verdict, hh, Env.restrict, hp, Thread.collect]
  | use_skip hpc hd hp => simp [pendAcc, hpc, useStep, hd, Env.verdict, Env.mtch, Env.restrict, hp, Thread.collect]
  | seq_none hpc hk => simp [pendAcc, hpc, seqStep, Env.restrict, hk, Thread.collect]
  | seq_skip hpc hk hp => simp [pendAcc, hpc, seqStep, Env.restrict, hk, Env.mtch, hp, Thread.collect]
  | prep_invalid hpc | prep_any hpc | prep_bad hpc => exact key _ _ (Or.inl hpc)
  | rx_add hpc | rx_skip hpc => exact key _ _ (Or.inr hpc)

/-- Every action except the first and `mid` leaves `Tot` unchanged. -/
theorem Step.tot (h : Step env s t s' t') (hs : SInv env s) (ht : TInv env t) (hrx : RxOK s t)
    (hav : AvOK env av s t) (hst : t.pc ≠ .start) (hm : t.pc ≠ .mid) :
    Tot (env.restrict av) t' = Tot (env.restrict av) t := by
  cases h with
  | idle => rfl
  | start_triv h | start h => exact absurd h hst
  | mid h => exact absurd h hm
  | goto h => unfold Tot; rw [h.pend av hs ht hrx hav]
  | finish h => rw [Tot_advance, collect_req, collect_todo, ← h.pend av hs ht]; rfl
  | fin hpc => simp only [Tot, pendAcc, hpc]

/-- The first action: the refilled request is the one a fresh engine would build, and the thread's
    bookkeeping starts at the stateless first-stage answer. -/
theorem Step.tot_start (h : Step env s t s' t') (hst : t.pc = .start) (hq : t.q.trivial = false) :
    Tot (env.restrict av) t' = target (env.restrict av) t' ∧ t'.req = env.reqOf t.q := by
  rw [h.of_start hst hq]
  simp [Tot_advance, target, pure1, restrict_items1]

/-- `mid`: the first stage is finished; if it produced the stateless first-stage answer, the work list of
    the second stage is the stateless one. -/
theorem Step.tot_mid (h : Step env s t s' t') (ht : TInv env t) (hm : t.pc = .mid)
    (he : Tot (env.restrict av) t = target (env.restrict av) t) :
    Tot (env.restrict av) t' = target (env.restrict av) t' := by
  have h1 := ht.end_todo (Or.inl hm)
  have h2 := ht.mid_stage hm
  simp only [Tot, pendAcc, hm, h1, pureFold_nil, target, h2, Bool.false_eq_true, if_false] at he
  rw [h.of_mid hm]
  simp [Tot_advance, target, pure2, he, restrict_items2]

end

end UF.Prog
