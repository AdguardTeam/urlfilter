import UF.Proofs.HostRule
/-
  Helper lemmas for C18 (`c18_dispatch`): outside the carve-out of DESIGN.md §6 a line is
  neither a comment nor cosmetic syntax for `NewRule`.
-/
namespace UF.H
open Bytes

theorem startsAtIndexWith_eq_hasPrefix (s : Bytes) (i : Nat) (m : Bytes) :
    startsAtIndexWith s i m = hasPrefix (s.drop i) m := by
  unfold startsAtIndexWith
  split
  · rename_i hlt
    cases hp : hasPrefix (s.drop i) m with
    | false => rfl
    | true =>
      have := hasPrefix_length_le hp
      simp only [List.length_drop] at this
      omega
  · rfl

/-- One round of the outer loop of `findCosmeticRuleMarker`, as far as `isCosmetic` looks at it. -/
def roundHits (fc : UInt8) (markers : List Bytes) (line : Bytes) : Bool :=
  match indexByte line fc with
  | none => false
  | some i =>
    !(decide (i > 0) && (line[i - 1]? == some (ch ' ') || line[i - 1]? == some (ch '\t'))) &&
    !inHostsComment line i && markers.any (fun m => hasPrefix (line.drop i) m)

theorem findCosmeticRuleMarkerWith_isSome (fc : UInt8) (more : List UInt8) (markers : List Bytes)
    (line : Bytes) :
    (findCosmeticRuleMarkerWith (fc :: more) markers line).isSome =
      (roundHits fc markers line || (findCosmeticRuleMarkerWith more markers line).isSome) := by
  rw [findCosmeticRuleMarkerWith, roundHits]
  cases indexByte line fc with
  | none => rfl
  | some i =>
    simp only [← List.isSome_find?, ← startsAtIndexWith_eq_hasPrefix]
    split
    · rename_i hb
      rw [hb]
      rfl
    · rename_i hb
      rw [Bool.not_eq_true] at hb
      rw [hb]
      split
      · rename_i hc
        rw [hc]
        rfl
      · rename_i hc
        rw [Bool.not_eq_true] at hc
        rw [hc]
        cases List.find? (fun m => startsAtIndexWith line i m) markers <;> rfl

theorem markers_shape :
    Facts.H.cosmeticMarkers.all (fun m => m.head? == some (ch '#') || m == lit "$$" || m == lit "$@$") = true := by
  decide

theorem markers_nonempty : Facts.H.cosmeticMarkers.all (fun m => !m.isEmpty) = true := by decide

theorem markerFirstChars_eq : Facts.H.cosmeticMarkerFirstChars = [ch '#', ch '$'] := by decide

theorem isCosmeticLine_eq (line : Bytes) :
    isCosmeticLine line =
      (roundHits (ch '#') Facts.H.cosmeticMarkers line || roundHits (ch '$') Facts.H.cosmeticMarkers line) := by
  rw [isCosmeticLine, findCosmeticRuleMarker, markerFirstChars_eq, findCosmeticRuleMarkerWith_isSome,
    findCosmeticRuleMarkerWith_isSome]
  exact congrArg _ (Bool.or_false _)

/-- The '$' round finds nothing on a line that does not start with '#' and whose text before the
    comment sign contains no '$': the first '$' (if any) lies after the first '#', so
    `inHostsComment` holds (the repair of D16). -/
theorem roundHits_dollar (markers : List Bytes) (line : Bytes)
    (hhash : (line.head? == some (ch '#')) = false)
    (hbody : (hostLineBody line).any (fun c => c == ch '$') = false) :
    roundHits (ch '$') markers line = false := by
  rw [roundHits]
  cases hj : indexByte line (ch '$') with
  | none => rfl
  | some j =>
    suffices h : inHostsComment line j = true by simp [h]
    have hjd : line[j]? = some (ch '$') := indexByte_getElem? hj
    have hnot : ∀ s : Bytes, ch '$' ∈ s → s.any (fun c => c == ch '$') = true :=
      fun s hs => List.any_eq_true.mpr ⟨_, hs, beq_self_eq_true _⟩
    rw [hostLineBody] at hbody
    rw [inHostsComment]
    cases hi : indexByte line (ch '#') with
    | none =>
      rw [hi, hnot line (List.mem_of_getElem? hjd)] at hbody
      cases hbody
    | some i =>
      have hipos := indexByte_pos hi hhash
      rw [hi] at hbody
      simp only [hipos, if_true] at hbody
      have hij : i < j := by
        refine Nat.lt_of_le_of_ne (Nat.le_of_not_lt fun h => ?_) fun h => ?_
        · -- a '$' before the '#' would be in the body
          rw [hnot _ (List.mem_of_getElem? ((List.getElem?_take_of_lt h).trans hjd))] at hbody
          cases hbody
        · subst h
          rw [indexByte_getElem? hi] at hjd
          exact absurd hjd (by decide)
      simp [hipos, hij]

/-- `isComment` only looks at the first byte (and, for '#', at the markers). -/
theorem isCommentLine_false_of_head (line : Bytes) (hbang : (line.head? == some (ch '!')) = false)
    (hhash : (line.head? == some (ch '#')) = false) : isCommentLine line = false := by
  cases line with
  | nil => rfl
  | cons c rest =>
    have h1 : (c == ch '!') = false := by simpa using hbang
    have h2 : (c == ch '#') = false := by simpa using hhash
    simp [isCommentLine, h1, h2]

/-! ### The lines of the grammar: `pre ++ cmt` with a '#'-free, '$'-free `pre` -/

def lastIsBlank (s : Bytes) : Bool :=
  match s.getLast? with
  | some b => isBlank b
  | none => false

/-- The first '#' of `pre ++ '#' :: c` is looked at unless a blank precedes it (it is never "inside the
    comment" itself). -/
theorem roundHits_hash (markers : List Bytes) (pre c : Bytes) (hne : pre ≠ []) (hf : hashFree pre = true) :
    roundHits (ch '#') markers (pre ++ ch '#' :: c) =
      (!lastIsBlank pre && markers.any (fun m => hasPrefix (ch '#' :: c) m)) := by
  have hidx : indexByte (pre ++ ch '#' :: c) (ch '#') = some pre.length := by
    unfold indexByte
    rw [indexByte_go_append_hit _ _ _ _ hf]
    simp
  have hpos : 0 < pre.length := List.length_pos_iff.mpr hne
  have hlast : ((pre ++ ch '#' :: c)[pre.length - 1]? == some (ch ' ') ||
      (pre ++ ch '#' :: c)[pre.length - 1]? == some (ch '\t')) = lastIsBlank pre := by
    rw [List.getElem?_append_left (by omega), lastIsBlank, List.getLast?_eq_getElem?,
      List.getElem?_eq_getElem (by omega)]
    simp [isBlank]
  rw [roundHits, hidx]
  simp only [hlast, inHostsComment, hidx, List.drop_left, hpos, decide_true, Bool.true_and,
    Nat.lt_irrefl, decide_false, Bool.and_false, Bool.not_false, Bool.and_true]

/-- On a line `pre ++ comment?` with neither '#' nor '$' in `pre`, `isCosmetic` holds exactly when the
    comment sign directly follows a non-blank and begins a cosmetic marker. -/
theorem isCosmeticLine_pre_cmt (pre cmt : Bytes) (hne : pre ≠ []) (hf : hashFree pre = true)
    (hd : dollarFree pre = true) (hc : isCommentTail cmt = true) :
    isCosmeticLine (pre ++ cmt) =
      (!lastIsBlank pre && Facts.H.cosmeticMarkers.any (fun m => hasPrefix cmt m)) := by
  have hhead : ((pre ++ cmt).head? == some (ch '#')) = false := by
    cases pre with
    | nil => exact absurd rfl hne
    | cons a t =>
      simp only [hashFree, List.all_cons, Bool.and_eq_true, bne_iff_ne, ne_eq] at hf
      simpa using hf.1
  have hbody : (hostLineBody (pre ++ cmt)).any (fun c => c == ch '$') = false := by
    rw [hostLineBody_tail pre cmt hne hf hc, List.any_eq_false]
    intro x hx
    have := List.all_eq_true.mp hd x hx
    simpa using this
  rw [isCosmeticLine_eq, roundHits_dollar _ _ hhead hbody, Bool.or_false]
  cases cmt with
  | nil =>
    have hany : Facts.H.cosmeticMarkers.any (fun m => hasPrefix [] m) = false := by decide
    rw [hany, Bool.and_false, List.append_nil, roundHits, indexByte, indexByte_go_none _ _ _ hf]
  | cons x c =>
    have hx : x = ch '#' := by simpa [isCommentTail] using hc
    subst hx
    exact roundHits_hash _ pre c hne hf

theorem lastIsBlank_append (a : Bytes) {b : Bytes} (hne : b ≠ []) :
    lastIsBlank (a ++ b) = lastIsBlank b := by
  unfold lastIsBlank
  rw [List.getLast?_append]
  cases hl : b.getLast? with
  | none => exact absurd (List.getLast?_eq_none_iff.mp hl) hne
  | some x => rfl

theorem lastIsBlank_of_all {b : Bytes} (hne : b ≠ []) (v : Bool) (h : ∀ x ∈ b, isBlank x = v) :
    lastIsBlank b = v := by
  unfold lastIsBlank
  cases hl : b.getLast? with
  | none => exact absurd (List.getLast?_eq_none_iff.mp hl) hne
  | some x => exact h x (List.mem_of_getLast? hl)

theorem lastIsBlank_linePrefix (ip : Bytes) (wn : List (Bytes × Bytes)) (trail : Bytes)
    (hip : isHostToken ip = true) (hwn : goodPairs wn = true) (ht : allBlank trail = true) :
    lastIsBlank (ip ++ namesText wn ++ trail) = !trail.isEmpty := by
  have htok : ∀ a n : Bytes, isHostToken n = true → lastIsBlank (a ++ n) = false := by
    intro a n hn
    obtain ⟨hne, hb, _⟩ := isHostToken_iff.1 hn
    rw [lastIsBlank_append a hne]
    exact lastIsBlank_of_all hne false fun x hx => by simpa using List.all_eq_true.mp hb x hx
  cases trail with
  | cons c t =>
    rw [lastIsBlank_append _ (List.cons_ne_nil c t)]
    exact lastIsBlank_of_all (List.cons_ne_nil c t) true (List.all_eq_true.mp ht)
  | nil =>
    rw [List.append_nil]
    have := htok [] ip hip
    rw [List.nil_append] at this
    generalize ip = a at this
    induction wn generalizing a with
    | nil => simpa [namesText] using this
    | cons p rest ih =>
      obtain ⟨w, n⟩ := p
      obtain ⟨_, hn, hrest⟩ := goodPairs_cons.1 hwn
      have := ih hrest (a ++ w ++ n) (htok (a ++ w) n hn)
      simpa [namesText, List.append_assoc] using this

theorem isCommentLine_hostLineIP (ip : Bytes) (wn : List (Bytes × Bytes)) (trail cmt : Bytes)
    (hip : isHostToken ip = true) (hipd : isPlainToken ip = true) :
    isCommentLine (hostLineIP ip wn trail cmt) = false := by
  obtain ⟨hne, _, hh⟩ := isHostToken_iff.1 hip
  rw [isPlainToken, Bool.and_eq_true] at hipd
  cases ip with
  | nil => exact absurd rfl hne
  | cons a t =>
    rw [hashFree, List.all_cons, Bool.and_eq_true] at hh
    exact isCommentLine_false_of_head _ (by simpa [hostLineIP] using hipd.2) (by simpa [hostLineIP] using hh.1)

/-- On the lines `IP names… trail cmt` of the grammar (no names: a bare name) the model's test is
    the carve-out the property states. -/
theorem isCosmeticLine_hostLineIP (ip : Bytes) (wn : List (Bytes × Bytes)) (trail cmt : Bytes)
    (hip : isHostToken ip = true) (hwn : goodPairs wn = true)
    (ht : allBlank trail = true) (hc : isCommentTail cmt = true)
    (hipd : isPlainToken ip = true) (hwnd : dollarFreePairs wn = true) :
    isCosmeticLine (hostLineIP ip wn trail cmt) = commentIsMarker trail cmt := by
  have hd : dollarFree (ip ++ namesText wn ++ trail) = true :=
    all_linePrefix (by decide) (by decide) ip wn trail (Bool.and_eq_true_iff.1 hipd).1 hwn hwnd ht
  unfold hostLineIP commentIsMarker
  rw [isCosmeticLine_pre_cmt _ cmt (by simp [(isHostToken_iff.1 hip).1])
      (hashFree_linePrefix ip wn trail hip hwn ht) hd hc,
    lastIsBlank_linePrefix ip wn trail hip hwn ht, Bool.not_not]

theorem carveOut_hostLineIP (ip : Bytes) (wn : List (Bytes × Bytes)) (trail cmt : Bytes)
    (hip : isHostToken ip = true) (hwn : goodPairs wn = true)
    (ht : allBlank trail = true) (hc : isCommentTail cmt = true)
    (hipd : isPlainToken ip = true) (hwnd : dollarFreePairs wn = true) :
    hostLineCarveOut (hostLineIP ip wn trail cmt) = commentIsMarker trail cmt := by
  rw [hostLineCarveOut, isCommentLine_hostLineIP ip wn trail cmt hip hipd,
    isCosmeticLine_hostLineIP ip wn trail cmt hip hwn ht hc hipd hwnd, Bool.false_or]

theorem hostLineIP_isEmpty (ip : Bytes) (wn : List (Bytes × Bytes)) (trail cmt : Bytes)
    (hip : isHostToken ip = true) : (hostLineIP ip wn trail cmt).isEmpty = false := by
  cases ip with
  | nil => cases hip
  | cons c t => rfl

theorem newRuleKind_host {ext : Ext} {dn : Bytes → Bool} {line : Bytes} {listID : Int} {r : HostRule}
    (hne : line.isEmpty = false) (hout : hostLineCarveOut line = false)
    (hr : newHostRule ext dn line listID = .ok r) : newRuleKind ext dn line listID = .host r := by
  rw [hostLineCarveOut, Bool.or_eq_false_iff] at hout
  rw [newRuleKind, hne, hout.1, hout.2, hr]
  rfl

def c18Ext : Ext where
  psl := fun _ => ([], false)
  parseAddr := fun s =>
    if s == lit "0.0.0.0" then some { is4 := true, val := 0 }
    else if s == lit "::ffff:1.2.3.4" then some { is4 := false, val := 281470698652420 } else none
  parsePrefix := fun _ => none
  pat := fun _ _ _ => false

end UF.H
