import UF.Spec.CosmeticOption
/- The induction step behind C16: the option mask is the union of what the named modifiers switch off. -/
namespace UF

/-- One induction step of `c16`: adding modifier `m` to the union. -/
theorem c16_step (m : CosMod) (a b c : Bool) :
    (((if (m.bits.testBit 4 || a) = true then cosCSS ||| cosGenericCSS else 0) |||
        if (m.bits.testBit 5 || b) = true then cosGenericCSS else 0) |||
      if (m.bits.testBit 7 || c) = true then cosJS else 0) =
    0 ||| m.disabled |||
      (((if a = true then cosCSS ||| cosGenericCSS else 0) |||
          if b = true then cosGenericCSS else 0) |||
        if c = true then cosJS else 0) := by
  revert a b c
  cases m <;> decide +kernel

/-- What an exception rule with `$elemhide` (`e`), `$generichide` (`g`), `$jsinject` (`j`) disables. -/
def disabledBy (e g j : Bool) : CosOpt :=
  (if e then cosCSS ||| cosGenericCSS else 0) ||| (if g then cosGenericCSS else 0) ||| (if j then cosJS else 0)

/-- More flags, fewer options. -/
theorem andNot_disabledBy_mono : ∀ e g j e' g' j' : Bool,
    (e = true → e' = true) → (g = true → g' = true) → (j = true → j' = true) →
    andNot cosAll (disabledBy e' g' j') &&& andNot cosAll (disabledBy e g j) =
      andNot cosAll (disabledBy e' g' j') := by
  decide +kernel

end UF
