import UF.Proofs.MaskParse
import UF.Proofs.MaskSem
/-
  C03: `maskAst_sem` (A) and `prepare_parse` (B) combined -- what the compiled matcher of a rule accepts is
  the documented mask language.
-/
namespace UF.Mask
open UF UF.Re UF.MaskSpec

/-- For the pattern as stored in the rule. -/
theorem compiledAccepts_eq (p : Bytes) (mc : Bool) (u : Bytes) (hp : ∀ b ∈ p, b < 128)
    (h2 : isRegexPattern p = false) (hn : NoNL u) :
    compiledAccepts p mc u = maskAccepts (tokenize p) mc u := by
  cases h1 : isAnyPattern p with
  | true =>
    have : (tokenize p).isAny = true := by rw [tokenize_isAny, h1]
    simp [compiledAccepts, preparePatternText, patternToRegexpText, h1, maskAccepts, this]
  | false =>
    obtain ⟨t, ht, hparse⟩ := prepare_parse p hp h1 h2 mc
    have hany : (tokenize p).isAny = false := by rw [tokenize_isAny, h1]
    simp only [compiledAccepts, ht, hparse]
    exact maskAst_sem _ mc u hany hn

theorem normalize_ascii (p : Bytes) (hp : ∀ b ∈ p, b < 128) : ∀ b ∈ normalize p, b < 128 := by
  unfold normalize
  split
  · intro b hb
    rcases List.mem_append.mp hb with h | h
    · exact hp b (List.mem_of_mem_take h)
    · have : b = 94 := by simpa using h
      subst this; decide
  · exact hp

end UF.Mask
