import UF.Model.Prog
/-
  The invariants of the Prog model (C13, C14, C19): `CacheInv` (the cache holds what the lists hold) and `CellInv`
  (a lazy-compile cell is empty or what compiling ITS rule gives) of the shared state, `TInv` of a thread, and the
  bookkeeping quantity `Tot` (what a thread has collected, extended by what its pending item and the remaining
  items contribute according to `truth`).  `TInv` and `Tot` mention only thread-local data and the immutable
  `Env`; of the shared state a thread relies on `CacheInv`, `CellInv` and "a cell that is set never changes"
  (`CellsLe`), which every action of every thread guarantees.
-/
namespace UF.Prog
variable {R Re : Type}

/-- No per-request data survives the refill of a pooled request. -/
theorem fillFromPool_default (etld1 : Bytes → Bytes) (old : Request) (d : DReq) :
    fillFromPool etld1 old d = fillFromPool etld1 default d := by
  simp only [fillFromPool, fillRequestForHostname]

theorem fillFromPool_hostname (etld1 : Bytes → Bytes) (old : Request) (d : DReq) :
    (fillFromPool etld1 old d).hostname = d.hostname := by
  simp only [fillFromPool, fillRequestForHostname]; split <;> rfl

/-- The cache only holds what the lists hold. -/
def CacheInv (env : Env R Re) (s : State R Re) : Prop :=
  ∀ idx r, (idx, r) ∈ s.cache → env.truth idx = some r

/-- The rule an object is: the rule of its storage index / the entry of the sequential table. -/
def Env.objRule (env : Env R Re) : Obj → Option R
  | .st idx => env.truth idx
  | .seq k => env.resident[k]?

/-- A lazy-compile cell is a function of the rule: it is empty, or what `preparePattern` leaves behind
    on that object's rule. -/
def CellInv (env : Env R Re) (s : State R Re) : Prop :=
  ∀ ob, s.cells ob = .uncompiled ∨ ∃ r, env.objRule ob = some r ∧ s.cells ob = (env.compile r).cell

def SInv (env : Env R Re) (s : State R Re) : Prop := CacheInv env s ∧ CellInv env s

/-- A cell that is set keeps its value (`regex` is written once, `invalid` is only ever set). -/
def CellsLe (s s' : State R Re) : Prop := ∀ ob, s.cells ob ≠ .uncompiled → s'.cells ob = s.cells ob

theorem CellsLe.refl (s : State R Re) : CellsLe s s := fun _ _ => rfl

theorem sinv_init (env : Env R Re) : SInv env ({} : State R Re) :=
  ⟨fun _ _ h => by simp at h, fun _ => Or.inl rfl⟩

theorem cacheLookup_mem {c : List (Idx × R)} {idx : Idx} {r : R} (h : cacheLookup c idx = some r) :
    (idx, r) ∈ c := by
  unfold cacheLookup at h
  split at h
  · next e he =>
    have h1 := List.mem_of_find?_eq_some he
    have h2 := List.find?_some he
    simp at h2 h
    subst h2; subst h
    exact h1
  · simp at h

theorem mem_cacheInsert {c : List (Idx × R)} {idx i : Idx} {r x : R} (h : (i, x) ∈ cacheInsert c idx r) :
    (i = idx ∧ x = r) ∨ (i, x) ∈ c := by
  simp [cacheInsert] at h
  rcases h with h | h
  · exact Or.inl h
  · exact Or.inr h.1

theorem cacheLookup_isSome_of_mem {c : List (Idx × R)} {idx : Idx} {r : R} (h : (idx, r) ∈ c) :
    (cacheLookup c idx).isSome := by
  unfold cacheLookup
  cases hf : c.find? (fun e => e.1 == idx) with
  | some e => simp
  | none =>
    have := List.find?_eq_none.mp hf _ h
    simp at this

theorem cacheLookup_cacheInsert (c : List (Idx × R)) (i j : Idx) (r : R) :
    cacheLookup (cacheInsert c i r) j = if j = i then some r else cacheLookup c j := by
  unfold cacheLookup cacheInsert
  by_cases h : j = i
  · simp [h]
  · have : (fun e : Idx × R => decide ((e.1 != i) = true ∧ (e.1 == j) = true)) = fun e => e.1 == j := by
      funext e; by_cases he : e.1 = j <;> simp [he, h]
    rw [List.find?_cons_of_neg (by simpa using fun h' => h h'.symm), List.find?_filter, this, if_neg h]

/-! ### the engine with some indexes struck out -/

/-- The engine in which the indexes outside `av` are unreadable from the start. -/
def Env.restrict (env : Env R Re) (av : Idx → Bool) : Env R Re :=
  { env with truth := fun i => if av i then env.truth i else none }

/-- An index is available in a state: its rule is cached, or its list is not closed. -/
def avail (env : Env R Re) (s : State R Re) (idx : Idx) : Bool :=
  (cacheLookup s.cache idx).isSome || !s.closed.contains (env.listOf idx)

/-- Which collected entries survive striking out the indexes outside `av`. -/
def keep (av : Idx → Bool) (e : Item × R) : Bool :=
  match e.1 with
  | .st _ idx => av idx
  | .seq _ => true

section restrict
variable (env : Env R Re) (av : Idx → Bool)

theorem restrict_truth (idx : Idx) : (env.restrict av).truth idx = if av idx then env.truth idx else none := rfl
theorem restrict_wants : (env.restrict av).wants = env.wants := rfl
theorem restrict_resident : (env.restrict av).resident = env.resident := rfl
theorem restrict_listOf : (env.restrict av).listOf = env.listOf := rfl
theorem restrict_basic : (env.restrict av).basic = env.basic := rfl
theorem restrict_hcands : (env.restrict av).hcands = env.hcands := rfl
theorem restrict_mtch (r : R) (req : Request) : (env.restrict av).mtch r req = env.mtch r req := rfl
theorem restrict_verdict (src : Src) (r : R) (req : Request) : (env.restrict av).verdict src r req = env.verdict src r req := rfl
theorem restrict_reqOf (q : Query) : (env.restrict av).reqOf q = env.reqOf q := by cases q <;> rfl
theorem restrict_items1 (req : Request) : (env.restrict av).items1 req = env.items1 req := rfl
theorem restrict_items2 (q : Query) (req : Request) (nrs : List R) : (env.restrict av).items2 q req nrs = env.items2 q req nrs := by
  cases q <;> rfl
theorem useStep_restrict (req : Request) (acc : List (Item × R)) (src : Src) (idx : Idx) (o : Option R) :
    useStep (env.restrict av) req acc src idx o = useStep env req acc src idx o := rfl
theorem seqStep_restrict (req : Request) (acc : List (Item × R)) (k : Nat) :
    seqStep (env.restrict av) req acc k = seqStep env req acc k := rfl

end restrict

theorem restrict_true (env : Env R Re) : env.restrict (fun _ => true) = env := rfl

theorem pureFold_nil (env : Env R Re) (req : Request) (acc : List (Item × R)) : pureFold env req acc [] = acc := rfl

theorem pureFold_cons (env : Env R Re) (req : Request) (acc : List (Item × R)) (it : Item) (rest : List Item) :
    pureFold env req acc (it :: rest) = pureFold env req (pureStep env req acc it) rest := rfl

theorem pureFold_append (env : Env R Re) (req : Request) (acc : List (Item × R)) (xs ys : List Item) :
    pureFold env req acc (xs ++ ys) = pureFold env req (pureFold env req acc xs) ys := by
  simp [pureFold, List.foldl_append]

/-- what the thread will have collected when the item in progress is finished (according to `truth`) -/
def pendAcc (env : Env R Re) (t : Thread R) : List (Item × R) :=
  match t.pc with
  | .get src idx => pureStep env t.req t.acc (.st src idx)
  | .read src idx => pureStep env t.req t.acc (.st src idx)
  | .put src idx r => useStep env t.req t.acc src idx ((some r).filter (env.wants src))
  | .use src idx o => useStep env t.req t.acc src idx o
  | .seq k => seqStep env t.req t.acc k
  | .prep it r => if env.mtch r t.req then t.acc ++ [(it, r)] else t.acc
  | .rx it r => if env.mtch r t.req then t.acc ++ [(it, r)] else t.acc
  | _ => t.acc

/-- collected so far, extended by the pending item and the items still to do (all according to `truth`) -/
def Tot (env : Env R Re) (t : Thread R) : List (Item × R) := pureFold env t.req (pendAcc env t) t.todo

/-- what `Tot` is compared with: the stateless result of the stage the thread is in -/
def target (env : Env R Re) (t : Thread R) : List (Item × R) :=
  if t.stage then pure2 env t.q t.req else pure1 env t.req

@[simp] theorem advance_q (t : Thread R) : t.advance.q = t.q := by
  fun_cases Thread.advance t <;> rfl
@[simp] theorem advance_req (t : Thread R) : t.advance.req = t.req := by
  fun_cases Thread.advance t <;> rfl
@[simp] theorem advance_acc (t : Thread R) : t.advance.acc = t.acc := by
  fun_cases Thread.advance t <;> rfl
@[simp] theorem advance_stage (t : Thread R) : t.advance.stage = t.stage := by
  fun_cases Thread.advance t <;> rfl

theorem Tot_advance (env : Env R Re) (t : Thread R) :
    Tot env t.advance = pureFold env t.req t.acc t.todo := by
  fun_cases Thread.advance t <;> simp [Tot, pendAcc, pureFold_cons, pureStep, *]

theorem advance_pc_ne_start (t : Thread R) : t.advance.pc ≠ .start := by
  fun_cases Thread.advance t <;> simp

theorem advance_pc_ne_crash (t : Thread R) : t.advance.pc ≠ .crash := by
  fun_cases Thread.advance t <;> simp

structure TInv (env : Env R Re) (t : Thread R) : Prop where
  req_eq : t.pc ≠ .start → t.q.trivial = false → t.req = env.reqOf t.q
  put_ok : ∀ src idx r, t.pc = .put src idx r → env.truth idx = some r
  use_ok : ∀ src idx r, t.pc = .use src idx (some r) → env.truth idx = some r ∧ env.wants src r = true
  prep_ok : ∀ it r, (t.pc = .prep it r ∨ t.pc = .rx it r) → env.objRule it.obj = some r ∧ env.pre r t.req = true
  end_todo : (t.pc = .mid ∨ t.pc = .fin ∨ t.pc = .done) → t.todo = []
  mid_stage : t.pc = .mid → t.stage = false
  fin_stage : t.pc = .fin → t.stage = true
  done_stage : t.pc = .done → t.q.trivial = false → t.stage = true
  triv : t.q.trivial = true → t.pc ≠ .start → t.pc = .done ∧ t.acc = []

theorem tinv_init (env : Env R Re) (q : Query) : TInv env (Thread.init q) := by
  refine ⟨fun h => absurd rfl h, ?_, ?_, ?_, ?_, ?_, ?_, ?_, fun _ h => absurd rfl h⟩ <;> simp [Thread.init]

/-- A thread that has started and is not finished runs a non-trivial query. -/
theorem TInv.nontriv {env : Env R Re} {t : Thread R} (ht : TInv env t) (hs : t.pc ≠ .start) (hd : t.pc ≠ .done) :
    t.q.trivial = false := by
  cases h : t.q.trivial with
  | false => rfl
  | true => exact absurd (ht.triv h hs).1 hd

theorem tinv_advance {env : Env R Re} {t : Thread R} (h : t.req = env.reqOf t.q) (hq : t.q.trivial = false) :
    TInv env t.advance := by
  -- the new pc is `fin`, `mid`, `get` or `seq`: what `TInv` asks of the other pcs is vacuous
  fun_cases Thread.advance t <;> constructor <;> simp [*]

end UF.Prog
