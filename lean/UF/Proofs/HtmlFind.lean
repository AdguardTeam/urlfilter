import UF.Proofs.Html
/-
  The search: `findBodyInjectionIndex` on the transcoded text (rune counting, byte index into the
  UTF-8 text) against the reference on the bytes of the body; then the splice and the encoding.
-/
namespace UF.Html

/-- `for i := range body` steps over both bytes of a transcoded high byte. -/
theorem runeWidth_hi : ∀ c : UInt8, ¬ c < 0x80 → ∀ rest : Bytes,
    runeWidth (((0xC0 : UInt8) ||| (c >>> 6)) :: ((0x80 : UInt8) ||| (c &&& 0x3F)) :: rest) = 2 := by
  intro c hc rest
  obtain ⟨h1, h2, h3, h4, _⟩ := enc_hi c hc
  have h2' : ((0xC2 : UInt8) ≤ ((0xC0 : UInt8) ||| (c >>> 6)) && ((0xC0 : UInt8) ||| (c >>> 6)) ≤ 0xDF) = true := by
    rw [Bool.or_eq_true, beq_iff_eq, beq_iff_eq] at h2
    rcases h2 with h | h <;> rw [h] <;> decide
  have h3' : isCont ((0x80 : UInt8) ||| (c &&& 0x3F)) = true := by
    unfold isCont; rw [decide_eq_true h3, decide_eq_true h4]; rfl
  rw [runeWidth, if_neg h1, if_pos h2', if_pos h3']

/-- Length of the transcoded text of the first `k` bytes = the byte index into the UTF-8 text. -/
def u8len (b : Bytes) (k : Nat) : Nat := (latin1Decode (b.take k)).length

theorem u8len_succ (c : UInt8) (r : Bytes) (k : Nat) :
    u8len (c :: r) (k + 1) = (encByte c).length + u8len r k := by
  unfold u8len
  rw [List.take_succ_cons, latin1Decode_cons, List.length_append]

/-- One step of the search: the tests at the first byte of `encByte c`, then on past the rune. -/
theorem findGo_encByte (w : Nat) (c : UInt8) (t : Bytes) (i cnt : Nat) :
    findGo w (encByte c ++ t) i cnt 0 =
      if cnt == w then none else if anyMarker (encByte c ++ t) then some i
      else findGo w t (i + (encByte c).length) (cnt + 1) 0 := by
  unfold encByte
  by_cases ha : c < 0x80
  · have hw1 : runeWidth (c :: t) = 1 := by unfold runeWidth; exact if_pos ha
    simp only [ha, if_true, List.cons_append, List.nil_append, List.length_singleton]
    rw [findGo, hw1]
  · simp only [ha, if_false, List.cons_append, List.nil_append, List.length_cons, List.length_nil]
    rw [findGo, runeWidth_hi c ha, findGo]

theorem findGo_decode (w : Nat) (body : Bytes) (i cnt left : Nat) (hc : cnt + left = w) :
    findGo w (latin1Decode body) i cnt 0 = (specFind left body).map (fun k => i + u8len body k) := by
  induction body generalizing i cnt left with
  | nil => cases left <;> rfl
  | cons c r ih =>
    rw [latin1Decode_cons, findGo_encByte, ← latin1Decode_cons, anyMarker_decode]
    cases left with
    | zero => rw [if_pos (by simpa using hc)]; rfl
    | succ n =>
      rw [specFind, if_neg (by simp; omega), ih _ _ n (by omega)]
      split
      · rfl
      · cases specFind n r with
        | none => rfl
        | some k => simp only [Option.map_some, u8len_succ, Nat.add_assoc]

theorem findBodyInjectionIndex_decode (w : Nat) (body : Bytes) :
    findBodyInjectionIndex w (latin1Decode body) = (specFind w body).map (u8len body) := by
  unfold findBodyInjectionIndex
  rw [findGo_decode w body 0 0 w (Nat.zero_add w)]
  simp

theorem slice?_append_left (a c : Bytes) : Bytes.slice? (a ++ c) 0 a.length = some a := by
  simp [Bytes.slice?]

theorem slice?_append_right (a c : Bytes) : Bytes.slice? (a ++ c) a.length (a ++ c).length = some c := by
  unfold Bytes.slice?
  rw [if_pos ⟨by simp, Nat.le_refl _⟩, List.take_length, List.drop_left]

/-- `filterHTML` = the reference, for every window, body and ASCII tag. -/
theorem filterHTML_eq (w : Nat) (b tag : Bytes) (ht : Bytes.isAscii tag = true) :
    filterHTML w b tag =
      some ⟨specFilter w b tag, (specFilter w b tag).length, false, !(specFind w b).isSome⟩ := by
  unfold filterHTML specFilter
  simp only [findBodyInjectionIndex_decode]
  cases hs : specFind w b with
  | none => simp [latin1Encode_decode]
  | some k =>
    -- the text splits at the index between the transcoded halves
    have h : latin1Decode b = latin1Decode (b.take k) ++ latin1Decode (b.drop k) := by
      rw [← latin1Decode_append, List.take_append_drop]
    simp only [Option.map_some, u8len]
    rw [h, slice?_append_left, slice?_append_right]
    simp [List.append_assoc, latin1Encode_decode_append, latin1Encode_ascii_append _ _ ht, latin1Encode_decode]

/-! ### The reference really is "the first marker start inside the window" -/

theorem specFind_some_iff (w : Nat) (body : Bytes) (i : Nat) :
    specFind w body = some i ↔
      (i < w ∧ i < body.length ∧ markerAt (body.drop i) = true ∧ ∀ j, j < i → markerAt (body.drop j) = false) := by
  induction body generalizing w i with
  | nil => cases w <;> simp [specFind]
  | cons c r ih =>
    cases w with
    | zero => simp [specFind]
    | succ n =>
      rw [specFind]
      by_cases hm : markerAt (c :: r) = true
      · cases i with
        | zero => simp [hm]
        | succ k => simp only [hm, if_true, Nat.forall_lt_succ_left, List.drop_zero]; simp
      · cases i with
        | zero => simp [hm]
        | succ k => simp [hm, ih n k, Nat.forall_lt_succ_left]

theorem specFind_le {w : Nat} {body : Bytes} {k : Nat} (h : specFind w body = some k) : k < body.length ∧ k < w :=
  let ⟨h1, h2, _⟩ := (specFind_some_iff w body k).mp h
  ⟨h2, h1⟩

theorem specFind_none_iff (w : Nat) (body : Bytes) :
    specFind w body = none ↔ ∀ j, j < w → j < body.length → markerAt (body.drop j) = false := by
  induction body generalizing w with
  | nil => cases w <;> simp [specFind]
  | cons c r ih =>
    cases w with
    | zero => simp [specFind]
    | succ n =>
      rw [specFind]
      by_cases hm : markerAt (c :: r) = true
      · simp only [hm, if_true, Nat.forall_lt_succ_left, List.drop_zero]; simp
      · simp [hm, ih n, Nat.forall_lt_succ_left]

/-- The search of the tree before commit 9cb6043 (D12):
    `for i := 0; i < min(headBufferSize, len(body)); i++` over the BYTES OF THE TRANSCODED TEXT.
    Kept only as a witness that the model tells the two apart (see the `example` in Props/C20). -/
def findOld (window : Nat) : (body : Bytes) → (i : Nat) → Option Nat
  | [], _ => none
  | c :: r, i =>
    if i ≥ window then none else
    if anyMarker (c :: r) then some i else findOld window r (i + 1)

end UF.Html
