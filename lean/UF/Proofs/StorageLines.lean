import UF.Model.Storage
import UF.Spec.Storage
import UF.Proofs.TrimSpace
/-
  Lines: `takeLine`/`dropLine`/`untilNL` and the offsets reported by `scanLinesFrom`.
-/
namespace UF.Storage

theorem takeLine_append_dropLine (s : Bytes) : takeLine s ++ dropLine s = s := by
  induction s with
  | nil => rfl
  | cons c r ih =>
    by_cases h : c = 10
    · simp [takeLine, dropLine, h]
    · simp [takeLine, dropLine, h, ih]

theorem dropLine_eq_drop (s : Bytes) : dropLine s = s.drop (takeLine s).length := by
  induction s with
  | nil => rfl
  | cons c r ih =>
    by_cases h : c = 10
    · simp [takeLine, dropLine, h]
    · simp [takeLine, dropLine, h, ih]

/-- `takeLine` is `untilNL` plus the newline, if there is one. -/
theorem takeLine_cases (s : Bytes) :
    (10 ∈ s ∧ takeLine s = untilNL s ++ [10]) ∨ (10 ∉ s ∧ takeLine s = s ∧ untilNL s = s) := by
  induction s with
  | nil => right; simp [takeLine, untilNL]
  | cons c r ih =>
    by_cases h : c = 10
    · left; simp [takeLine, untilNL, h]
    · have h' : ¬ (10 = c) := fun e => h e.symm
      rcases ih with ⟨h1, h2⟩ | ⟨h1, h2, h3⟩
      · left; simp [takeLine, untilNL, h, h1, h2]
      · right; simp [takeLine, untilNL, h, h', h1, h2, h3]

theorem trimSpace_takeLine (s : Bytes) : trimSpace (takeLine s) = trimSpace (untilNL s) := by
  rcases takeLine_cases s with ⟨_, h⟩ | ⟨_, h, h'⟩
  · rw [h, trimSpace_nl']
  · rw [h, h']

theorem untilNL_takeLine (s : Bytes) : untilNL (takeLine s) = untilNL s := by
  induction s with
  | nil => rfl
  | cons c r ih =>
    by_cases h : c = 10
    · simp [takeLine, untilNL, h]
    · simp [takeLine, untilNL, h, ih]

/-- What `scanLinesFrom` reports: `k` bytes in, the line `ReadBytes('\n')` returns from there. -/
theorem scanLinesFrom_mem {pos : Nat} {s : Bytes} {idx : Nat} {line : Bytes}
    (h : (idx, line) ∈ scanLinesFrom pos s) :
    ∃ k, idx = pos + k ∧ k < s.length ∧ line = takeLine (s.drop k) := by
  induction pos, s using scanLinesFrom.induct with
  | case1 pos => simp [scanLinesFrom] at h
  | case2 pos c r line' ih =>
    rw [scanLinesFrom] at h
    rcases List.mem_cons.mp h with h | h
    · cases h
      exact ⟨0, rfl, Nat.zero_lt_succ _, rfl⟩
    · -- a later line: `k'` bytes into what the first line leaves
      obtain ⟨k', rfl, hk', rfl⟩ := ih h
      have hlen := congrArg List.length (takeLine_append_dropLine (c :: r))
      rw [List.length_append] at hlen
      have hl : line'.length = (takeLine (c :: r)).length := rfl
      refine ⟨line'.length + k', (Nat.add_assoc _ _ _), by omega, ?_⟩
      rw [dropLine_eq_drop, List.drop_drop]

theorem scanLines_mem {content : Bytes} {idx : Nat} {line : Bytes} (h : (idx, line) ∈ scanLines content) :
    idx < content.length ∧ line = takeLine (content.drop idx) := by
  obtain ⟨k, rfl, hk, hl⟩ := scanLinesFrom_mem h
  rw [Nat.zero_add]
  exact ⟨hk, hl⟩

end UF.Storage
