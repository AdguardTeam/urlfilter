import UF.Proofs.StorageLines
/-
  Retrieval from one list: `StringRuleList.RetrieveRule` never panics and reads
  `trimSpace (untilNL (content.drop idx))`; `readLine` over ANY chunking reads the same bytes,
  hence `FileRuleList.RetrieveRule` agrees with it at every index.
-/
namespace UF.Storage

theorem indexByte_go_shift (s : Bytes) (c : UInt8) (i : Nat) :
    Bytes.indexByte.go c s i = (Bytes.indexByte.go c s 0).map (· + i) := by
  induction s generalizing i with
  | nil => simp [Bytes.indexByte.go]
  | cons a t ih =>
    by_cases h : a = c
    · simp [Bytes.indexByte.go, h]
    · simp only [Bytes.indexByte.go, beq_iff_eq, h, if_false]
      rw [ih (i + 1), ih (0 + 1)]
      cases Bytes.indexByte.go c t 0 with
      | none => rfl
      | some k => simp; omega

/-- `strings.IndexByte(s, '\n')` against `untilNL`. -/
theorem indexByte_nl (s : Bytes) :
    match Bytes.indexByte s 10 with
    | none => 10 ∉ s ∧ untilNL s = s
    | some k => 10 ∈ s ∧ k ≤ s.length ∧ untilNL s = s.take k := by
  induction s with
  | nil => simp [Bytes.indexByte, Bytes.indexByte.go, untilNL]
  | cons a t ih =>
    by_cases h : a = 10
    · simp [Bytes.indexByte, Bytes.indexByte.go, untilNL, h]
    · have h' : ¬ 10 = a := fun e => h e.symm
      unfold Bytes.indexByte at ih ⊢
      simp only [Bytes.indexByte.go, beq_iff_eq, h, if_false]
      rw [indexByte_go_shift]
      cases hk : Bytes.indexByte.go 10 t 0 with
      | none => rw [hk] at ih; simp [untilNL, h, h'] at ih ⊢; exact ih
      | some k => rw [hk] at ih; simp [untilNL, h, h'] at ih ⊢; exact ih

/-- `StringRuleList.RetrieveRule` inside the bounds: no panic, and the line is what precedes the
    next newline. -/
theorem retrieveString_eq (parse : Parser) (id : Int) (content : Bytes) (i : Nat) (h : i < content.length) :
    retrieveString parse id content (i : Int) =
      (let line := trimSpace (untilNL (content.drop i))
       if line.isEmpty then .err else ofParse id (parse line id)) := by
  unfold retrieveString
  have h1 : ¬ ((i : Int) < 0 ∨ (i : Int) ≥ (content.length : Int)) := by omega
  simp only [Bool.or_eq_true, decide_eq_true_eq, h1, if_false, Int.toNat_natCast]
  have hs : Bytes.slice? content i content.length = some (content.drop i) := by
    unfold Bytes.slice?
    rw [if_pos ⟨Nat.le_of_lt h, Nat.le_refl _⟩, List.take_length]
  rw [hs]
  simp only
  have hnl := indexByte_nl (content.drop i)
  cases hk : Bytes.indexByte (content.drop i) 10 with
  | none =>
    rw [hk] at hnl
    simp only at hnl ⊢
    rw [hs]
    simp only [hnl.2]
  | some k =>
    rw [hk] at hnl
    simp only at hnl ⊢
    obtain ⟨_, hk1, hk2⟩ := hnl
    have hs2 : Bytes.slice? content i (k + i) = some ((content.drop i).take k) := by
      unfold Bytes.slice?
      rw [List.length_drop] at hk1
      rw [if_pos ⟨Nat.le_add_left _ _, by omega⟩, List.take_drop, Nat.add_comm]
    rw [hs2]
    simp only [hk2]

theorem retrieveString_oob (parse : Parser) (id : Int) (content : Bytes) (idx : Int)
    (h : idx < 0 ∨ idx ≥ content.length) : retrieveString parse id content idx = .err := by
  unfold retrieveString
  simp [h]

theorem untilNL_append_of_not_mem {a : Bytes} (h : 10 ∉ a) (b : Bytes) : untilNL (a ++ b) = a ++ untilNL b := by
  induction a with
  | nil => rfl
  | cons c r ih =>
    have hc : ¬ c = 10 := by intro e; apply h; simp [e]
    have hr : 10 ∉ r := by intro e; apply h; simp [e]
    simp [untilNL, hc, ih hr]

theorem untilNL_append_of_mem {a : Bytes} (h : 10 ∈ a) (b : Bytes) : untilNL (a ++ b) = untilNL a := by
  induction a with
  | nil => simp at h
  | cons c r ih =>
    by_cases hc : c = 10
    · simp [untilNL, hc]
    · have hr : 10 ∈ r := by
        simp at h
        rcases h with h | h
        · exact absurd h.symm hc
        · exact h
      simp [untilNL, hc, ih hr]

theorem readSize_le (b : Nat) (ch : Nat → Nat) (k left : Nat) : readSize b ch k left ≤ left := by
  unfold readSize; omega

theorem readSize_pos (b : Nat) (ch : Nat → Nat) (k left : Nat) (h : 0 < left) : 0 < readSize b ch k left := by
  unfold readSize; omega

/-- The loop invariant of `readLine`: whatever the block sizes, the accumulated line plus the line
    prefix of what is left does not change. -/
theorem readLineGo_eq (b : Nat) (ch : Nat → Nat) (fuel k : Nat) (rest line : Bytes) (hf : rest.length < fuel) :
    readLineGo b ch fuel k rest line = line ++ untilNL rest := by
  induction fuel generalizing k rest line with
  | zero => omega
  | succ fuel ih =>
    unfold readLineGo
    have hle := readSize_le b ch k rest.length
    have hpos := readSize_pos b ch k rest.length
    generalize readSize b ch k rest.length = n at hle hpos
    simp only
    split
    · -- a block of `n` bytes is read; the line ends in it or goes on after it
      have hsplit := List.take_append_drop n rest
      have hnl := indexByte_nl (rest.take n)
      split <;> rename_i hk <;> rw [hk] at hnl
      · rw [ih _ _ _ (by rw [List.length_drop]; omega)]
        conv => rhs; rw [← hsplit, untilNL_append_of_not_mem hnl.1]
        rw [List.append_assoc]
      · conv => rhs; rw [← hsplit, untilNL_append_of_mem hnl.1, hnl.2.2]
    · -- nothing left to read
      have : rest = [] := List.length_eq_zero_iff.mp (by omega)
      rw [this]; exact (List.append_nil _).symm

/-- `readLine` returns the bytes before the first newline -- for every buffer size and every way
    the operating system cuts the reads. -/
theorem readLine_eq (b : Nat) (ch : Nat → Nat) (rest : Bytes) : readLine b ch rest = untilNL rest := by
  unfold readLine
  rw [readLineGo_eq _ _ _ _ _ _ (by omega)]
  simp

/-- `FileRuleList.RetrieveRule` = `StringRuleList.RetrieveRule` at EVERY index (negative, inside,
    beyond the end), for every chunking. -/
theorem retrieveFile_eq_retrieveString (b : Nat) (ch : Nat → Nat) (parse : Parser) (id : Int) (content : Bytes)
    (idx : Int) : retrieveFile b ch parse id content idx = retrieveString parse id content idx := by
  by_cases hneg : idx < 0
  · rw [retrieveString_oob _ _ _ _ (Or.inl hneg)]
    simp [retrieveFile, hneg]
  · obtain ⟨i, rfl⟩ : ∃ i : Nat, idx = (i : Int) := ⟨idx.toNat, by omega⟩
    unfold retrieveFile
    simp only [hneg, if_false, Int.toNat_natCast, readLine_eq]
    by_cases hi : i < content.length
    · rw [retrieveString_eq _ _ _ _ hi]
    · rw [retrieveString_oob _ _ _ _ (Or.inr (by omega))]
      have : content.drop i = [] := List.drop_eq_nil_of_le (by omega)
      simp [this, untilNL, trimSpace, dropAsciiSp]

end UF.Storage
