import UF.Model.DnsRewriteParse
import UF.Spec.DnsRewriteShape
import UF.Proofs.BytesSearch
/-
  Helper lemmas for C10: what each level of the parser returns (a rejection or a value of the
  published shape, never a panic).
-/
namespace UF.H
open Bytes

theorem lookupTbl_mem {tbl : List (Bytes × Nat)} {k : Bytes} {v : Nat}
    (h : lookupTbl tbl k = some v) : ∃ e ∈ tbl, e.2 = v := by
  unfold lookupTbl at h
  split at h
  · rename_i e he
    exact ⟨e, List.mem_of_find?_eq_some he, by simpa using h⟩
  · cases h

theorem validatePart_cases (p : Bytes) : validatePart p = .ok () ∨ validatePart p = .error .reject := by
  unfold validatePart
  by_cases h0 : p.length = 0
  · simp [h0]
  · have hpos : 0 < p.length := Nat.pos_of_ne_zero h0
    simp only [beq_iff_eq, h0, if_false, idxE_of_lt hpos]
    split
    · exact .inr rfl
    · rw [sliceE_to_end (by omega)]
      simp only
      split
      · exact .inl rfl
      · exact .inr rfl

theorem validateParts_cases (ps : List Bytes) :
    validateParts ps = .ok () ∨ validateParts ps = .error .reject := by
  induction ps with
  | nil => exact .inl rfl
  | cons p ps ih =>
    unfold validateParts
    rcases validatePart_cases p with hp | hp <;> rw [hp]
    · exact ih
    · exact .inr rfl

theorem validateHost_cases (h : Bytes) : validateHost h = .ok () ∨ validateHost h = .error .reject := by
  unfold validateHost
  split
  · exact .inr rfl
  · exact validateParts_cases _

theorem validateHost_ok_nonempty {h : Bytes} (hv : validateHost h = .ok ()) : h ≠ [] := by
  intro he
  subst he
  simp [validateHost] at hv

theorem validateTarget_cases (t : Bytes) :
    validateTarget t = .ok () ∨ validateTarget t = .error .reject := by
  unfold validateTarget
  split
  · exact .inl rfl
  · exact validateHost_cases _

theorem isU16_parseUint16 {x : Bytes} {n : Nat} (h : parseUint16 x = some n) : isU16 n = true := by
  unfold parseUint16 at h
  split at h
  · cases h
  · split at h
    · rename_i hle
      cases h
      exact decide_eq_true hle
    · cases h

/-- A rejection or an accepted value of the published shape; not a panic. -/
def WellShaped (r : Except HErr DnsRewrite) : Prop :=
  r = .error .reject ∨ ∃ rw, r = .ok rw ∧ shapeOK rw = true

/-- What a handler called for the record type `rr` returns. -/
def Yields (rc rr : Nat) (r : Except HErr DnsRewrite) : Prop :=
  r = .error .reject ∨ (∃ cn, cn ≠ [] ∧ r = .ok { newCNAME := cn }) ∨
  ∃ val, valueShapeOK rr val = true ∧ r = .ok { rcode := rc, rrType := rr, value := val }

theorem Yields.reject {rc rr : Nat} : Yields rc rr (.error .reject) := .inl rfl

theorem Yields.cname {rc rr : Nat} {cn : Bytes} (h : cn ≠ []) : Yields rc rr (.ok { newCNAME := cn }) :=
  .inr (.inl ⟨cn, h, rfl⟩)

theorem Yields.value {rc rr : Nat} {val : RRVal} (h : valueShapeOK rr val = true) :
    Yields rc rr (.ok { rcode := rc, rrType := rr, value := val }) :=
  .inr (.inr ⟨val, h, rfl⟩)

/-- In a value of the published shape a new CNAME stands alone. -/
theorem shapeOK_cname_alone {rw : DnsRewrite} (h : shapeOK rw = true) (hc : rw.newCNAME ≠ []) :
    rw.rcode = 0 ∧ rw.rrType = 0 ∧ rw.value = .none := by
  obtain ⟨rc, rr, cn, v⟩ := rw
  cases cn with
  | nil => exact absurd rfl hc
  | cons c t => simpa [shapeOK, and_assoc] using h

theorem shapeOK_rcodeOnly (rc : Nat) : shapeOK { rcode := rc } = true := by
  cases rc <;> rfl

theorem Yields.wellShaped {rr : Nat} {r : Except HErr DnsRewrite} (h : Yields 0 rr r)
    (hu : rr ≤ 65535) : WellShaped r := by
  rcases h with h | ⟨cn, hcn, h⟩ | ⟨val, hv, h⟩
  · exact .inl h
  · refine .inr ⟨_, h, ?_⟩
    cases cn with
    | nil => exact absurd rfl hcn
    | cons c t => rfl
  · exact .inr ⟨_, h, by simp [shapeOK, isU16, hu, hv]⟩

theorem valueShapeOK_addr (a : Addr) :
    valueShapeOK (if a.is4 then Facts.H.DnsTypeA else Facts.H.DnsTypeAAAA) (.addr a) = true := by
  obtain ⟨is4, val⟩ := a
  cases is4 <;> rfl

theorem ipHandler_yields (w : Bool) (ext : Ext) (rc : Nat) (v : Bytes) {rr : Nat}
    (hrr : rr = if w then Facts.H.DnsTypeA else Facts.H.DnsTypeAAAA) :
    Yields rc rr (ipHandler w ext rc rr v) := by
  unfold ipHandler
  split
  · exact .reject
  · split
    · exact .reject
    · rename_i a _
      split
      · exact .reject
      · rename_i hw
        have : a.is4 = w := by simpa using hw
        subst this hrr
        exact .value (valueShapeOK_addr a)

theorem cnameHandler_yields (ext : Ext) (rc rr : Nat) (v : Bytes) :
    Yields rc rr (cnameHandler ext rc rr v) := by
  unfold cnameHandler
  rcases validateHost_cases v with hv | hv <;> rw [hv]
  · exact .cname (validateHost_ok_nonempty hv)
  · exact .reject

theorem mxHandler_yields (ext : Ext) (rc : Nat) (v : Bytes) :
    Yields rc Facts.H.DnsTypeMX (mxHandler ext rc Facts.H.DnsTypeMX v) := by
  unfold mxHandler
  simp only
  split
  · exact .reject
  · rename_i hlen
    simp at hlen
    rw [idxE_of_lt (by omega : 0 < (splitNByte v (ch ' ') 2).length),
        idxE_of_lt (by omega : 1 < (splitNByte v (ch ' ') 2).length)]
    simp only
    split
    · exact .reject
    · rename_i pref hp
      rcases validateHost_cases ((splitNByte v (ch ' ') 2)[1]'(by omega)) with hv | hv <;> rw [hv]
      · exact .value (isU16_parseUint16 hp)
      · exact .reject

theorem srvHandler_yields (ext : Ext) (rc : Nat) (v : Bytes) :
    Yields rc Facts.H.DnsTypeSRV (srvHandler ext rc Facts.H.DnsTypeSRV v) := by
  unfold srvHandler
  simp only
  split
  · exact .reject
  · rename_i hlen
    simp at hlen
    rw [idxE_of_lt (by omega : 0 < (splitByte v (ch ' ')).length),
        idxE_of_lt (by omega : 1 < (splitByte v (ch ' ')).length),
        idxE_of_lt (by omega : 2 < (splitByte v (ch ' ')).length),
        idxE_of_lt (by omega : 3 < (splitByte v (ch ' ')).length)]
    simp only
    split
    · exact .reject
    · rename_i prio hp
      split
      · exact .reject
      · rename_i weight hw
        split
        · exact .reject
        · rename_i port hpo
          rcases validateTarget_cases ((splitByte v (ch ' '))[3]'(by omega)) with ht | ht <;> rw [ht]
          · refine .value ?_
            show (isU16 prio && isU16 weight && isU16 port) = true
            rw [isU16_parseUint16 hp, isU16_parseUint16 hw, isU16_parseUint16 hpo]
            rfl
          · exact .reject

theorem svcbParams_cases (ps : List Bytes) (acc : List (Bytes × Bytes)) :
    (∃ params, svcbParams ps acc = .ok params) ∨ svcbParams ps acc = .error .reject := by
  induction ps generalizing acc with
  | nil => exact .inl ⟨acc, rfl⟩
  | cons p ps ih =>
    unfold svcbParams
    simp only
    split
    · exact .inr rfl
    · rename_i hlen
      simp at hlen
      rw [idxE_of_lt (by omega : 0 < (splitByte p (ch '=')).length),
          idxE_of_lt (by omega : 1 < (splitByte p (ch '=')).length)]
      exact ih _

/-- The handler itself rejects every record type but HTTPS and SVCB. -/
theorem svcbHandler_yields (ext : Ext) (rc rr : Nat) (v : Bytes) :
    Yields rc rr (svcbHandler ext rc rr v) := by
  unfold svcbHandler
  simp only
  split
  · exact .reject
  · rename_i hrr
    have hshape : ∀ prio target params, isU16 prio = true →
        valueShapeOK rr (.svcb prio target params) = true := by
      intro prio target params hp
      rw [Bool.not_eq_true', Bool.not_eq_false, Bool.or_eq_true, beq_iff_eq, beq_iff_eq] at hrr
      rcases hrr with h | h <;> subst h <;> exact hp
    split
    · exact .reject
    · rename_i hlen
      simp at hlen
      rw [idxE_of_lt (by omega : 0 < (splitByte v (ch ' ')).length),
          idxE_of_lt (by omega : 1 < (splitByte v (ch ' ')).length)]
      simp only
      split
      · exact .reject
      · rename_i prio hp
        rcases validateTarget_cases ((splitByte v (ch ' '))[1]'(by omega)) with ht | ht <;> rw [ht]
        · simp only
          split
          · exact .value (hshape _ _ _ (isU16_parseUint16 hp))
          · rcases svcbParams_cases ((splitByte v (ch ' ')).drop 2) [] with ⟨params, hps⟩ | hps <;> rw [hps]
            · exact .value (hshape _ _ _ (isU16_parseUint16 hp))
            · exact .reject
        · exact .reject

/-- The first step of the PTR handler: the FQDN and the text to validate. -/
theorem ptrSplit_ok (v : Bytes) :
    ∃ fqdn v', fqdn.getLast? = some (ch '.') ∧
      (if v.length > 0 then
        match idxE v (v.length - 1) with
        | .error e => .error e
        | .ok c =>
          if c == ch '.' then
            match sliceE v 0 (v.length - 1) with
            | .error e => .error e
            | .ok v' => .ok (v, v')
          else .ok (dnsFqdnNoDot v, v)
      else .ok (dnsFqdnNoDot v, v) : Except HErr (Bytes × Bytes)) = .ok (fqdn, v') := by
  have hfq : (dnsFqdnNoDot v).getLast? = some (ch '.') := by simp [dnsFqdnNoDot]
  split
  · rename_i hl
    rw [idxE_of_lt (by omega)]
    simp only
    split
    · rename_i hdot
      rw [sliceE_of_le (Nat.zero_le _) (by omega)]
      refine ⟨_, _, ?_, rfl⟩
      rw [List.getLast?_eq_getElem?, List.getElem?_eq_getElem (by omega)]
      simpa using hdot
    · exact ⟨_, _, hfq, rfl⟩
  · exact ⟨_, _, hfq, rfl⟩

theorem ptrHandler_yields (ext : Ext) (rc : Nat) (v : Bytes) :
    Yields rc Facts.H.DnsTypePTR (ptrHandler ext rc Facts.H.DnsTypePTR v) := by
  unfold ptrHandler
  simp only
  obtain ⟨fqdn, v', hlast, hsplit⟩ := ptrSplit_ok v
  split
  · rename_i hs
    cases hsplit.symm.trans hs
  · rename_i hs
    cases hsplit.symm.trans hs
    rcases validateHost_cases v' with hv | hv <;> rw [hv]
    · exact .value (beq_iff_eq.2 hlast)
    · exact .reject

/-- The dispatch over the handler map that ends `loadDNSRewriteNormal`. -/
theorem handlerOf_yields (ext : Ext) (rc rr : Nat) (v : Bytes) :
    Yields rc rr
      (match handlerOf rr with
       | none => .ok { rcode := rc, rrType := rr }
       | some h => h ext rc rr v) := by
  unfold handlerOf
  by_cases hA : rr = Facts.H.DnsTypeA
  · subst hA; exact ipHandler_yields true ext rc v rfl
  rw [if_neg (mt beq_iff_eq.1 hA)]
  by_cases hAAAA : rr = Facts.H.DnsTypeAAAA
  · subst hAAAA; exact ipHandler_yields false ext rc v rfl
  rw [if_neg (mt beq_iff_eq.1 hAAAA)]
  by_cases hCNAME : rr = Facts.H.DnsTypeCNAME
  · subst hCNAME; exact cnameHandler_yields ext rc _ v
  rw [if_neg (mt beq_iff_eq.1 hCNAME)]
  by_cases hMX : rr = Facts.H.DnsTypeMX
  · subst hMX; exact mxHandler_yields ext rc v
  rw [if_neg (mt beq_iff_eq.1 hMX)]
  by_cases hPTR : rr = Facts.H.DnsTypePTR
  · subst hPTR; exact ptrHandler_yields ext rc v
  rw [if_neg (mt beq_iff_eq.1 hPTR)]
  by_cases hTXT : rr = Facts.H.DnsTypeTXT
  · subst hTXT; exact .value rfl
  rw [if_neg (mt beq_iff_eq.1 hTXT)]
  by_cases hHTTPS : rr = Facts.H.DnsTypeHTTPS
  · subst hHTTPS; exact svcbHandler_yields ext rc _ v
  rw [if_neg (mt beq_iff_eq.1 hHTTPS)]
  by_cases hSVCB : rr = Facts.H.DnsTypeSVCB
  · subst hSVCB; exact svcbHandler_yields ext rc _ v
  rw [if_neg (mt beq_iff_eq.1 hSVCB)]
  by_cases hSRV : rr = Facts.H.DnsTypeSRV
  · subst hSRV; exact srvHandler_yields ext rc v
  rw [if_neg (mt beq_iff_eq.1 hSRV)]
  exact .value (by simp [valueShapeOK, hA, hAAAA, hMX, hSRV, hHTTPS, hSVCB, hPTR, hTXT])

theorem strToRRType_u16 {s : Bytes} {rr : Nat} (h : strToRRType s = some rr) : rr ≤ 65535 := by
  unfold strToRRType at h
  split at h
  · cases h
  · obtain ⟨e, he, hv⟩ := lookupTbl_mem h
    have htbl : Facts.H.dnsTypeTable.all (fun e => decide (e.2 ≤ 65535)) = true := by decide
    have := List.all_eq_true.mp htbl e he
    simp at this
    omega

theorem loadDNSRewriteShort_wellShaped (ext : Ext) (s : Bytes) :
    WellShaped (loadDNSRewriteShort ext s) := by
  unfold loadDNSRewriteShort
  split
  · exact .inr ⟨_, rfl, shapeOK_rcodeOnly 0⟩
  · split
    · split
      · exact .inr ⟨_, rfl, shapeOK_rcodeOnly _⟩
      · exact .inl rfl
    · split
      · rename_i a _
        exact (Yields.value (valueShapeOK_addr a)).wellShaped (by cases a.is4 <;> decide)
      · exact (cnameHandler_yields ext 0 0 s).wellShaped (by decide)

theorem loadDNSRewriteNormal_wellShaped (ext : Ext) (a b c : Bytes) :
    WellShaped (loadDNSRewriteNormal ext a b c) := by
  unfold loadDNSRewriteNormal
  split
  · exact .inl rfl
  · rename_i rcode _
    split
    · exact .inr ⟨_, rfl, shapeOK_rcodeOnly _⟩
    · rename_i hcond
      have hrc : rcode = 0 := by
        simp [Facts.H.RcodeSuccess] at hcond
        exact hcond.1
      subst hrc
      split
      · exact .inl rfl
      · rename_i rr hrr
        exact (handlerOf_yields ext 0 rr c).wellShaped (strToRRType_u16 hrr)

theorem loadDNSRewrite_wellShaped (ext : Ext) (s : Bytes) : WellShaped (loadDNSRewrite ext s) := by
  unfold loadDNSRewrite
  simp only
  split
  · exact loadDNSRewriteShort_wellShaped _ _
  · exact .inl rfl
  · rename_i hlen
    rw [idxE_of_lt (by omega : 0 < (splitNByte s (ch ';') 3).length),
        idxE_of_lt (by omega : 1 < (splitNByte s (ch ';') 3).length),
        idxE_of_lt (by omega : 2 < (splitNByte s (ch ';') 3).length)]
    exact loadDNSRewriteNormal_wellShaped _ _ _ _
  · exact .inl rfl

/-- An oracle that knows two addresses. -/
def exampleExt : Ext where
  psl := fun _ => ([], false)
  parseAddr := fun s =>
    if s == lit "1.2.3.4" then some { is4 := true, val := 16909060 }
    else if s == lit "::1" then some { is4 := false, val := 1 } else none
  parsePrefix := fun _ => none
  pat := fun _ _ _ => false

end UF.H
