import UF.Spec.Result
import UF.Proofs.Priority
import UF.Proofs.Badfilter
/- `NewMatchingResult` / `NewDNSResult` against the documented precedence: the two scans stated field by field, and
   any candidate of maximal class rank decides the verdict class (`precedence_of_max`). -/
namespace UF

theorem removeDNSRewriteRules_eq (rules : List NetRule) :
    removeDNSRewriteRules rules = rules.filter (·.rewrite.isNone) := by
  unfold removeDNSRewriteRules
  induction rules with
  | nil => rfl
  | cons x xs ih =>
    rw [List.findIdx?_cons]
    cases hx : x.rewrite.isSome with
    | true =>
      simp only [if_true, List.take_zero, List.nil_append, List.drop_zero]
      rw [foldl_append_if]; simp
    | false =>
      have hxn : x.rewrite.isNone = true := by
        cases h : x.rewrite with
        | none => rfl
        | some v => rw [h] at hx; simp at hx
      simp only [Bool.false_eq_true, if_false, List.filter_cons, hxn, if_true]
      cases hf : xs.findIdx? (fun r => r.rewrite.isSome) with
      | none =>
        rw [hf] at ih
        simp only [Option.map_none]
        simp only at ih
        rw [← ih]
      | some i =>
        rw [hf] at ih
        simp only [Option.map_some, List.take_succ_cons, List.drop_succ_cons, List.cons_append]
        simp only at ih
        rw [ih]

theorem effective_eq (rules : List NetRule) :
    removeDNSRewriteRules (removeBadfilterRules rules) = rules.filter (effectiveIn rules) := by
  rw [removeDNSRewriteRules_eq, removeBadfilterRules_eq_spec, specRemoveBad, List.filter_filter]
  apply List.filter_congr
  intro r _
  unfold effectiveIn
  have : rules.any (fun b => b.badfilter && negatesBadfilter b r) = rules.any (fun b => isTwin b r) := by
    apply any_congr_mem
    intro b _
    rw [negatesBadfilter_eq_isTwin]
    unfold isTwin
    cases b.badfilter <;> simp
  rw [this, Bool.and_comm]

theorem classRank_cases (r : NetRule) :
    (classRank r = 3 ∧ r.whitelist = true ∧ r.important = true) ∨
    (classRank r = 2 ∧ r.whitelist = false ∧ r.important = true) ∨
    (classRank r = 1 ∧ r.whitelist = true ∧ r.important = false) ∨
    (classRank r = 0 ∧ r.whitelist = false ∧ r.important = false) := by
  unfold classRank
  cases r.whitelist <;> cases r.important <;> simp

theorem classRank_tests (r : NetRule) :
    (classRank r < 3 → (r.whitelist && r.important) = false) ∧
    (classRank r < 2 → (!r.whitelist && r.important) = false) ∧
    (classRank r < 1 → r.whitelist = false) := by
  unfold classRank
  cases r.whitelist <;> cases r.important <;> decide

/-- A candidate of maximal class rank among the candidates decides the documented precedence. -/
theorem precedence_of_max (c : NetRule → Bool) (l : List NetRule) (w : NetRule) (hw : w ∈ l) (hc : c w = true)
    (hmax : ∀ r ∈ l, c r = true → classRank r ≤ classRank w) : precedence c l = classOf (some w) := by
  -- a test that fails below rank `n` fails on every candidate when `w` is below `n` …
  have above : ∀ (t : NetRule → Bool) (n : Nat), (∀ r, classRank r < n → t r = false) → classRank w < n →
      l.any (fun r => c r && t r) = false := by
    intro t n ht hn
    apply List.any_eq_false.mpr
    intro r hr h
    rw [Bool.and_eq_true] at h
    rw [ht r (Nat.lt_of_le_of_lt (hmax r hr h.1) hn)] at h
    exact Bool.false_ne_true h.2
  -- … and a test that `w` passes succeeds
  have found : ∀ t : NetRule → Bool, t w = true → l.any (fun r => c r && t r) = true :=
    fun t ht => List.any_eq_true.mpr ⟨w, hw, by rw [hc, ht]; rfl⟩
  have h3 := above (fun r => r.whitelist && r.important) 3 (fun r => (classRank_tests r).1)
  have h2 := above (fun r => !r.whitelist && r.important) 2 (fun r => (classRank_tests r).2.1)
  have h1 := above (fun r => r.whitelist) 1 (fun r => (classRank_tests r).2.2)
  unfold precedence
  show _ = if w.whitelist = true then VClass.allow else VClass.block
  rcases classRank_cases w with ⟨hk, hwl, hi⟩ | ⟨hk, hwl, hi⟩ | ⟨hk, hwl, hi⟩ | ⟨hk, hwl, hi⟩
  · rw [found (fun r => r.whitelist && r.important) (by rw [hwl, hi]; rfl), hwl]; rfl
  · rw [h3 (by omega), found (fun r => !r.whitelist && r.important) (by rw [hwl, hi]; rfl), hwl]; rfl
  · rw [h3 (by omega), h2 (by omega), found (fun r => r.whitelist) hwl, hwl]; rfl
  · rw [h3 (by omega), h2 (by omega), h1 (by omega), found (fun r => !r.whitelist) (by rw [hwl]; rfl), hwl]; rfl

theorem classOf_selectBest (C : List NetRule) :
    classOf (selectBest C) = precedence (fun _ => true) C := by
  cases h : selectBest C with
  | none => rw [(selectBest_none C).mp h]; rfl
  | some w =>
    obtain ⟨hw, hmax⟩ := fold_max C w h
    exact (precedence_of_max _ C w hw rfl fun r hr _ => Nat.le_of_not_lt fun hlt => hmax r hr (Or.inl hlt)).symm

theorem precedence_filter (c c' : NetRule → Bool) (l : List NetRule) :
    precedence c' (l.filter c) = precedence (fun r => c r && c' r) l := by
  unfold precedence
  simp only [List.any_filter, Bool.and_assoc]

theorem any_or' {α} (l : List α) (f g : α → Bool) : (l.any f || l.any g) = l.any (fun x => f x || g x) := by
  induction l with
  | nil => rfl
  | cons x xs ih =>
    simp only [List.any_cons, ← ih]
    cases f x <;> cases g x <;> cases xs.any f <;> cases xs.any g <;> rfl

theorem length_bne_zero {α} (l : List α) : (l.length != 0) = l.any (fun _ => true) := by
  cases l <;> simp

theorem foldl_selectStep_filter (p : NetRule → Bool) (l : List NetRule) (init : Option NetRule) :
    l.foldl (fun b r => if p r then selectStep b r else b) init = (l.filter p).foldl selectStep init := by
  induction l generalizing init with
  | nil => rfl
  | cons x xs ih =>
    simp only [List.foldl_cons, List.filter_cons]
    cases p x <;> simp [ih]

theorem ite_band {α} (c q : Bool) (a b : α) :
    (if (c && q) = true then a else b) = if c = true then (if q = true then a else b) else b := by
  cases c <;> rfl

theorem ite_bnot {α} (c : Bool) (a b : α) : (if (!c) = true then a else b) = if c = true then b else a := by
  cases c <;> rfl

theorem sourceStep_fields (s : SourceScan) (x : NetRule) :
    (sourceStep s x).documentRule =
      (if isDocumentWhitelistRule x then selectStep s.documentRule x else s.documentRule) ∧
    (sourceStep s x).basicAllowed =
      (s.basicAllowed && !(isDocumentWhitelistRule x && x.isEnabled Facts.OptionUrlblock)) ∧
    (sourceStep s x).genericAllowed =
      (s.genericAllowed && !(isDocumentWhitelistRule x && x.isEnabled Facts.OptionGenericblock)) := by
  unfold sourceStep
  simp only [apply_ite SourceScan.documentRule, apply_ite SourceScan.basicAllowed,
    apply_ite SourceScan.genericAllowed, ite_self]
  cases isDocumentWhitelistRule x <;> cases x.isEnabled Facts.OptionUrlblock <;>
    cases x.isEnabled Facts.OptionGenericblock <;> simp

/-- The first loop of `NewMatchingResult`. -/
theorem sourceScan_eq (l : List NetRule) (s : SourceScan) :
    ((l.foldl sourceStep s).documentRule = (l.filter isDocumentWhitelistRule).foldl selectStep s.documentRule) ∧
    ((l.foldl sourceStep s).basicAllowed =
      (s.basicAllowed && !l.any (fun r => isDocumentWhitelistRule r && r.isEnabled Facts.OptionUrlblock))) ∧
    ((l.foldl sourceStep s).genericAllowed =
      (s.genericAllowed && !l.any (fun r => isDocumentWhitelistRule r && r.isEnabled Facts.OptionGenericblock))) := by
  induction l generalizing s with
  | nil => simp
  | cons x xs ih =>
    obtain ⟨h1, h2, h3⟩ := ih (sourceStep s x)
    obtain ⟨s1, s2, s3⟩ := sourceStep_fields s x
    rw [List.foldl_cons, h1, h2, h3, s1, s2, s3, List.any_cons, List.any_cons, Bool.not_or, Bool.not_or,
      Bool.and_assoc, Bool.and_assoc]
    refine ⟨?_, rfl, rfl⟩
    rw [List.filter_cons]
    split <;> rfl

/-- Which rules the second loop offers to the selection. -/
def loopCandidate (basicAllowed genericAllowed : Bool) (r : NetRule) : Bool :=
  !r.isEnabled Facts.OptionCookie && !r.isEnabled Facts.OptionReplace && !r.isEnabled Facts.OptionCsp &&
    !r.isEnabled Facts.OptionStealth &&
    !(!r.whitelist && (!basicAllowed || (!genericAllowed && r.isGeneric)))

/-- … in the terms of the reference. -/
theorem loopCandidate_eq (ba ga : Bool) (r : NetRule) :
    loopCandidate ba ga r = (!isSpecial r && (r.whitelist || (ba && (ga || !r.isGeneric)))) := by
  unfold loopCandidate isSpecial
  simp only [Bool.not_or, Bool.not_and, Bool.not_not]

theorem ruleStep_basicRule (ba ga : Bool) (m : MatchingResult) (x : NetRule) :
    (ruleStep ba ga m x).basicRule =
      (if loopCandidate ba ga x then selectStep m.basicRule x else m.basicRule) := by
  unfold ruleStep loopCandidate
  generalize (!x.whitelist && (!ba || (!ga && x.isGeneric))) = skip
  simp only [apply_ite MatchingResult.basicRule, ite_band, ite_bnot]

theorem ruleStep_documentRule (ba ga : Bool) (m : MatchingResult) (x : NetRule) :
    (ruleStep ba ga m x).documentRule = m.documentRule := by
  unfold ruleStep
  simp only [apply_ite MatchingResult.documentRule, ite_self]

theorem ruleStep_replaceRules (ba ga : Bool) (m : MatchingResult) (x : NetRule) :
    (ruleStep ba ga m x).replaceRules = m.replaceRules ++
      [x].filter (fun r => !r.isEnabled Facts.OptionCookie && r.isEnabled Facts.OptionReplace) := by
  unfold ruleStep
  simp only [apply_ite MatchingResult.replaceRules, ite_self, List.filter_cons, List.filter_nil]
  cases x.isEnabled Facts.OptionCookie <;> cases x.isEnabled Facts.OptionReplace <;> simp

/-- The second loop of `NewMatchingResult`. -/
theorem ruleScan_eq (ba ga : Bool) (l : List NetRule) (m : MatchingResult) :
    ((l.foldl (ruleStep ba ga) m).basicRule = (l.filter (loopCandidate ba ga)).foldl selectStep m.basicRule) ∧
    ((l.foldl (ruleStep ba ga) m).documentRule = m.documentRule) ∧
    ((l.foldl (ruleStep ba ga) m).replaceRules =
      m.replaceRules ++ l.filter (fun r => !r.isEnabled Facts.OptionCookie && r.isEnabled Facts.OptionReplace)) := by
  induction l generalizing m with
  | nil => simp
  | cons x xs ih =>
    obtain ⟨h1, h2, h3⟩ := ih (ruleStep ba ga m x)
    rw [List.foldl_cons, h1, h2, h3, ruleStep_basicRule, ruleStep_documentRule, ruleStep_replaceRules,
      List.append_assoc, ← List.filter_append, List.singleton_append]
    refine ⟨?_, rfl, rfl⟩
    rw [List.filter_cons]
    split <;> rfl

/-- Which rules the loop of `GetDNSBasicRule` offers to the selection. -/
def dnsLoopCandidate (r : NetRule) : Bool :=
  !(r.isEnabled Facts.OptionCookie || r.isEnabled Facts.OptionCsp || r.isEnabled Facts.OptionStealth)

theorem dnsLoopCandidate_eq (r : NetRule) (h : r.isEnabled Facts.OptionReplace = false) :
    dnsLoopCandidate r = !isSpecial r := by
  unfold dnsLoopCandidate isSpecial
  rw [h, Bool.or_false]

theorem dnsBasicLoop_eq (l : List NetRule) (best : Option NetRule) :
    dnsBasicLoop l best =
      if l.any (fun r => r.isEnabled Facts.OptionReplace) then none
      else (l.filter dnsLoopCandidate).foldl selectStep best := by
  induction l generalizing best with
  | nil => simp [dnsBasicLoop]
  | cons x xs ih =>
    unfold dnsBasicLoop
    have hlc : dnsLoopCandidate x = !(x.isEnabled Facts.OptionCookie || x.isEnabled Facts.OptionCsp ||
        x.isEnabled Facts.OptionStealth) := rfl
    simp only [List.filter_cons, hlc, List.any_cons, ih]
    cases hr : x.isEnabled Facts.OptionReplace <;>
      cases hs : (x.isEnabled Facts.OptionCookie || x.isEnabled Facts.OptionCsp || x.isEnabled Facts.OptionStealth) <;>
      simp

theorem precedence_congr (c c' : NetRule → Bool) (l : List NetRule) (h : ∀ r ∈ l, c r = c' r) :
    precedence c l = precedence c' l := by
  have key : ∀ t : NetRule → Bool, l.any (fun r => c r && t r) = l.any (fun r => c' r && t r) :=
    fun t => any_congr_mem l _ _ fun r hr => by rw [h r hr]
  unfold precedence
  rw [key fun r => r.whitelist && r.important, key fun r => !r.whitelist && r.important,
    key fun r => r.whitelist, key fun r => !r.whitelist]

theorem precedence_ne_none_of_some (C : List NetRule) (b : NetRule) (h : selectBest C = some b) :
    precedence (fun _ => true) C ≠ .none := by
  rw [← classOf_selectBest, h]
  unfold classOf
  cases hb : b.whitelist <;> simp [hb]

/-- The flags of the first loop are the reference's `srcUrlblock` and `srcGenericblock`. -/
theorem src_flags (src : List NetRule) :
    ((src.filter (effectiveIn src)).any (fun r => isDocumentWhitelistRule r && r.isEnabled Facts.OptionUrlblock)
      = srcUrlblock src) ∧
    ((src.filter (effectiveIn src)).any (fun r => isDocumentWhitelistRule r && r.isEnabled Facts.OptionGenericblock)
      = srcGenericblock src) ∧
    ((src.filter (effectiveIn src)).any isDocumentWhitelistRule = (srcUrlblock src || srcGenericblock src)) := by
  unfold srcUrlblock srcGenericblock isDocumentWhitelistRule
  have absorb : ∀ w u g : Bool, ((w && (u || g)) && u) = (w && u) ∧ ((w && (u || g)) && g) = (w && g) := by
    decide
  simp only [List.any_filter, absorb, any_or', ← Bool.and_or_distrib_left, and_self]

/-- Model of the web verdict = reference, for ALL rule lists; the `$replace` early return is made
    explicit. -/
theorem webClass_eq (rules src : List NetRule) :
    classOf (getBasicResult (newMatchingResult rules src)) =
      if webReplaceTrigger rules then .none else classWeb rules src := by
  unfold newMatchingResult
  simp only [effective_eq]
  obtain ⟨hd, hb, hg⟩ := sourceScan_eq (src.filter (effectiveIn src)) {}
  obtain ⟨hU, hG, hUG⟩ := src_flags src
  simp only [Bool.true_and] at hb hg
  rw [hU] at hb; rw [hG] at hg
  generalize hs : (src.filter (effectiveIn src)).foldl sourceStep {} = s at hd hb hg
  obtain ⟨h1, h2, h3⟩ := ruleScan_eq s.basicAllowed s.genericAllowed (rules.filter (effectiveIn rules))
    { documentRule := s.documentRule, stealthRule := s.stealthRule }
  generalize hm : (rules.filter (effectiveIn rules)).foldl (ruleStep s.basicAllowed s.genericAllowed)
    { documentRule := s.documentRule, stealthRule := s.stealthRule } = m at h1 h2 h3
  simp only [List.nil_append] at h3
  unfold getBasicResult
  have htrig : (m.replaceRules.length != 0) = webReplaceTrigger rules := by
    rw [h3, length_bne_zero, List.any_filter, List.any_filter]
    unfold webReplaceTrigger
    apply any_congr_mem
    intro r _; simp
  rw [htrig]
  cases webReplaceTrigger rules with
  | true => rfl
  | false =>
    simp only [Bool.false_eq_true, if_false]
    -- the candidates of the loop are the reference candidates
    have hcand : ∀ r ∈ rules, webCandidate rules src r =
        (effectiveIn rules r && loopCandidate s.basicAllowed s.genericAllowed r) := by
      intro r _
      unfold webCandidate
      rw [loopCandidate_eq, hb, hg, Bool.and_assoc, Bool.not_and]
    have hprec : precedence (webCandidate rules src) rules =
        classOf (selectBest ((rules.filter (effectiveIn rules)).filter (loopCandidate s.basicAllowed s.genericAllowed))) := by
      rw [classOf_selectBest, precedence_filter, precedence_filter]
      apply precedence_congr
      intro r hr; rw [hcand r hr]; simp
    unfold classWeb
    rw [hprec, h1]
    show classOf (match selectBest _ with | none => m.documentRule | some b => some b) = _
    cases hsel : selectBest ((rules.filter (effectiveIn rules)).filter (loopCandidate s.basicAllowed s.genericAllowed)) with
    | some b =>
      simp only [classOf]
      cases b.whitelist <;> rfl
    | none =>
      simp only [classOf]
      rw [h2]
      show classOf s.documentRule = _
      rw [hd]
      show classOf (selectBest _) = _
      rw [← hUG]
      cases hdoc : selectBest ((src.filter (effectiveIn src)).filter isDocumentWhitelistRule) with
      | none =>
        rw [List.any_eq_false.mpr fun r hr hdw => by
          have := List.mem_filter.mpr ⟨hr, hdw⟩
          rw [(selectBest_none _).mp hdoc] at this
          cases this]
        rfl
      | some d =>
        obtain ⟨hd1, hd2⟩ := List.mem_filter.mp (fold_max _ d hdoc).1
        rw [List.any_eq_true.mpr ⟨d, hd1, hd2⟩]
        unfold isDocumentWhitelistRule at hd2
        rw [Bool.and_eq_true] at hd2
        simp [classOf, hd2.1]

/-- Model of the DNS verdict = reference, for ALL rule lists. -/
theorem dnsClass_eq (rules : List NetRule) :
    classOf (getDNSBasicRule rules) = if dnsReplaceTrigger rules then .none else classDns rules := by
  unfold getDNSBasicRule
  rw [effective_eq, dnsBasicLoop_eq]
  have htrig : (rules.filter (effectiveIn rules)).any (fun r => r.isEnabled Facts.OptionReplace) = dnsReplaceTrigger rules := by
    unfold dnsReplaceTrigger; rw [List.any_filter]
  rw [htrig]
  cases ht : dnsReplaceTrigger rules with
  | true => rfl
  | false =>
    simp only [Bool.false_eq_true, if_false]
    show classOf (selectBest _) = _
    rw [classOf_selectBest, precedence_filter, precedence_filter]
    unfold classDns
    symm
    apply precedence_congr
    intro r hr
    -- no effective rule carries `$replace`
    have hrep : effectiveIn rules r = true → r.isEnabled Facts.OptionReplace = false := by
      intro he
      have := List.any_eq_false.mp ht r hr
      simpa [he] using this
    unfold dnsCandidate
    cases he : effectiveIn rules r with
    | false => rfl
    | true => rw [dnsLoopCandidate_eq r (hrep he), Bool.and_true]

theorem effectiveIn_perm (a b : List NetRule) (h : a.Perm b) (r : NetRule) : effectiveIn a r = effectiveIn b r := by
  unfold effectiveIn; rw [h.any_eq]

theorem precedence_perm (c : NetRule → Bool) (a b : List NetRule) (h : a.Perm b) :
    precedence c a = precedence c b := by
  unfold precedence; simp only [h.any_eq]

theorem classWeb_perm (rules rules' src src' : List NetRule) (h : rules.Perm rules') (hs : src.Perm src') :
    classWeb rules src = classWeb rules' src' := by
  have hU : srcUrlblock src = srcUrlblock src' := by
    unfold srcUrlblock; rw [hs.any_eq]; apply any_congr_mem; intro r _; rw [effectiveIn_perm src src' hs]
  have hG : srcGenericblock src = srcGenericblock src' := by
    unfold srcGenericblock; rw [hs.any_eq]; apply any_congr_mem; intro r _; rw [effectiveIn_perm src src' hs]
  have hc : webCandidate rules src = webCandidate rules' src' := by
    funext r; unfold webCandidate; rw [effectiveIn_perm rules rules' h, hU, hG]
  unfold classWeb
  rw [hc, precedence_perm _ rules rules' h, hU, hG]

theorem classDns_perm (rules rules' : List NetRule) (h : rules.Perm rules') : classDns rules = classDns rules' := by
  have hc : dnsCandidate rules = dnsCandidate rules' := by
    funext r; unfold dnsCandidate; rw [effectiveIn_perm rules rules' h]
  unfold classDns
  rw [hc, precedence_perm _ rules rules' h]

theorem webReplaceTrigger_perm (rules rules' : List NetRule) (h : rules.Perm rules') :
    webReplaceTrigger rules = webReplaceTrigger rules' := by
  unfold webReplaceTrigger; rw [h.any_eq]; apply any_congr_mem; intro r _; rw [effectiveIn_perm rules rules' h]

theorem dnsReplaceTrigger_perm (rules rules' : List NetRule) (h : rules.Perm rules') :
    dnsReplaceTrigger rules = dnsReplaceTrigger rules' := by
  unfold dnsReplaceTrigger; rw [h.any_eq]; apply any_congr_mem; intro r _; rw [effectiveIn_perm rules rules' h]

theorem trigger_false_of_no_replace (rules : List NetRule) (h : ∀ r ∈ rules, r.isEnabled Facts.OptionReplace = false) :
    webReplaceTrigger rules = false ∧ dnsReplaceTrigger rules = false := by
  unfold webReplaceTrigger dnsReplaceTrigger
  constructor <;> (apply List.any_eq_false.mpr; intro r hr; simp [h r hr])

theorem effectiveIn_iff (all : List NetRule) (r : NetRule) : effectiveIn all r = true ↔
    r.badfilter = false ∧ (∀ x ∈ all, isTwin x r = false) ∧ r.rewrite = none := by
  unfold effectiveIn
  simp only [Bool.and_eq_true, Bool.not_eq_true', List.any_eq_false, Bool.not_eq_true,
    Option.isNone_iff_eq_none, and_assoc]

theorem basicRule_mem (rules src : List NetRule) (b : NetRule)
    (h : (newMatchingResult rules src).basicRule = some b) :
    b ∈ rules ∧ effectiveIn rules b = true ∧ isSpecial b = false := by
  unfold newMatchingResult at h
  simp only [effective_eq] at h
  generalize (src.filter (effectiveIn src)).foldl sourceStep {} = s at h
  obtain ⟨h1, _, _⟩ := ruleScan_eq s.basicAllowed s.genericAllowed (rules.filter (effectiveIn rules))
    { documentRule := s.documentRule, stealthRule := s.stealthRule }
  rw [h1] at h
  have hm := (fold_max _ b h).1
  have h2 := List.mem_filter.mp hm
  have h3 := List.mem_filter.mp h2.1
  refine ⟨h3.1, h3.2, ?_⟩
  have := h2.2
  rw [loopCandidate_eq, Bool.and_eq_true, Bool.not_eq_true'] at this
  exact this.1

theorem dnsBasicRule_mem (rules : List NetRule) (b : NetRule) (h : getDNSBasicRule rules = some b) :
    b ∈ rules ∧ effectiveIn rules b = true ∧ isSpecial b = false := by
  unfold getDNSBasicRule at h
  rw [effective_eq, dnsBasicLoop_eq] at h
  cases ht : (rules.filter (effectiveIn rules)).any (fun r => r.isEnabled Facts.OptionReplace) with
  | true => rw [ht] at h; simp at h
  | false =>
    rw [ht] at h
    simp only [Bool.false_eq_true, if_false] at h
    have hm := (fold_max _ b h).1
    have h2 := List.mem_filter.mp hm
    have h3 := List.mem_filter.mp h2.1
    refine ⟨h3.1, h3.2, ?_⟩
    have hrep : b.isEnabled Facts.OptionReplace = false := by
      have := List.any_eq_false.mp ht b h2.1
      simpa using this
    have := h2.2
    rwa [dnsLoopCandidate_eq b hrep, Bool.not_eq_true'] at this

end UF
