import UF.Proofs.StorageRetrieve
import UF.Proofs.Pack
/-
  The storage level: distinct ids make `listsMap` a function, the cache only ever holds what the
  lists would answer, and an index reported by the scanner leads back to the line it came from.
-/
namespace UF.Storage

theorem hasDupIds_eq_false_iff {ls : List RList} {seen : List Int} : hasDupIds ls seen = false ↔
    (∀ l ∈ ls, l.id ∉ seen) ∧ ls.Pairwise (fun a b => a.id ≠ b.id) := by
  induction ls generalizing seen with
  | nil => simp [hasDupIds]
  | cons l ls ih =>
    simp only [hasDupIds, Bool.or_eq_false_iff, ih, List.pairwise_cons, List.mem_cons, List.contains_eq_mem,
      decide_eq_false_iff_not, forall_eq_or_imp, not_or]
    constructor
    · intro ⟨h1, h2, h3⟩
      exact ⟨⟨h1, fun a ha => (h2 a ha).2⟩, fun a ha e => (h2 a ha).1 e.symm, h3⟩
    · intro ⟨⟨h1, h2⟩, h3, h4⟩
      exact ⟨h1, fun a ha => ⟨fun e => h3 a ha e.symm, h2 a ha⟩, h4⟩

theorem findList_of_mem {lists : List RList} (hd : lists.Pairwise (fun a b => a.id ≠ b.id)) {l : RList}
    (hl : l ∈ lists) : findList lists l.id = some l := by
  unfold findList
  induction lists with
  | nil => simp at hl
  | cons a t ih =>
    rw [List.pairwise_cons] at hd
    simp only [List.mem_cons] at hl
    rcases hl with rfl | hl
    · simp [List.find?]
    · have hne : a.id ≠ l.id := hd.1 l hl
      have : (a.id == l.id) = false := by simpa using hne
      simp only [List.find?, this]
      exact ih hd.2 hl

theorem findList_map_file (lists : List RList) (f : RList → Bool) (id : Int) :
    findList (lists.map fun l => { l with file := f l }) id = (findList lists id).map fun l => { l with file := f l } := by
  unfold findList
  induction lists with
  | nil => rfl
  | cons a t ih =>
    simp only [List.map_cons, List.find?]
    cases h : (a.id == id) with
    | true => simp
    | false => simp only [ih]

/-- The backing does not matter to `RetrieveRule` of a list. -/
theorem retrieve_file_irrel (io : IO) (parse : Parser) (l : RList) (b b' : Bool) (i : Int) :
    RList.retrieve io parse { l with file := b } i = RList.retrieve io parse { l with file := b' } i := by
  unfold RList.retrieve
  cases b <;> cases b' <;> simp only [retrieveFile_eq_retrieveString] <;> rfl

/-- What `RetrieveRule` computes when the cache does not answer. -/
def lookupRule (io : IO) (parse : Parser) (lists : List RList) (k : BitVec 64) : Retrieved :=
  match findList lists (unpack k).1.toInt with
  | none => .err
  | some l => l.retrieve io parse (unpack k).2.toInt

/-- Every cache entry is what the lists answer for that index (`none` = the typed nil of a failed
    parse). -/
def CacheInv (io : IO) (parse : Parser) (st : RuleStorage) : Prop :=
  ∀ k v, st.cache.lookup k = some v →
    lookupRule io parse st.lists k = (match v with | some r => .rule r | none => .bad)

theorem cacheInv_new (io : IO) (parse : Parser) {lists : List RList} {st : RuleStorage}
    (h : newRuleStorage lists = some st) : CacheInv io parse st ∧ st.lists = lists := by
  unfold newRuleStorage at h
  split at h
  · simp at h
  · simp only [Option.some.injEq] at h
    subst h
    exact ⟨by intro k v hk; simp [List.lookup] at hk, rfl⟩

theorem lookup_cons_eq {k k' : BitVec 64} {v : Option SRule} {c : Cache} :
    List.lookup k ((k', v) :: c) = if k = k' then some v else List.lookup k c := by
  rw [List.lookup_cons]
  by_cases h : k = k'
  · simp [h]
  · simp [h, beq_eq_false_iff_ne.mpr h]

theorem cacheInv_insert {io : IO} {parse : Parser} {st : RuleStorage} {k : BitVec 64} {v : Option SRule}
    (hinv : CacheInv io parse st)
    (hv : lookupRule io parse st.lists k = (match v with | some r => .rule r | none => .bad)) :
    CacheInv io parse { st with cache := (k, v) :: st.cache } := by
  intro k' w hk'
  rw [List.lookup_cons] at hk'
  split at hk'
  · rename_i heq
    cases hk'
    rw [eq_of_beq heq]
    exact hv
  · exact hinv k' w hk'

/-- One `RetrieveRule` call: the invariant is kept, the lists do not change, and the answer is
    what the lists answer -- except that a failed parse is answered `nilRule` once it is cached. -/
theorem retrieveRule_spec (io : IO) (parse : Parser) (st : RuleStorage) (k : BitVec 64)
    (hinv : CacheInv io parse st) :
    let res := retrieveRule io parse st k
    CacheInv io parse res.2 ∧ res.2.lists = st.lists ∧
      (res.1 = lookupRule io parse st.lists k ∨ (res.1 = .nilRule ∧ lookupRule io parse st.lists k = .bad)) := by
  simp only
  unfold retrieveRule
  cases hc : st.cache.lookup k with
  | some v =>
    have := hinv k v hc
    cases v with
    | some r => exact ⟨hinv, rfl, Or.inl this.symm⟩
    | none => exact ⟨hinv, rfl, Or.inr ⟨rfl, this⟩⟩
  | none =>
    have hlk : lookupRule io parse st.lists k =
        (match findList st.lists (unpack k).1.toInt with
         | none => .err
         | some l => l.retrieve io parse (unpack k).2.toInt) := rfl
    simp only
    cases hf : findList st.lists (unpack k).1.toInt with
    | none => rw [hf] at hlk; exact ⟨hinv, rfl, Or.inl hlk.symm⟩
    | some l =>
      rw [hf] at hlk
      simp only at hlk ⊢
      -- only a rule and a failed parse are cached
      cases hr : l.retrieve io parse (unpack k).2.toInt
      case rule r => exact ⟨cacheInv_insert hinv (hlk.trans hr), rfl, Or.inl (hlk.trans hr).symm⟩
      case bad => exact ⟨cacheInv_insert hinv (hlk.trans hr), rfl, Or.inl (hlk.trans hr).symm⟩
      all_goals exact ⟨hinv, rfl, Or.inl (hlk.trans hr).symm⟩

theorem scanList_mem {parse : Parser} {id : Int} {ign : Bool} {content : Bytes} {r : SRule} {idx : Nat}
    (h : (r, idx) ∈ scanList parse id ign content) :
    ∃ line, (idx, line) ∈ scanLines content ∧ parse line id = .rule r.kind r.text ∧ r.listID = id ∧
      (ign && r.kind == .cosmetic) = false := by
  unfold scanList at h
  obtain ⟨⟨i, line⟩, hm, hp⟩ := List.mem_filterMap.mp h
  simp only at hp
  split at hp
  · rename_i k t hpl
    split at hp
    · cases hp
    · rename_i hc
      cases hp
      exact ⟨line, hm, hpl, rfl, by simpa using hc⟩
  · cases hp

/-- A line the scanner accepted is found again by `StringRuleList.RetrieveRule` at its offset. -/
theorem retrieveString_of_scan {parse : Parser} (hp : TrimsFirst parse) {id : Int} {ign : Bool} {content : Bytes}
    {r : SRule} {idx : Nat} (h : (r, idx) ∈ scanList parse id ign content) :
    retrieveString parse id content (idx : Int) = .rule r := by
  obtain ⟨line, hm, hpl, hid, _⟩ := scanList_mem h
  obtain ⟨hlt, hline⟩ := scanLines_mem hm
  rw [retrieveString_eq _ _ _ _ hlt]
  simp only
  have ht : trimSpace (untilNL (content.drop idx)) = trimSpace line := by
    rw [hline, trimSpace_takeLine]
  rw [ht]
  have hne : trimSpace line ≠ [] := by
    intro e
    have := hp.blank line id e
    rw [this] at hpl
    cases hpl
  have : (trimSpace line).isEmpty = false := by
    cases hx : trimSpace line with
    | nil => exact absurd hx hne
    | cons _ _ => rfl
  simp only [this, Bool.false_eq_true, if_false]
  rw [← hp.trim line id, hpl]
  cases r
  simp only [ofParse] at hid ⊢
  subst hid
  rfl

theorem storageScan_mem {parse : Parser} {lists : List RList} {r : SRule} {k : BitVec 64}
    (h : (r, k) ∈ storageScan parse lists) :
    ∃ l ∈ lists, ∃ idx, (r, idx) ∈ scanList parse l.id l.ignoreCosmetic l.content ∧
      k = pack (BitVec.ofInt 32 l.id) (BitVec.ofNat 32 idx) := by
  unfold storageScan at h
  rw [List.mem_flatMap] at h
  obtain ⟨l, hl, hm⟩ := h
  rw [List.mem_map] at hm
  obtain ⟨⟨r', idx⟩, hm, he⟩ := hm
  simp only [Prod.mk.injEq] at he
  obtain ⟨rfl, rfl⟩ := he
  obtain ⟨_, _, _, hid, _⟩ := scanList_mem hm
  exact ⟨l, hl, idx, hm, by rw [hid]⟩

/-- The well-formedness the property quantifies over: distinct ids that fit `int32`, contents
    shorter than 2^31 bytes. -/
structure ListsOK (lists : List RList) : Prop where
  distinct : hasDupIds lists [] = false
  ids : ∀ l ∈ lists, -2147483648 ≤ l.id ∧ l.id < 2147483648
  sizes : ∀ l ∈ lists, l.content.length < 2147483648

/-- A scanned index, looked up in the lists, gives back the scanned rule. -/
theorem lookupRule_of_scan (io : IO) {parse : Parser} (hp : TrimsFirst parse) {lists : List RList}
    (hok : ListsOK lists) {r : SRule} {k : BitVec 64} (h : (r, k) ∈ storageScan parse lists) :
    lookupRule io parse lists k = .rule r := by
  obtain ⟨l, hl, idx, hm, rfl⟩ := storageScan_mem h
  unfold lookupRule
  rw [unpack_pack]
  simp only
  obtain ⟨hi1, hi2⟩ := hok.ids l hl
  rw [toInt_ofInt32 hi1 hi2, findList_of_mem (hasDupIds_eq_false_iff.mp hok.distinct).2 hl]
  simp only
  obtain ⟨line, hml, _⟩ := scanList_mem hm
  have hlt := (scanLines_mem hml).1
  have hsz := hok.sizes l hl
  rw [toInt_ofNat32 (by omega)]
  unfold RList.retrieve
  split
  · rw [retrieveFile_eq_retrieveString]; exact retrieveString_of_scan hp hm
  · exact retrieveString_of_scan hp hm

end UF.Storage
