import UF.Compose5.TextRef
import UF.Props.C04Full
import UF.Proofs.Lit
/-
  C04 at text level — an independent reference for rule TEXT.

  The reference of `c04` / `c04_text` (`specMatch`) is a function of the record the model parser produced;
  nothing there specifies the modifier grammar.  Here the grammar is data (UF/Compose5/Grammar.lean): `Mod` is one
  modifier as written, `render` the rule text `[@@] pattern [$ mod , mod , …]`, `ModSpec.ofMods` what the text
  means family by family, and `specMatchText` the reference: a function of (pattern as written, ModSpec, request).
  `c04_grammar_*`: whatever the parser model accepts for a rendered text stores what the structured data say;
  `c04_text_ref`: `Match` of the parsed rule = `specMatchText` of the structured data.

  Domain (hypotheses, executable as `patOK` / `modsOK` for the driver):
    * pattern: non-empty, first byte neither `@` nor `/` (mask patterns; `/regex/` rules: `c04_regex_some`),
      no `$`, no backslash;
    * modifiers in any order, each value-carrying one (`domain`, `denyallow`, `dnstype`, `ctag`, `client`) at most
      once (given twice, the LAST one wins in Go); value lists non-empty; values non-empty and free of
      `, \ $ | ~ ' "` (so `$client` values are unquoted and unescaped); `$dnstype` names ASCII;
    * not in the grammar: `~extension`, quoted client names, `/`-patterns (all three: Props/C04Wide.lean),
      `$dnsrewrite` (C09/C10), `$replace`/`$csp`/… (unreachable).
-/
namespace UF.C04
open UF Bytes UF.I2 UF.L

/-! ### grammar-level lemmas, one per modifier family -/

/-- ALL FAMILIES: the parsed record in terms of the meaning of the modifiers (`ParsedAs`). -/
theorem c04_grammar (px : E.ParseExt) (wl : Bool) (pat : Bytes) (ms : List Mod) (id : Int) (r : NetRule)
    (hp : patOK pat = true) (hm : modsOK ms = true)
    (h : E.parseNetRule px (render wl pat ms) id = .ok r) :
    ParsedAs px.ext wl (ModSpec.ofMods ms) r :=
  parsedAs_of_parse hp hm h

/-- `$domain=v1|~v2|…`: the permitted domains are the values written without `~`, the restricted ones those
    written with `~`, each list in written order. -/
theorem c04_grammar_domain (px : E.ParseExt) (wl : Bool) (pat : Bytes) (ms : List Mod) (id : Int) (r : NetRule)
    (hp : patOK pat = true) (hm : modsOK ms = true)
    (h : E.parseNetRule px (render wl pat ms) id = .ok r) :
    r.permDomains = (ModSpec.ofMods ms).permDomains ∧ r.restrDomains = (ModSpec.ofMods ms).restrDomains :=
  ⟨(parsedAs_of_parse hp hm h).permDomains, (parsedAs_of_parse hp hm h).restrDomains⟩

/-- … and the meaning of the one `domain` modifier of a list: its values, split by the `~`. -/
theorem c04_grammar_domain_values (pre post : List Mod) (vs : List (Bool × Bytes))
    (h : modsOK (pre ++ .domain vs :: post) = true) :
    (ModSpec.ofMods (pre ++ .domain vs :: post)).permDomains = posVals vs ∧
    (ModSpec.ofMods (pre ++ .domain vs :: post)).restrDomains = negVals vs := by
  have hone : atMostOne Mod.isDomain (pre ++ .domain vs :: post) = true := by
    unfold modsOK at h; simp only [Bool.and_eq_true] at h; exact h.1.1.1.1.2
  exact ⟨flatMap_of_atMostOne (fun m hm => by rw [Mod.domainVals_eq_nil hm]; rfl) rfl hone,
    flatMap_of_atMostOne (fun m hm => by rw [Mod.domainVals_eq_nil hm]; rfl) rfl hone⟩

/-- `$ctag=…`: the stored tag lists are the written values, SORTED (what `matchClientTags`' merge needs). -/
theorem c04_grammar_ctag (px : E.ParseExt) (wl : Bool) (pat : Bytes) (ms : List Mod) (id : Int) (r : NetRule)
    (hp : patOK pat = true) (hm : modsOK ms = true)
    (h : E.parseNetRule px (render wl pat ms) id = .ok r) :
    r.permTags = sortB (ModSpec.ofMods ms).permTags ∧ r.restrTags = sortB (ModSpec.ofMods ms).restrTags :=
  ⟨(parsedAs_of_parse hp hm h).permTags, (parsedAs_of_parse hp hm h).restrTags⟩

/-- Content types: each written name ↦ its generated bit, `~name` ↦ the restricted mask; with a
    document-only option (or `$document`) the permitted mask is OVERRIDDEN by `TypeDocument`. -/
theorem c04_grammar_types (px : E.ParseExt) (wl : Bool) (pat : Bytes) (ms : List Mod) (id : Int) (r : NetRule)
    (hp : patOK pat = true) (hm : modsOK ms = true)
    (h : E.parseNetRule px (render wl pat ms) id = .ok r) :
    r.permTypes = (if (ModSpec.ofMods ms).docOnly then Facts.TypeDocument else bitsOf (ModSpec.ofMods ms).permTypes) ∧
    r.restrTypes = bitsOf (ModSpec.ofMods ms).restrTypes :=
  ⟨(parsedAs_of_parse hp hm h).permTypes, (parsedAs_of_parse hp hm h).restrTypes⟩

/-- The name ↦ bit table of the grammar is the generated one, bit by bit (a changed `Type*` constant or a
    renamed content type breaks this). -/
theorem c04_grammar_type_table :
    CType.all.map (fun c => (c.name, c.bit)) =
      [(lit "script", Facts.TypeScript), (lit "stylesheet", Facts.TypeStylesheet),
       (lit "subdocument", Facts.TypeSubdocument), (lit "object", Facts.TypeObject), (lit "image", Facts.TypeImage),
       (lit "xmlhttprequest", Facts.TypeXmlhttprequest), (lit "media", Facts.TypeMedia), (lit "font", Facts.TypeFont),
       (lit "websocket", Facts.TypeWebsocket), (lit "ping", Facts.TypePing), (lit "other", Facts.TypeOther)] ∧
    CType.all.all (fun c => E.contentTypeOf c.name == some c.bit) = true ∧
    (CType.all.map CType.bit).Pairwise (· ≠ ·) := by
  decide +kernel

/-- `third-party` / `~first-party` enable, `~third-party` / `first-party` disable the third-party option;
    `match-case`, `important`, `badfilter` set their bits; document-only options are recognised by name. -/
theorem c04_grammar_options (px : E.ParseExt) (wl : Bool) (pat : Bytes) (ms : List Mod) (id : Int) (r : NetRule)
    (hp : patOK pat = true) (hm : modsOK ms = true)
    (h : E.parseNetRule px (render wl pat ms) id = .ok r) :
    r.whitelist = wl ∧
    r.isEnabled Facts.OptionThirdParty = ms.any Mod.isThirdParty ∧
    r.isDisabled Facts.OptionThirdParty = ms.any Mod.isFirstParty ∧
    r.isEnabled Facts.OptionMatchCase = ms.any (Mod.isOpt .matchCase) ∧
    r.isEnabled Facts.OptionImportant = ms.any (Mod.isOpt .important) ∧
    r.isEnabled Facts.OptionBadfilter = ms.any (Mod.isOpt .badfilter) ∧
    E.documentOnlyOptions.any (fun o => r.isEnabled o) = ms.any Mod.isDocOnly := by
  have hpa := parsedAs_of_parse hp hm h
  exact ⟨hpa.whitelist, hpa.thirdParty, hpa.firstParty, hpa.matchCase, hpa.important, hpa.badfilter, hpa.docOnly⟩

/-- `$dnstype=A|~AAAA|…`: names ↦ record-type numbers through the generated table (case-insensitively). -/
theorem c04_grammar_dnstype (px : E.ParseExt) (wl : Bool) (pat : Bytes) (ms : List Mod) (id : Int) (r : NetRule)
    (hp : patOK pat = true) (hm : modsOK ms = true)
    (h : E.parseNetRule px (render wl pat ms) id = .ok r) :
    r.permDns = (ModSpec.ofMods ms).permDns ∧ r.restrDns = (ModSpec.ofMods ms).restrDns :=
  ⟨(parsedAs_of_parse hp hm h).permDns, (parsedAs_of_parse hp hm h).restrDns⟩

/-- `$denyallow=v1|v2|…`. -/
theorem c04_grammar_denyallow (px : E.ParseExt) (wl : Bool) (pat : Bytes) (ms : List Mod) (id : Int) (r : NetRule)
    (hp : patOK pat = true) (hm : modsOK ms = true)
    (h : E.parseNetRule px (render wl pat ms) id = .ok r) :
    r.denyallow = (ModSpec.ofMods ms).denyallow :=
  (parsedAs_of_parse hp hm h).denyallow

/-- `$client=…`: the stored client sets are those of the written values (names sorted, addresses as
    full-length subnets, CIDR subnets through the `netip` oracle, subnets sorted). -/
theorem c04_grammar_client (px : E.ParseExt) (wl : Bool) (pat : Bytes) (ms : List Mod) (id : Int) (r : NetRule)
    (hp : patOK pat = true) (hm : modsOK ms = true)
    (h : E.parseNetRule px (render wl pat ms) id = .ok r) :
    r.permClients = clientsOf px.ext (ModSpec.ofMods ms).permClients ∧
    r.restrClients = clientsOf px.ext (ModSpec.ofMods ms).restrClients ∧
    (∀ name ip, specClientIn r.permClients name ip =
      (ModSpec.ofMods ms).permClients.any (clientValMatches px.ext name ip)) ∧
    (∀ name ip, specClientIn r.restrClients name ip =
      (ModSpec.ofMods ms).restrClients.any (clientValMatches px.ext name ip)) := by
  have hpa := parsedAs_of_parse hp hm h
  refine ⟨hpa.permClients, hpa.restrClients, fun name ip => ?_, fun name ip => ?_⟩
  · rw [hpa.permClients, specClientIn_clientsOf]
  · rw [hpa.restrClients, specClientIn_clientsOf]

/-- The pattern and the split of the text: `parseRuleText` returns the pattern as written, the modifiers
    joined with commas and the exception flag; the stored pattern is its `/*`-normalisation. -/
theorem c04_grammar_pattern (px : E.ParseExt) (wl : Bool) (pat : Bytes) (ms : List Mod) (id : Int) (r : NetRule)
    (hp : patOK pat = true) (hm : modsOK ms = true)
    (h : E.parseNetRule px (render wl pat ms) id = .ok r) :
    E.parseRuleText (render wl pat ms) = .ok (pat, optsText ms, wl) ∧ r.pattern = MaskSpec.normalize pat := by
  have h1 := parseRuleText_render (wl := wl) hp (modsOK_vals hm)
  obtain ⟨pat', opts, wl', hprt, hpat, _, _⟩ := parseNetRule_pattern h
  rw [h1] at hprt
  cases hprt
  exact ⟨h1, hpat⟩

/-! ### the reference -/

/-- The MODIFIER part of C04 against the text-level reference, for ANY pattern oracle: `Match` of the parsed
    rule is the shortcut pre-check, every modifier family of the structured data, and the pattern oracle on
    the stored pattern. -/
theorem c04_text_ref_mods (px : E.ParseExt) (wl : Bool) (pat : Bytes) (ms : List Mod) (id : Int) (r : NetRule)
    (q : Request) (hp : patOK pat = true) (hm : modsOK ms = true)
    (h : E.parseNetRule px (render wl pat ms) id = .ok r) (hq : q.InDomain) :
    r.matches px.ext q =
      (hasSub q.urlLower r.shortcut && specModsText px.ext (ModSpec.ofMods ms) q &&
        px.ext.pat (MaskSpec.normalize pat) (ModSpec.ofMods ms).matchCase (textTarget pat q)) := by
  have hpa := parsedAs_of_parse hp hm h
  have hpat := (c04_grammar_pattern px wl pat ms id r hp hm h).2
  have hmods := mods_eq_text hpa q hq.oneType
  have hpt : specPattern px.ext r q =
      px.ext.pat (MaskSpec.normalize pat) (ModSpec.ofMods ms).matchCase (textTarget pat q) := by
    unfold specPattern textTarget
    rw [specTarget_pattern r q, hpat, hpa.matchCase]
  rw [c04_text px _ id r q h hq]
  unfold specMatch
  rw [hpt, ← hmods]
  simp only [Bool.and_assoc]

/-- C04 FROM STRUCTURED MODIFIERS TO `Match`, no parser and no record on the reference side, no oracle for
    the pattern: for every pattern of the domain, every list of modifiers of the grammar domain in ANY
    order, and every request of the domain, whatever `NewNetworkRule` accepts for the rendered text matches
    the request iff `specMatchText` says so. -/
theorem c04_text_ref (px : E.ParseExt) (wl : Bool) (pat : Bytes) (ms : List Mod) (id : Int) (r : NetRule)
    (q : Request) (hp : patOK pat = true) (hm : modsOK ms = true)
    (h : E.parseNetRule px (render wl pat ms) id = .ok r) (hq : q.InDomain)
    (hd : MaskDomain r.pattern (specTarget r q))
    (hlower : q.urlLower = toLower q.url)
    (hhost : q.isHostnameRequest = true → hasSub q.url q.hostname = true) :
    r.matches (withModelPat px.ext) q = specMatchText px.ext pat (ModSpec.ofMods ms) q := by
  rw [c04_full_end_to_end px _ id r q h hq hd hlower hhost]
  exact noShortcut_eq_text hp hm h q hq.oneType

/-- Value order never matters, at text level: two modifier lists with the same MEANING up to the order of
    the values (and of the modifiers) give rules that match the same requests. -/
theorem c04_text_ref_order (px : E.ParseExt) (wl : Bool) (pat : Bytes) (ms ms' : List Mod) (id id' : Int)
    (r r' : NetRule) (q : Request) (hp : patOK pat = true) (hm : modsOK ms = true) (hm' : modsOK ms' = true)
    (h : E.parseNetRule px (render wl pat ms) id = .ok r)
    (h' : E.parseNetRule px (render wl pat ms') id' = .ok r') (hq : q.InDomain)
    (hd : MaskDomain r.pattern (specTarget r q)) (hd' : MaskDomain r'.pattern (specTarget r' q))
    (hlower : q.urlLower = toLower q.url)
    (hhost : q.isHostnameRequest = true → hasSub q.url q.hostname = true)
    (hsame : specMatchText px.ext pat (ModSpec.ofMods ms) q = specMatchText px.ext pat (ModSpec.ofMods ms') q) :
    r.matches (withModelPat px.ext) q = r'.matches (withModelPat px.ext) q := by
  rw [c04_text_ref px wl pat ms id r q hp hm h hq hd hlower hhost,
    c04_text_ref px wl pat ms' id' r' q hp hm' h' hq hd' hlower hhost, hsame]

/-! ### `/regex/` rules and other patterns WITHOUT `getD` -/

/-- For ANY well-formed rule: if the pattern model ANSWERS on the target (`modelPat … = some b`; outside its
    domain — non-ASCII input, unsupported syntax — it does not answer and nothing is claimed), `Match` over
    the composed model is the modifiers' reference and that answer. -/
theorem c04_pattern_some (ext : Ext) (r : NetRule) (q : Request) (hwf : r.WellFormed) (hq : q.InDomain)
    (b : Bool) (hb : modelPat r.pattern (r.isEnabled Facts.OptionMatchCase) (specTarget r q) = some b) :
    r.matches (withModelPat ext) q =
      (hasSub q.urlLower r.shortcut && specThirdParty r q && specReqType r q.reqType && specDenyallow ext r q &&
        specSourceDomain ext r q && specDnsType r q && specCTag r q && specClient r q && b) := by
  rw [c04 (withModelPat ext) r q hwf hq]
  unfold specMatch specPattern
  rw [specDenyallow_withModelPat, specSourceDomain_withModelPat, withModelPat_pat]
  unfold modelPatD
  rw [hb]
  rfl

/-- `/regex/` rules: when the regex model answers, the pattern conjunct is the SEARCH of the parsed
    expression (`(?i)` unless `$match-case`) in the target — stated with the answer as a hypothesis, not
    through `getD false`.  ("The parsed expression" of a `$match-case` text is GO's tree,
    `Re.goTree`, which for expressions like `A.|[aA]` is not the textbook reading; in terms of the written
    expression: `c04_regex_matchcase_written`, `c04_regex_ci_written`, Props/C04Quirk.lean.) -/
theorem c04_regex_some (ext : Ext) (r : NetRule) (q : Request) (hwf : r.WellFormed) (hq : q.InDomain)
    (hre : UF.isRegexPattern r.pattern = true) (b : Bool)
    (hb : modelPat r.pattern (r.isEnabled Facts.OptionMatchCase) (specTarget r q) = some b) :
    ∃ re, Re.parseRE (regexRuleText r.pattern (r.isEnabled Facts.OptionMatchCase)) = some re ∧
      isAscii (specTarget r q) = true ∧
      r.matches (withModelPat ext) q =
        (hasSub q.urlLower r.shortcut && specThirdParty r q && specReqType r q.reqType && specDenyallow ext r q &&
          specSourceDomain ext r q && specDnsType r q && specCTag r q && specClient r q &&
          Re.search re (specTarget r q)) := by
  obtain ⟨re, hparse, hbs, hascii⟩ := modelPat_regex_some hre hb
  refine ⟨re, hparse, hascii, ?_⟩
  rw [c04_pattern_some ext r q hwf hq b hb, hbs]

/-- … and for mask patterns: the documented mask language, again only when the model answers. -/
theorem c04_mask_some (ext : Ext) (r : NetRule) (q : Request) (hwf : r.WellFormed) (hq : q.InDomain)
    (hre : UF.isRegexPattern r.pattern = false) (b : Bool)
    (hb : modelPat r.pattern (r.isEnabled Facts.OptionMatchCase) (specTarget r q) = some b) :
    r.matches (withModelPat ext) q =
      (hasSub q.urlLower r.shortcut && specThirdParty r q && specReqType r q.reqType && specDenyallow ext r q &&
        specSourceDomain ext r q && specDnsType r q && specCTag r q && specClient r q && specPatternMask r q) := by
  rw [c04_pattern_some ext r q hwf hq b hb, modelPat_mask_some hre hb]
  rfl

/-- Out of the pattern model's domain nothing is claimed — and `getD` would have claimed `false`: a
    non-ASCII target makes `modelPat` answer `none`. -/
theorem c04_pattern_none_example :
    modelPat (lit "||ex.org/a^b") false [104, 116, 116, 112, 58, 47, 47, 101, 120, 46, 111, 114, 103, 47, 97, 195, 169, 98] = none := by
  decide +kernel

/-! ### Non-vacuity -/

private def exPx : E.ParseExt :=
  { ext := { psl := fun _ => (lit "com", true), parseAddr := fun _ => none,
             parsePrefix := fun _ => none, pat := fun _ _ _ => true },
    loadDNSRewrite := fun _ => none, regexpShortcut := fun _ => [] }

private def exMods : List Mod :=
  [.domain [(false, lit "a.com"), (true, lit "b.a.com")], .ctype false .script, .thirdParty true,
   .ctag [(false, lit "pc"), (true, lit "kid")], .dnstype [(true, lit "aaaa")]]

/-- The rendering is the text a filter author writes; it is in the domain; the parser model accepts it. -/
example : render false (lit "||example.org^") exMods =
    lit "||example.org^$domain=a.com|~b.a.com,script,~first-party,ctag=pc|~kid,dnstype=~aaaa" := by
  rw [lit_ofList, lit_ofList]; decide +kernel
example : patOK (lit "||example.org^") = true ∧ modsOK exMods = true := by decide +kernel
example : (E.parseNetRule exPx (render false (lit "||example.org^") exMods) 1).toOption.isSome = true := by
  decide +kernel

/-- The meaning: one permitted and one excluded domain, `script`, third-party, tags, AAAA (28) excluded. -/
example : ModSpec.ofMods exMods =
    { thirdParty := true, permTypes := [.script], permDomains := [lit "a.com"], restrDomains := [lit "b.a.com"],
      restrDns := [28], permTags := [lit "pc"], restrTags := [lit "kid"] } := by decide +kernel

/-- The reference decides requests: a third-party script request from `www.a.com` with tag `pc` matches,
    the same from `b.a.com` (excluded subdomain) does not, nor does an image request. -/
example :
    specModsText exPx.ext (ModSpec.ofMods exMods)
      { sourceHostname := lit "www.a.com", reqType := Facts.TypeScript, thirdParty := true,
        sortedTags := [lit "pc"], dnsType := 1 } = true ∧
    specModsText exPx.ext (ModSpec.ofMods exMods)
      { sourceHostname := lit "b.a.com", reqType := Facts.TypeScript, thirdParty := true,
        sortedTags := [lit "pc"], dnsType := 1 } = false ∧
    specModsText exPx.ext (ModSpec.ofMods exMods)
      { sourceHostname := lit "www.a.com", reqType := Facts.TypeImage, thirdParty := true,
        sortedTags := [lit "pc"], dnsType := 1 } = false := by decide +kernel

/-- The document-only override: `@@||e.com^$script,elemhide` applies to document requests only. -/
example :
    textTypes (ModSpec.ofMods [.ctype false .script, .opt .elemhide]) { reqType := Facts.TypeScript } = false ∧
    textTypes (ModSpec.ofMods [.ctype false .script, .opt .elemhide]) { reqType := Facts.TypeDocument } = true := by
  decide +kernel

end UF.C04
