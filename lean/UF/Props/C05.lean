import UF.Proofs.Shortcut
import UF.Proofs.ShortcutRuns
import UF.Proofs.RegexFast
import UF.Model.RegexParse
import UF.Compose2.RegexShortcutSem
/-
  C05 — the shortcut pre-check never rejects a request the rule accepts.

  Regular-expression rules: every required literal of the parse tree is a factor of the lower-cased subject
  of every successful match (case-sensitive and `(?i)` alike), so the shortcut `findRegexpShortcut` keeps is
  one, for an ARBITRARY candidate list.  Mask rules: the `IndexAny` loop returns `""` or a maximal
  separator-free run of the pattern, and a run of literal atoms in the compiled concatenation is a factor of
  every accepted subject; `c05_mask_rule` is stated against the shape of the compiled expression (the mask
  compiler itself enters in Props/C05Full.lean).  `c05` is the rule-level corollary shared by both.
-/
namespace UF.C05
open UF Bytes Re

/-- Every literal that `appendRequiredLiterals` collects from an expression is a factor of the
    lower-cased subject of every successful (unanchored) match – whatever mix of case-sensitive and
    case-insensitive literals the expression contains. -/
theorem c05_re (r : Re) (u : Bytes) (h : search r u = true) :
    ∀ l ∈ requiredLits r, hasSub (toLower u) l = true :=
  search_lits r u h

/-- The same when the rule compiles the expression under `(?i)` (no `$match-case`) while the
    literals are collected from the expression as written. -/
theorem c05_re_fold (r : Re) (u : Bytes) (h : search r.foldCase u = true) :
    ∀ l ∈ requiredLits r, hasSub (toLower u) l = true := by
  have := search_lits r.foldCase u h
  rwa [requiredLits_foldCase] at this

/-- A shortcut that is empty or contained in a required literal of the compiled expression (what the
    `c05.shortcut` correspondence op checks on Go's own parse tree) is a factor of every accepted
    lower-cased subject. -/
theorem c05_justified (shortcut : Bytes) (c : Re) (u : Bytes)
    (hj : shortcutJustified shortcut c = true) (h : search c u = true) :
    hasSub (toLower u) shortcut = true := by
  simp only [shortcutJustified, Bool.or_eq_true, List.isEmpty_iff, List.any_eq_true] at hj
  rcases hj with rfl | ⟨l, hl, hsub⟩
  · exact hasSub_nil _
  · exact hasSub_trans (c05_re c u h l hl) hsub

/-- The sharper criterion: literal pieces merged across concatenations, assertions, captures and the
    first/last iteration of `+`/`{m,}` (`foojs+` requires `foojs`) are factors of every accepted
    lower-cased subject as well. -/
theorem c05_runs (r : Re) (u : Bytes) (h : search r u = true) :
    ∀ l ∈ requiredRuns r, hasSub (toLower u) l = true :=
  search_runs r u h

/-- … hence a shortcut that is empty or contained in a merged run of the compiled expression (the
    `spec` answer of the `c05.shortcut` op) is a factor of every accepted lower-cased subject. -/
theorem c05_justified_runs (shortcut : Bytes) (c : Re) (u : Bytes)
    (hj : shortcutJustifiedRuns shortcut c = true) (h : search c u = true) :
    hasSub (toLower u) shortcut = true := by
  simp only [shortcutJustifiedRuns, Bool.or_eq_true, List.isEmpty_iff, List.any_eq_true] at hj
  rcases hj with rfl | ⟨l, hl, hsub⟩
  · exact hasSub_nil _
  · exact hasSub_trans (c05_runs c u h l hl) hsub

/-- `findRegexpShortcut` + `loadShortcut` for ANY list of candidates produced by the textual heuristics:
    the resulting shortcut is a factor of every lower-cased subject accepted by the compiled expression
    `c`, provided `c` requires what the consulted tree requires (`litsCovered`; true for the tree itself,
    under `(?i)` and for Go's tree of it: `FoldRel.litsCovered`).  If the text did not
    parse (`tree = none`) nothing is required, no candidate is accepted and the shortcut is empty. -/
theorem c05_regex_shortcut (parts : List Bytes) (tree : Option Re) (c : Re) (u : Bytes)
    (hcov : ∀ t, tree = some t → litsCovered t c = true) (h : search c u = true) :
    hasSub (toLower u) (loadShortcut (findRegexpShortcut parts tree)) = true := by
  rcases loadShortcut_cases (findRegexpShortcut parts tree) with h0 | h0 <;> rw [h0]
  · exact hasSub_nil _
  · simp only [findRegexpShortcut]
    cases tree with
    | none =>
      rcases pickLongest_sound parts [] with h0 | ⟨l, hl, _⟩
      · simp only [h0]; exact hasSub_nil _
      · simp at hl
    | some t =>
      rcases pickLongest_sound parts t.requiredLits with h0 | ⟨l, hl, hsub⟩
      · simp only [h0]; exact hasSub_nil _
      · exact hasSub_trans (search_covered t c u (hcov t rfl) h l hl) hsub

/-- The property at the level of `Match`: if the shortcut is a factor of the lower-cased URL whenever
    the pattern accepts, the result of `Match` is the same as with the shortcut test removed. -/
theorem c05 (ext : Ext) (r : NetRule) (q : Request)
    (h : matchPattern ext r q = true → hasSub q.urlLower r.shortcut = true) :
    r.matches ext q = ({ r with shortcut := [] } : NetRule).matches ext q := by
  have hp : matchPattern ext ({ r with shortcut := [] } : NetRule) q = matchPattern ext r q := rfl
  simp only [NetRule.matches, hp, matchShortcut, hasSub_nil]
  cases hm : matchPattern ext r q with
  | false => simp
  | true => simp only [h hm, Bool.true_and, Bool.and_true]; rfl

/-- Regex rules.  `tree` is the parse tree `findRegexpShortcut` consults, `parts` the (arbitrary)
    candidates; the pattern oracle accepts a target only if a compiled expression `c` that covers the
    tree's required literals accepts it.  Requests are well formed: `URLLowerCase = ToLower(URL)` and, for
    hostname requests, the hostname is a factor of the URL (`"http://" + hostname`). -/
theorem c05_regex_rule (ext : Ext) (r : NetRule) (q : Request) (parts : List Bytes) (tree : Option Re)
    (hshort : r.shortcut = loadShortcut (findRegexpShortcut parts tree))
    (hpat : ∀ target, ext.pat r.pattern (r.isEnabled Facts.OptionMatchCase) target = true →
      ∃ c, (∀ t, tree = some t → litsCovered t c = true) ∧ search c target = true)
    (hlower : q.urlLower = toLower q.url)
    (hhost : q.isHostnameRequest = true → hasSub q.url q.hostname = true) :
    r.matches ext q = ({ r with shortcut := [] } : NetRule).matches ext q := by
  apply c05
  intro hm
  simp only [matchPattern] at hm
  obtain ⟨c, hcov, hs⟩ := hpat _ hm
  rw [hshort]
  exact hasSub_urlLower_of_target hlower hhost (c05_regex_shortcut parts tree c _ hcov hs)

/-- The same inside the model: the pattern oracle is the regex model `regexPat` (`parseRE` + `search`)
    and the tree is the model's parse of the text between the slashes.  (`$match-case` rules whose text
    itself starts with `(?i)` need no special hypothesis: `parseCore` has no flag groups, so the tree is
    `none`, nothing is required and the shortcut is empty -- `parseCore_of_hasPrefix_ci`; in Go the text
    heuristics bail out on the `?`.) -/
theorem c05_regex_model (ext : Ext) (r : NetRule) (q : Request) (parts : List Bytes)
    (hext : ∀ p mc t, ext.pat p mc t = (regexPat p mc t).getD false)
    (hshort : r.shortcut = loadShortcut (findRegexpShortcut parts (parseCore ((r.pattern.drop 1).dropLast))))
    (hlower : q.urlLower = toLower q.url)
    (hhost : q.isHostnameRequest = true → hasSub q.url q.hostname = true) :
    r.matches ext q = ({ r with shortcut := [] } : NetRule).matches ext q := by
  apply c05_regex_rule ext r q parts _ hshort _ hlower hhost
  intro target ht
  rw [hext] at ht
  cases hr : regexPat r.pattern (r.isEnabled Facts.OptionMatchCase) target with
  | none => rw [hr] at ht; cases ht
  | some b =>
    rw [hr] at ht
    obtain ⟨c, hparse, hs, _⟩ := regexPat_some hr
    -- the compiled expression is the tree up to fold flags (`(?i)`, or what `parser.factor` mixes up)
    exact ⟨c, fun t ht' => (I2.FoldRel.regexRule ht' hparse).litsCovered, hs ▸ ht⟩

/-- Mask rules, part 1: the `IndexAny` loop of `findShortcut` never panics (its slice expressions are
    checked in the model) … -/
theorem c05_mask_total (p : Bytes) : findShortcut p ≠ none := by
  obtain ⟨r, h, _⟩ := findShortcut_inv p
  simp [h]

/-- … and returns the empty string or a maximal run of the pattern free of `*`, `^`, `|`. -/
theorem c05_mask_run (p w : Bytes) (h : findShortcut p = some w) : w = [] ∨ IsMaskRun p w := by
  obtain ⟨r, h', hr⟩ := findShortcut_inv p
  rw [h] at h'
  cases h'
  exact hr

/-- Mask rules, part 2: whenever the compiled expression is a concatenation in which the run `w`
    appears as its literal atoms (with or without case folding), the stored shortcut
    (`loadShortcut w`, lower-cased, at least two bytes) is a factor of every accepted lower-cased subject. -/
theorem c05_mask_atoms (as bs : List Re) (fold : Bool) (w u : Bytes)
    (h : search (mkCat (as ++ litAtoms fold w ++ bs)) u = true) :
    hasSub (toLower u) (loadShortcut w) = true := by
  rcases loadShortcut_cases w with h0 | h0 <;> rw [h0]
  · exact hasSub_nil _
  · exact search_litAtoms as bs fold w u h

/-- Mask rules at the level of `Match`.  The hypothesis `hcompiled` is the interface to the mask
    compiler (C03, `maskAst`): the pattern oracle accepts a target only if a concatenation containing
    the literal atoms of the shortcut's run accepts it. -/
theorem c05_mask_rule (ext : Ext) (r : NetRule) (q : Request) (w : Bytes)
    (hfind : findShortcut r.pattern = some w)
    (hshort : r.shortcut = loadShortcut w)
    (hcompiled : ∀ target, ext.pat r.pattern (r.isEnabled Facts.OptionMatchCase) target = true →
      ∃ as bs fold, search (mkCat (as ++ litAtoms fold w ++ bs)) target = true)
    (hlower : q.urlLower = toLower q.url)
    (hhost : q.isHostnameRequest = true → hasSub q.url q.hostname = true) :
    (w = [] ∨ IsMaskRun r.pattern w) ∧
    r.matches ext q = ({ r with shortcut := [] } : NetRule).matches ext q := by
  refine ⟨c05_mask_run _ _ hfind, ?_⟩
  apply c05
  intro hm
  simp only [matchPattern] at hm
  obtain ⟨as, bs, fold, hs⟩ := hcompiled _ hm
  rw [hshort]
  exact hasSub_urlLower_of_target hlower hhost (c05_mask_atoms as bs fold w _ hs)

/-! ### Non-vacuity -/

/-- `/ab(c\d)+/` accepts `xABc7`, its required literals are `ab` and `c`; both occur in `xabc7`. -/
example :
    let r : Re := .cat (.lit (lit "ab") false) (.plus (.grp (.cat (.lit (lit "c") false) (.cls false [(48, 57)] false))))
    search r.foldCase (lit "xABc7") = true ∧ requiredLits r = [lit "ab", lit "c"] ∧
      hasSub (toLower (lit "xABc7")) (lit "ab") = true := by decide +kernel

/-- The D4 replay: for `/foo|barbaz/` the unrepaired heuristic kept `barbaz`; the tree requires
    nothing, `barbaz` is not justified, and the URL `http://x.com/foo` is accepted but lacks it. -/
example :
    let tree : Re := .alt (.lit (lit "foo") false) (.lit (lit "barbaz") false)
    requiredLits tree = [] ∧ shortcutJustified (lit "barbaz") tree = false ∧
      search tree.foldCase (lit "http://x.com/foo") = true ∧
      hasSub (lit "http://x.com/foo") (lit "barbaz") = false ∧
      findRegexpShortcut [lit "foo", lit "barbaz"] (some tree) = [] := by decide +kernel

/-- `foojs+`: the merged runs see `foojs`, the plain required literals only `fooj` and `s`. -/
example :
    let r : Re := .cat (.lit (lit "fooj") true) (.plus (.lit (lit "S") true))
    shortcutJustifiedRuns (lit "foojs") r = true ∧ shortcutJustified (lit "foojs") r = false := by decide +kernel

/-- `findShortcut "||example.org^*banner"` = `example.org`, a maximal run. -/
example : findShortcut (lit "||example.org^*banner") = some (lit "example.org") := by decide +kernel

end UF.C05
