import UF.Props.C04Text
import UF.Compose2.RegexShortcutSem
import UF.Proofs.Lit
/-
  C04 / `/regex/` rules.  `c04_regex_some` says that the pattern conjunct of
  `Match` is the search of "the parsed expression" `parseRE text`, and `parseRE` of a
  case-sensitive text is GO's tree of it (`goTree`: `parser.factor` merges a case-sensitive one-rune literal
  with its case-folded twin at the head of adjacent alternation branches — `Regexp.Equal` ignores the fold
  flag — so `/A.|[aA]/$match-case` does not accept `…/a`).  Here the statement in terms of the WRITTEN
  expression (`parseCore` of the text between the slashes):

    * `$match-case` rules: the compiled expression is the written one up to the fold flags of its leaves
      (`FoldRel`), and IS the written one when it has no source of case-folded literals (`hazard = false`);
    * rules without `$match-case`: the compiled expression is the written one with every flag set.

  Domain restriction (the model does not answer, `modelPat = none`): a
  `$match-case` expression WITH a source of folded literals AND a non-capturing group `(?:` or a non-greedy
  counted repetition `}?` in its text.
-/
namespace UF.C04
open UF Bytes UF.I2 UF.Re

/-- `$match-case` `/regex/` rules in terms of the written expression. -/
theorem c04_regex_matchcase_written (ext : Ext) (r : NetRule) (q : Request) (hwf : r.WellFormed) (hq : q.InDomain)
    (hre : UF.isRegexPattern r.pattern = true)
    (hmc : r.isEnabled Facts.OptionMatchCase = true)
    (hnoci : hasPrefix ((r.pattern.drop 1).dropLast) ciPrefix = false) (b : Bool)
    (hb : modelPat r.pattern (r.isEnabled Facts.OptionMatchCase) (specTarget r q) = some b) :
    ∃ w c, parseCore ((r.pattern.drop 1).dropLast) = some w ∧
      goTree ((r.pattern.drop 1).dropLast) w = some c ∧ FoldRel w c ∧ (w.hazard = false → c = w) ∧
      r.matches (withModelPat ext) q =
        (hasSub q.urlLower r.shortcut && specThirdParty r q && specReqType r q.reqType && specDenyallow ext r q &&
          specSourceDomain ext r q && specDnsType r q && specCTag r q && specClient r q &&
          Re.search c (specTarget r q)) := by
  obtain ⟨re, hparse, _, hm⟩ := c04_regex_some ext r q hwf hq hre b hb
  rw [hmc] at hparse
  simp only [regexRuleText, if_true, parseRE, hnoci, Bool.false_eq_true, if_false] at hparse
  cases hp : parseCore ((r.pattern.drop 1).dropLast) with
  | none => rw [hp] at hparse; cases hparse
  | some w =>
    rw [hp, Option.bind_some] at hparse
    refine ⟨w, re, rfl, hparse, FoldRel.goTree hparse, ?_, hm⟩
    intro hz
    rw [goTree_of_not_hazard _ w hz] at hparse
    exact (Option.some.inj hparse).symm

/-- `/regex/` rules without `$match-case`: the written expression with every fold flag set (the `(?i)`
    prefix); Go's flag-blind factoring cannot change its language. -/
theorem c04_regex_ci_written (ext : Ext) (r : NetRule) (q : Request) (hwf : r.WellFormed) (hq : q.InDomain)
    (hre : UF.isRegexPattern r.pattern = true)
    (hmc : r.isEnabled Facts.OptionMatchCase = false) (b : Bool)
    (hb : modelPat r.pattern (r.isEnabled Facts.OptionMatchCase) (specTarget r q) = some b) :
    ∃ w, parseCore ((r.pattern.drop 1).dropLast) = some w ∧
      r.matches (withModelPat ext) q =
        (hasSub q.urlLower r.shortcut && specThirdParty r q && specReqType r q.reqType && specDenyallow ext r q &&
          specSourceDomain ext r q && specDnsType r q && specCTag r q && specClient r q &&
          Re.search w.foldCase (specTarget r q)) := by
  obtain ⟨re, hparse, _, hm⟩ := c04_regex_some ext r q hwf hq hre b hb
  rw [hmc] at hparse
  simp only [regexRuleText, Bool.false_eq_true, if_false, parseRE_ci] at hparse
  cases hp : parseCore ((r.pattern.drop 1).dropLast) with
  | none => rw [hp] at hparse; cases hparse
  | some w =>
    rw [hp] at hparse
    simp only [Option.map_some, Option.some.injEq] at hparse
    subst hparse
    exact ⟨w, rfl, hm⟩

/-! ### Non-vacuity -/

/-- The pattern answers on the two rule-level witnesses are Go's. -/
example : modelPat (lit "/[aA]b|A./") true (lit "http://h/ax") = some true ∧
    modelPat (lit "/A.|[aA]/") true (lit "http://x.com/a") = some false := by
  rw [lit_ofList, lit_ofList, lit_ofList, lit_ofList]; decide +kernel

/-- The hypotheses of `c04_regex_matchcase_written` on the witness: the written tree, Go's tree of it
    (≠ the written tree: the expression has a source of folded literals). -/
example : hasPrefix (lit "[aA]b|A.") ciPrefix = false ∧
    (parseCore (lit "[aA]b|A.")).map hazard = some true ∧
    (parseCore (lit "[aA]b|A.")).bind (goTree (lit "[aA]b|A.")) =
      some (.alt (.cat (.cls false [(97, 97), (65, 65)] false) (.lit [98] false)) (.cat (.lit [65] true) .any)) := by
  decide +kernel

/-- An ordinary `$match-case` expression has no source of folded literals: compiled = written. -/
example : (parseCore (lit "^https?:\\/\\/ads\\.(foo|bar)\\/[A-Z]+")).map hazard = some false := by
  rw [lit_ofList]; decide +kernel

end UF.C04
