import UF.Proofs.Cosmetic
/-
  C15 — the cosmetic engine returns exactly the applicable, non-excepted selectors.

  `L` is the list of element-hiding rules (`##` / `#@#`) of the storage in storage order (ANY list:
  generic rules, one or many domains, negated domains, wildcard-TLD domains, duplicate selectors,
  duplicate rules).  The theorem holds for every hostname (listed, subdomain, sibling, unrelated,
  empty, with empty labels), all 8 flag combinations and every oracle `ext` (public-suffix list).
  Hypothesis `CosDomainsWF`: parser guarantee that no permitted domain is the empty string.
  Results are compared as sets (membership), as the property states.
-/
namespace UF.C15
open UF UF.B

/-- What `findByHostname` needs from `CosmeticRule.Match`: a matching rule with permitted domains has
    a wildcard-TLD domain, or one of its permitted domains is the hostname or a dot-suffix of it
    (and is therefore probed). -/
theorem c15_match_probe (ext : Ext) (r : CosRule) (host : Bytes)
    (hwf : ∀ d ∈ r.permDomains, d ≠ []) (hg : r.permDomains ≠ [])
    (hm : cosMatches ext r host = true) :
    (∃ d ∈ r.permDomains, Bytes.hasSuffix d (lit ".*") = true) ∨ ∃ d ∈ r.permDomains, d ∈ probes host := by
  exact (cos_matches_probe ext r host hwf hg hm).imp List.any_eq_true.1 id

/-- C15: for every list, hostname, flag combination and oracle, the generic and the specific
    selector lists of the engine have exactly the members of the reference lists. -/
theorem c15 (ext : Ext) (L : List CosRule) (host : Bytes) (includeCSS includeJS includeGenericCSS : Bool)
    (hwf : CosDomainsWF L) :
    (∀ c, c ∈ ((CosTable.build L).matchHost ext host includeCSS includeJS includeGenericCSS).1 ↔
          c ∈ (specCosmetic ext L host includeCSS includeJS includeGenericCSS).1) ∧
    (∀ c, c ∈ ((CosTable.build L).matchHost ext host includeCSS includeJS includeGenericCSS).2 ↔
          c ∈ (specCosmetic ext L host includeCSS includeJS includeGenericCSS).2) := by
  cases includeCSS with
  | false => exact ⟨fun _ => Iff.rfl, fun _ => Iff.rfl⟩
  | true =>
    rw [matchHost_eq]
    unfold specCosmetic
    constructor <;> intro c
    · simp only [List.mem_map, mem_all_generic ext L host hwf]
      cases includeGenericCSS <;> simp
    · simp only [List.mem_map, mem_all_specific ext L host hwf, if_true]

/-- With CSS disabled everything is omitted; with generic CSS disabled the generic list is empty, provided no
    rule found through the hostname table is generic. -/
theorem c15_flags (ext : Ext) (t : CosTable) (host : Bytes) (js gen : Bool) :
    t.matchHost ext host false js gen = ([], []) ∧
    ∀ css, (∀ r ∈ (t.findByHostname ext host), cosIsGeneric r.2 = false) →
      (t.matchHost ext host css js false).1 = [] := by
  refine ⟨rfl, ?_⟩
  intro css h
  unfold CosTable.matchHost
  cases css with
  | false => rfl
  | true =>
    simp only [if_true, Bool.false_eq_true, if_false, List.nil_append, List.map_eq_nil_iff,
      List.filter_eq_nil_iff, List.mem_map]
    rintro r ⟨x, hx, rfl⟩
    simp [h x hx]

/-- The D9 defect is gone in the model: `example.org##.banner` applies to `sub.example.org`, although
    the exact key `sub.example.org` is absent from `byHostname` (the pre-repair lookup probed only it). -/
example :
    let ext : Ext := ⟨fun _ => ([], false), fun _ => none, fun _ => none, fun _ _ _ => false⟩
    let r : CosRule := { text := lit "example.org##.banner", content := lit ".banner", permDomains := [lit "example.org"] }
    (CosTable.build [r]).matchHost ext (lit "sub.example.org") true true true = ([], [lit ".banner"]) ∧
    sget [] (CosTable.build [r]).byHostname (lit "sub.example.org") = [] := by
  decide +kernel

/-! Non-vacuity of the hypothesis. -/
example : CosDomainsWF [{ content := lit ".x", permDomains := [lit "example.*", lit "e.org"] },
                        { content := lit ".x", permDomains := [lit "e.org"], whitelist := true },
                        { content := lit ".y" }] := by
  unfold CosDomainsWF
  decide +kernel

end UF.C15
