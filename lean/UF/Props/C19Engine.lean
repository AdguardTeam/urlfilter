import UF.Compose4.EnvOfStorage
import UF.Props.C19
/-
  C19 ON THE ENGINE MODELS: the fault theorems of Props/C19.lean with the environment
  instantiated by the engine built from the bytes of the lists (see Props/C13Engine.lean).  `close l` makes
  every later read of list `l` fail; the nil checks of the three tables are branches of the machine.
-/
namespace UF.C19
open UF UF.B UF.Prog UF.Storage UF.Compose UF.Compose4

/-- For ANY engine model and EVERY schedule with `close` events: no crash; the network rules a finished query
    returns are among those the engine model returns fault-free; the host rules are among those the hosts table
    holds for the name (`matchLookupTable`). -/
theorem c19_engine_generic {Re : Type} (hf : HashFns) (k : Nat) (truth : Int → Option Rule) (listOf : Int → Int)
    (etld1 : Bytes → Bytes) (ext : Ext) (pm : PatModel Re) (basic : List NetRule → Option NetRule) (d : DnsEngine)
    (hpat : ext.pat = pm.pat) (s : State Rule Re) (hs : SInv (envOf hf k truth listOf etld1 ext pm basic d) s)
    (qs : List Query) (sched : List Ev) :
    ∀ t ∈ (Config.run (envOf hf k truth listOf etld1 ext pm basic d) ⟨s, qs.map Thread.init⟩ sched).threads,
      t.pc ≠ .crash ∧
      (t.pc = .done →
        (∀ r ∈ t.answer.1, r ∈ (engineAnswer hf k truth etld1 ext basic d t.q).1) ∧
        (∀ r ∈ t.answer.2, r ∈ (d.matchLookupTable hf truth
            ((envOf hf k truth listOf etld1 ext pm basic d).reqOf t.q).hostname).map Rule.host)) := by
  intro t ht
  refine ⟨c19_nopanic _ s qs sched hs t ht, fun hd => ?_⟩
  obtain ⟨h1, h2⟩ := c19_subset _ s qs sched hs t ht hd
  rw [pureAnswer_eq hpat] at h1
  rw [pureHosts_eq] at h2
  exact ⟨h1, h2⟩

/-- C19 FOR THE DNS ENGINE BUILT FROM THE BYTES OF THE LISTS, any number of concurrent queries, every schedule,
    `close` events at arbitrary points: no crash; every returned network rule is in the fault-free answer of the
    engine model (retrieving through the storage model, any reachable cache state); every returned host rule is
    one `matchLookupTable` yields for the name. -/
theorem c19_engine {Re : Type} (io : IO) (px : E.ParseExt) (lists : List RList) (pm : PatModel Re)
    (hpat : px.ext.pat = pm.pat) (st : RuleStorage) (hnew : newRuleStorage lists = some st)
    (history : List (BitVec 64)) (qs : List Query) (sched : List Ev) :
    ∀ t ∈ (Config.run (envDns io px lists pm) ⟨{}, qs.map Thread.init⟩ sched).threads,
      t.pc ≠ .crash ∧
      (t.pc = .done →
        (∀ r ∈ t.answer.1, r ∈ (dnsAnswer io px lists st history t.q).1) ∧
        (∀ r ∈ t.answer.2, r ∈ ((DnsEngine.build djb2 Facts.shortcutLength (storageRulesI px lists)).matchLookupTable djb2
            (retrieveAt io px (reach io px st history)) ((envDns io px lists pm).reqOf t.q).hostname).map Rule.host)) := by
  intro t ht
  refine ⟨c19_nopanic _ {} qs sched (sinv_init _) t ht, fun hd => ?_⟩
  obtain ⟨h1, h2⟩ := c19_subset _ {} qs sched (sinv_init _) t ht hd
  rw [pureAnswer_envDns io px lists pm hpat st hnew history] at h1
  unfold envDns at h2
  rw [pureHosts_eq] at h2
  rw [retrieveAt_reach io px lists st hnew history]
  exact ⟨h1, h2⟩

/-- Sequential form on the network engine of the lists: every history of `MatchAll` queries and `close`
    events finishes every query, and answer i is contained in the fault-free `Engine.matchAll` answer. -/
theorem c19_engine_history {Re : Type} (io : IO) (px : E.ParseExt) (lists : List RList) (pm : PatModel Re)
    (hpat : px.ext.pat = pm.pat) (st : RuleStorage) (hnew : newRuleStorage lists = some st)
    (history : List (BitVec 64)) (h : List HEv) :
    (∀ t ∈ (runHistoryT (envNet io px lists pm) {} h).2, t.pc = .done) ∧
    (runHistory (envNet io px lists pm) {} h).2.length = (queriesOf h).length ∧
    ∀ p ∈ (runHistory (envNet io px lists pm) {} h).2.zip (queriesOf h),
      ∀ r ∈ p.1.1, r ∈ (netAnswer io px lists st history p.2).1 := by
  refine ⟨c19_nopanic_history _ h {} (sinv_init _), (c19_subset_history _ h {} (sinv_init _)).1, ?_⟩
  intro p hp r hr
  have := ((c19_subset_history _ h {} (sinv_init _)).2 p hp).1 r hr
  rw [pureAnswer_envNet io px lists pm hpat st hnew history] at this
  exact this

/-- Rules already materialised continue to be served, on the engine: if the cache holds the network rule `n` at
    index `idx`, `idx` is in the shortcuts-table bucket of some window of the URL (or in the domains-table bucket
    of some suffix of the source hostname), and `n` matches the request (`NetworkRule.Match`),
    then `n` is in the answer of the query -- whatever lists are closed, whatever the lazy-compile cells hold. -/
theorem c19_engine_cached {Re : Type} (io : IO) (px : E.ParseExt) (lists : List RList) (pm : PatModel Re)
    (hpat : px.ext.pat = pm.pat) (s : State Rule Re) (hs : SInv (envNet io px lists pm) s)
    (q : Request) (idx : Int) (n : NetRule) (hin : (idx, Rule.net n) ∈ s.cache)
    (hcand : idx ∈ scCands djb2 Facts.shortcutLength (Engine.build djb2 Facts.shortcutLength (storageNetRules px lists)).sc q.urlLower ∨
             idx ∈ domCands djb2 (Engine.build djb2 Facts.shortcutLength (storageNetRules px lists)).dom q.sourceHostname)
    (hm : n.matches px.ext q = true) :
    Rule.net n ∈ (runQuery (envNet io px lists pm) s (.web q)).2.answer.1 := by
  obtain ⟨b, h1, h2, h3⟩ := envOf_net_candidate djb2 Facts.shortcutLength (truthOf io px lists) listOfIdx
    (Compose3.etld1Of px.ext) px.ext pm getDNSBasicRule ⟨_, []⟩ hpat hcand hm
  exact c19_cached _ s (.web q) b idx (.net n) hs rfl hin h1 h2 h3

/-- …and for the hosts table of the DNS engine of the lists: a cached host rule `hr` whose index is in the bucket
    of the queried name and which names it (`HostRule.Match`) is returned whenever the network rules of the
    (possibly degraded) answer contain no basic rule (`GetDNSBasicRule`) -- whatever lists are closed. -/
theorem c19_engine_cached_host {Re : Type} (io : IO) (px : E.ParseExt) (lists : List RList) (pm : PatModel Re)
    (s : State Rule Re) (hs : SInv (envDns io px lists pm) s) (d : DReq) (hq : d.hostname.isEmpty = false)
    (idx : Int) (hr : HostRule) (hin : (idx, Rule.host hr) ∈ s.cache)
    (hcand : idx ∈ hget [] (DnsEngine.build djb2 Facts.shortcutLength (storageRulesI px lists)).hosts (djb2.h d.hostname))
    (hm : hostRuleMatches hr d.hostname = true)
    (hb : getDNSBasicRule (netRulesOf (runQuery (envDns io px lists pm) s (.dns d)).2.answer.1) = none) :
    Rule.host hr ∈ (runQuery (envDns io px lists pm) s (.dns d)).2.answer.2 := by
  have hname : ((envDns io px lists pm).reqOf (.dns d)).hostname = d.hostname := fillFromPool_hostname _ _ d
  apply c19_cached_host (envDns io px lists pm) s d idx (.host hr) hs hq hin
  · rw [envDns, envOf_hcands, ← envDns, hname]; exact hcand
  · rfl
  · show hostRuleMatches hr ((envDns io px lists pm).reqOf (.dns d)).hostname = true
    rw [hname]; exact hm
  · -- the answer is left opaque: unifying through `runQuery` would unfold the engine
    generalize (runQuery (envDns io px lists pm) s (.dns d)).2.answer.1 = a at hb ⊢
    rw [envDns, envOf_basic, hb]; rfl

end UF.C19
