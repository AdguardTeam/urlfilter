import UF.Compose3.Request
import UF.Compose3.DnsTop
import UF.Props.C17
/-
  C17 AT THE TOP LEVEL: the requests the two public entry points actually match —
  `Engine.MatchRequest(NewRequest(url, src, t))` (the request and the referrer document request it builds) and
  `DNSEngine.MatchRequest(dReq)` (the refilled pooled request) — agree with the reference of C17 (URL grammar
  host, public suffix plus one label, third-party) on the property's URL grammar.
-/
namespace UF.H
open UF Bytes UF.Compose3

/-- The request and the referrer request of `Engine.MatchRequest` on the URL grammar: both are the reference
    requests (`refRequest`), the referrer one being "the source URL as a `document` request without source";
    so the top-level result is the engine's answer for the REFERENCE requests. -/
theorem c17_top_web (ext : Ext) (scheme host tail sscheme shost stail : Bytes) (t : Nat)
    (hu : goodURLParts scheme host tail = true) (hs : goodURLParts sscheme shost stail = true)
    (hlen : (scheme ++ lit "://" ++ host ++ tail).length ≤ Facts.maxURLLength)
    (hslen : (sscheme ++ lit "://" ++ shost ++ stail).length ≤ Facts.maxURLLength)
    (hn : noEmptyLabel host = true) (hp : pslIsDotSuffix ext host)
    (hsn : noEmptyLabel shost = true) (hsp : pslIsDotSuffix ext shost) :
    refRequest ext (scheme ++ lit "://" ++ host ++ tail) (sscheme ++ lit "://" ++ shost ++ stail) t =
      some (requestOf ext (scheme ++ lit "://" ++ host ++ tail) (sscheme ++ lit "://" ++ shost ++ stail) t) ∧
    refRequest ext (sscheme ++ lit "://" ++ shost ++ stail) [] Facts.TypeDocument =
      some (sourceRequestOf ext
        (requestOf ext (scheme ++ lit "://" ++ host ++ tail) (sscheme ++ lit "://" ++ shost ++ stail) t)) ∧
    (requestOf ext (scheme ++ lit "://" ++ host ++ tail) (sscheme ++ lit "://" ++ shost ++ stail) t).hostname = host ∧
    (requestOf ext (scheme ++ lit "://" ++ host ++ tail) (sscheme ++ lit "://" ++ shost ++ stail) t).sourceHostname = shost ∧
    (sourceRequestOf ext
      (requestOf ext (scheme ++ lit "://" ++ host ++ tail) (sscheme ++ lit "://" ++ shost ++ stail) t)).hostname = shost := by
  obtain ⟨q, hq, href, hh, hsh⟩ := c17_request_eq_ref ext scheme host tail sscheme shost stail t hu hs hlen hslen hn hp hsn hsp
  obtain ⟨q', hq', href', hh', _⟩ := c17_request_eq_ref_nosrc ext sscheme shost stail Facts.TypeDocument hs hslen hsn hsp
  have e := Except.ok.inj ((requestOf_eq ext _ _ t).symm.trans hq)
  have e' : sourceRequestOf ext q = q' := by
    have hsrc : q.sourceURL = sscheme ++ lit "://" ++ shost ++ stail := by
      rw [← e, (requestOf_fields ext _ _ t).2.2.1, List.take_of_length_le hslen]
    unfold sourceRequestOf
    rw [hsrc]
    exact Except.ok.inj ((requestOf_eq ext _ [] _).symm.trans hq')
  rw [e, e']
  exact ⟨href, href', hh, hsh, hh'⟩

/-- The referrer request for EVERY input (no grammar): its URL is the capped source URL, its hostname the
    request's source hostname (what `$domain` reads), it has no source and is never third-party. -/
theorem c17_top_source (ext : Ext) (url src : Bytes) (t : Nat) :
    (sourceRequestOf ext (requestOf ext url src t)).url = src.take Facts.maxURLLength ∧
    (sourceRequestOf ext (requestOf ext url src t)).hostname = (requestOf ext url src t).sourceHostname ∧
    (sourceRequestOf ext (requestOf ext url src t)).sourceURL = [] ∧
    (sourceRequestOf ext (requestOf ext url src t)).sourceHostname = [] ∧
    (sourceRequestOf ext (requestOf ext url src t)).reqType = Facts.TypeDocument ∧
    (sourceRequestOf ext (requestOf ext url src t)).thirdParty = false := by
  obtain ⟨g1, g2, g3, g4, g5, g6⟩ := sourceRequestOf_fields ext url src t
  exact ⟨by rw [g1, (requestOf_fields ext url src t).2.2.1], g2, g3, g4, g5, g6⟩

/-- The request of `DNSEngine.MatchRequest`: for a hostname without empty labels (PSL oracle answering a
    dot-suffix) its `Domain` is the reference registrable domain; its hostname is extracted back from its URL
    when it contains none of `/ : ?`. -/
theorem c17_top_dns (ext : Ext) (old : Request) (d : DReq) (hn : noEmptyLabel d.hostname = true)
    (hp : pslIsDotSuffix ext d.hostname) :
    (dnsRequestOf ext old d).hostname = d.hostname ∧
    (dnsRequestOf ext old d).domain = refDomain ext d.hostname ∧
    (dnsRequestOf ext old d).thirdParty = false ∧
    (d.hostname.all (fun c => !isStop c) = true →
      extractHostname (dnsRequestOf ext old d).url = .ok d.hostname) := by
  rw [dnsRequestOf_closed]
  refine ⟨rfl, ?_, rfl, ?_⟩
  · simp only
    have he : etld1Of ext d.hostname = (refETLD1 ext d.hostname).getD [] := by
      unfold etld1Of
      rw [etld1_spec ext d.hostname hn hp]
    rw [he, ← domain_eq_refDomain ext d.hostname hn]
    cases (refETLD1 ext d.hostname).getD [] <;> rfl
  · intro hh
    have := extract_host_url (lit "http") d.hostname [] (by decide) hh (Or.inl rfl)
    simpa [lit] using this

end UF.H
