import UF.Compose2.NewRuleFull
import UF.Props.C12
import UF.Proofs.Lit
/-
  C12 for the complete model of `rules.NewRule` (UF/Compose2/NewRuleFull.lean): the parameters `trim`,
  `newHostRule`, `loadDNSRewrite` of the C12 theorems are the modelled functions, and the assumptions made
  about them ("`TrimSpace` removes a trailing CR", "`NewHostRule` keeps text and list id") are proved, so no
  statement below has a hypothesis about a modelled function.  External remain `netip` parsing (`ext`) and
  the shortcut of `/regex/` rules (`reShortcut`): the theorems hold for every such oracle.
-/
namespace UF.C12
open UF Bytes UF.I2

/-- The three outcomes of the property for EVERY line, list id and oracle: nothing (blank/comment),
    a rule whose text is `TrimSpace(line)` and whose list id is the one given, or an error — never a
    crash. -/
theorem c12_outcomes_full (ext : Ext) (reShortcut : Bytes → Bytes) (line : Bytes) (id : Int) :
    newRuleFull ext reShortcut line id = .ok none ∨
    (∃ r, newRuleFull ext reShortcut line id = .ok (some r) ∧ r.text = trimSpace line ∧ r.listID = id) ∨
    newRuleFull ext reShortcut line id = .error .err :=
  c12_outcomes (fullRuleExt ext reShortcut) line id (fun _ _ _ hh => hostParam_text hh)

/-- No crash, in isolation. -/
theorem c12_total_full (ext : Ext) (reShortcut : Bytes → Bytes) (line : Bytes) (id : Int) :
    newRuleFull ext reShortcut line id ≠ .error .panic :=
  c12_total_newRule (fullRuleExt ext reShortcut) line id

/-- … including the parts `E` took as parameters: `H`'s `NewHostRule` and `loadDNSRewrite`
    and `E`'s `IsDomainName` never panic, so turning their results into `Option`s lost nothing. -/
theorem c12_total_full_params (ext : Ext) (t : Bytes) (id : Int) :
    H.newHostRule ext isDomainNameB t id ≠ .error .panic ∧ H.loadDNSRewrite ext t ≠ .error .panic ∧
    E.isDomainNameC t = .ok (isDomainNameB t) :=
  ⟨H.c18_total ext isDomainNameB t id, H.c10_total ext t, isDomainNameB_spec t⟩

/-- A line that yields a rule yields one whose text is the trimmed line and whose list id is the
    one given. -/
theorem c12_text_full (ext : Ext) (reShortcut : Bytes → Bytes) (line : Bytes) (id : Int) (r : Rule)
    (h : newRuleFull ext reShortcut line id = .ok (some r)) : r.text = trimSpace line ∧ r.listID = id :=
  c12_text (fullRuleExt ext reShortcut) line id r (fun _ _ _ hh => hostParam_text hh) h

/-- `NewRule` reads the line only through `TrimSpace`: two lines with the same trimmed text give the
    same outcome; in particular trailing CR, LF, CRLF and surrounding blanks do not matter. -/
theorem c12_trim_full (ext : Ext) (reShortcut : Bytes → Bytes) (a b : Bytes) (id : Int)
    (h : trimSpace a = trimSpace b) : newRuleFull ext reShortcut a id = newRuleFull ext reShortcut b id :=
  E.newRule_congr_trim (fullRuleExt ext reShortcut) id h

theorem c12_cr_full (ext : Ext) (reShortcut : Bytes → Bytes) (l : Bytes) (id : Int) :
    newRuleFull ext reShortcut (l ++ [13]) id = newRuleFull ext reShortcut l id ∧
    newRuleFull ext reShortcut (l ++ [13, 10]) id = newRuleFull ext reShortcut l id :=
  ⟨c12_trim_full ext reShortcut _ _ id (trim_cr l), c12_trim_full ext reShortcut _ _ id (trim_crlf l)⟩

/-- Inert lines: any result computed from the accepted rules of a list (engine construction + query,
    abstractly a function `results`) is unchanged when lines that yield no rule — blank, comment,
    rejected — are deleted or inserted, and when the list switches to CRLF line endings.  No hypothesis
    about `TrimSpace` any more. -/
theorem c12_inert_full {α} (results : List Rule → α) (ext : Ext) (reShortcut : Bytes → Bytes) (id : Int)
    (lines : List Bytes) (keep : Bytes → Bool)
    (h : ∀ l ∈ lines, keep l = false → E.acceptedOf (fullRuleExt ext reShortcut) id l = none) :
    results (scanAcceptedFull ext reShortcut id (lines.filter keep)) = results (scanAcceptedFull ext reShortcut id lines) ∧
    results (scanAcceptedFull ext reShortcut id (lines.map (· ++ [13]))) = results (scanAcceptedFull ext reShortcut id lines) :=
  c12_inert results (fullRuleExt ext reShortcut) id lines keep h trim_cr

/-- Inserting one inert line at any position. -/
theorem c12_inert_insert_full (ext : Ext) (reShortcut : Bytes → Bytes) (id : Int) (a b : List Bytes) (n : Bytes)
    (h : E.acceptedOf (fullRuleExt ext reShortcut) id n = none) :
    scanAcceptedFull ext reShortcut id (a ++ n :: b) = scanAcceptedFull ext reShortcut id (a ++ b) :=
  c12_inert_insert (fullRuleExt ext reShortcut) id a b n h

/-- Blank lines (white space of any kind `TrimSpace` knows, Unicode spaces included) yield nothing. -/
theorem c12_blank_full (ext : Ext) (reShortcut : Bytes → Bytes) (line : Bytes) (id : Int)
    (h : trimSpace line = []) : newRuleFull ext reShortcut line id = .ok none :=
  c12_blank (fullRuleExt ext reShortcut) line id h

/-- The same for `newRuleM`, the model with the shortcut of `/regex/` rules computed from the text
    (`modelRegexpShortcut`): no parameter left but the `netip` oracle. -/
theorem c12_outcomes_model (ext : Ext) (line : Bytes) (id : Int) :
    newRuleM ext line id = .ok none ∨
    (∃ r, newRuleM ext line id = .ok (some r) ∧ r.text = trimSpace line ∧ r.listID = id) ∨
    newRuleM ext line id = .error .err :=
  c12_outcomes_full ext reShortcutM line id

/-! ### Non-vacuity: the complete model on concrete lines (no table for anything but `netip`) -/

private def exExt : Ext :=
  { psl := fun _ => ([], false),
    parseAddr := fun s => if s == lit "0.0.0.0" then some { is4 := true, val := 0 } else none,
    parsePrefix := fun _ => none, pat := fun _ _ _ => false }

private def kind : E.PE (Option Rule) → String
  | .ok none => "none"
  | .ok (some (.net _)) => "net"
  | .ok (some (.host _)) => "host"
  | .ok (some (.cos _)) => "cos"
  | .error .err => "err"
  | .error .panic => "PANIC"

example : kind (newRuleFull exExt (fun _ => []) (lit "  ! comment\r") 1) = "none" := by rw [lit_ofList]; decide +kernel
example : kind (newRuleFull exExt (fun _ => []) (lit "0.0.0.0 example.org # note") 1) = "host" := by rw [lit_ofList]; decide +kernel
example : kind (newRuleFull exExt (fun _ => []) (lit "example.org") 1) = "host" := by rw [lit_ofList]; decide +kernel
example : kind (newRuleFull exExt (fun _ => []) (lit "example.org##.banner ") 1) = "cos" := by rw [lit_ofList]; decide +kernel
example : kind (newRuleFull exExt (fun _ => []) (lit "||example.org^$dnsrewrite=NOERROR;TXT;hi") 1) = "net" := by rw [lit_ofList]; decide +kernel
example : kind (newRuleFull exExt (fun _ => []) (lit "||example.org^$dnsrewrite=a;b") 1) = "err" := by rw [lit_ofList]; decide +kernel
example : kind (newRuleFull exExt (fun _ => []) (lit "||example.org^$unknown") 1) = "err" := by rw [lit_ofList]; decide +kernel
example : (match newRuleFull exExt (fun _ => []) (lit "\t||Example.org/ads/*$ctag=b|a \r\n") 7 with
    | .ok (some (.net r)) => (r.text, r.listID, r.pattern, r.shortcut, r.permTags)
    | _ => ([], 0, [], [], [])) =
    (lit "||Example.org/ads/*$ctag=b|a", 7, lit "||Example.org/ads^", lit "example.org/ads", [lit "a", lit "b"]) := by
  decide +kernel

end UF.C12
