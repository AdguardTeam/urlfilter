import UF.Compose5.AppendX
import UF.Props.C07
import UF.Proofs.Lit
import UF.Compose2.NewRuleFull
/-
  C07 at text level: for `t = render exception pattern ms` and `t'` = `t` with one more modifier appended,
  whatever `NewNetworkRule` accepts for the two texts satisfies `t'.IsHigherPriority(t)` — for every modifier the
  rule does not carry yet, with two exceptions (the scope decision of DESIGN.md §8.5; examples at the end):
  a document-only option on a rule without one overwrites the permitted content types with `document`
  (`c07_text_doconly_iff` says exactly when the new rule is higher, ties, or is LOWER), and a permitted content
  type on a document-only rule changes nothing (`c07_text_content_type_doc_tie`).  `,dnsrewrite=…` is not counted.
  Each theorem is the record-level `c07_add_*` (UF/Props/C07.lean) through `append_applyMod`.
-/
namespace UF.C07
open UF Bytes UF.L

/-- ANY bare option (`important`, `badfilter`, `match-case`, `stealth`, `empty`, `mp4`, and the
    document-only ones) appended to a rule that does not carry it yet — provided the option is not
    document-only, or the rule already carries a document-only option. -/
theorem c07_text_option (px : E.ParseExt) (wl : Bool) (pat : Bytes) (ms : List Mod) (o : Opt) (id id' : Int)
    (r r' : NetRule) (hp : patOK pat = true) (hm : ∀ x ∈ ms ++ [.opt o], x.valsOK = true)
    (h : E.parseNetRule px (render wl pat ms) id = .ok r)
    (h' : E.parseNetRule px (render wl pat (ms ++ [.opt o])) id' = .ok r')
    (hno : r.isEnabled o.bit = false)
    (hdoc : o.docOnly = false ∨ E.documentOnlyOptions.any (fun x => r.isEnabled x) = true) :
    isHigherPriority r' r = true := by
  obtain ⟨k, hk⟩ := opt_bit_pow o
  rw [higher_modFields, append_applyMod hp hm h h' hdoc (fun _ hc => by cases hc)]
  show isHigherPriority { modFields r with enabled := r.enabled ||| o.bit } (modFields r) = true
  rw [hk]
  exact c07_add_option (modFields r) k (by rw [← and_two_pow_beq, ← hk]; exact hno)

/-- A DOCUMENT-ONLY option (`popup`, `elemhide`, …) appended to a rule without document-only options: the
    permitted content types are overwritten by `document`, so the new rule is strictly higher iff the original
    lists fewer than two permitted content types, strictly LOWER iff it lists more than two, and ties at two.
    This is the exact extent of the text-level exception to "adding a modifier makes the rule higher". -/
theorem c07_text_doconly_iff (px : E.ParseExt) (wl : Bool) (pat : Bytes) (ms : List Mod) (o : Opt) (id id' : Int)
    (r r' : NetRule) (hp : patOK pat = true) (hm : ∀ x ∈ ms ++ [.opt o], x.valsOK = true)
    (h : E.parseNetRule px (render wl pat ms) id = .ok r)
    (h' : E.parseNetRule px (render wl pat (ms ++ [.opt o])) id' = .ok r')
    (ho : o.docOnly = true)
    (hdoc : E.documentOnlyOptions.any (fun x => r.isEnabled x) = false) :
    isHigherPriority r' r = decide (popCount r.permTypes < 2) ∧
    isHigherPriority r r' = decide (popCount r.permTypes > 2) := by
  obtain ⟨R, _, e, e'⟩ := append_mod hp hm h h'
  obtain ⟨k, hk, hk2, hk18, hkd⟩ := docOnly_bit o ho
  have hd : docOnlyB R.enabled = false := by rw [← enabled_of_overrideDoc e]; exact hdoc
  have c := doconly_bit_counts R k hk2 hk18 hkd (docOnlyB_false_bit hd hkd)
  have hpt : r.permTypes = (overrideDoc R).permTypes := (congrArg NetRule.permTypes e :)
  have e2 : modFields r' = overrideDoc { R with enabled := R.enabled ||| 2 ^ k } := by rw [← hk]; exact e'
  rw [higher_modFields r' r, higher_modFields r r', e, e2, hpt]
  exact higher_of_counts c

/-- `,important` (a class change): strictly higher. -/
theorem c07_text_important (px : E.ParseExt) (wl : Bool) (pat : Bytes) (ms : List Mod) (id id' : Int)
    (r r' : NetRule) (hp : patOK pat = true) (hm : ∀ x ∈ ms ++ [.opt .important], x.valsOK = true)
    (h : E.parseNetRule px (render wl pat ms) id = .ok r)
    (h' : E.parseNetRule px (render wl pat (ms ++ [.opt .important])) id' = .ok r')
    (hno : r.important = false) : isHigherPriority r' r = true :=
  c07_text_option px wl pat ms .important id id' r r' hp hm h h' hno (.inl rfl)

/-- `,match-case`. -/
theorem c07_text_match_case (px : E.ParseExt) (wl : Bool) (pat : Bytes) (ms : List Mod) (id id' : Int)
    (r r' : NetRule) (hp : patOK pat = true) (hm : ∀ x ∈ ms ++ [.opt .matchCase], x.valsOK = true)
    (h : E.parseNetRule px (render wl pat ms) id = .ok r)
    (h' : E.parseNetRule px (render wl pat (ms ++ [.opt .matchCase])) id' = .ok r')
    (hno : r.isEnabled Facts.OptionMatchCase = false) : isHigherPriority r' r = true :=
  c07_text_option px wl pat ms .matchCase id id' r r' hp hm h h' hno (.inl rfl)

/-- `,third-party` or `,~first-party` on a rule without it. -/
theorem c07_text_third_party (px : E.ParseExt) (wl : Bool) (pat : Bytes) (ms : List Mod) (alt : Bool)
    (id id' : Int) (r r' : NetRule) (hp : patOK pat = true) (hm : ∀ x ∈ ms ++ [.thirdParty alt], x.valsOK = true)
    (h : E.parseNetRule px (render wl pat ms) id = .ok r)
    (h' : E.parseNetRule px (render wl pat (ms ++ [.thirdParty alt])) id' = .ok r')
    (hno : r.isEnabled Facts.OptionThirdParty = false) : isHigherPriority r' r = true := by
  rw [higher_modFields, append_applyMod hp hm h h' (.inl rfl) (fun _ hc => by cases hc)]
  exact c07_add_option (modFields r) 0 (by rw [← and_two_pow_beq]; exact hno)

/-- `,~third-party` or `,first-party` on a rule without it. -/
theorem c07_text_first_party (px : E.ParseExt) (wl : Bool) (pat : Bytes) (ms : List Mod) (alt : Bool)
    (id id' : Int) (r r' : NetRule) (hp : patOK pat = true) (hm : ∀ x ∈ ms ++ [.firstParty alt], x.valsOK = true)
    (h : E.parseNetRule px (render wl pat ms) id = .ok r)
    (h' : E.parseNetRule px (render wl pat (ms ++ [.firstParty alt])) id' = .ok r')
    (hno : r.isDisabled Facts.OptionThirdParty = false) : isHigherPriority r' r = true := by
  rw [higher_modFields, append_applyMod hp hm h h' (.inl rfl) (fun _ hc => by cases hc)]
  exact c07_add_disabled_option (modFields r) 0 (by rw [← and_two_pow_beq]; exact hno)

/-- `,~match-case` on a rule without it. -/
theorem c07_text_not_match_case (px : E.ParseExt) (wl : Bool) (pat : Bytes) (ms : List Mod)
    (id id' : Int) (r r' : NetRule) (hp : patOK pat = true) (hm : ∀ x ∈ ms ++ [.notMatchCase], x.valsOK = true)
    (h : E.parseNetRule px (render wl pat ms) id = .ok r)
    (h' : E.parseNetRule px (render wl pat (ms ++ [.notMatchCase])) id' = .ok r')
    (hno : r.isDisabled Facts.OptionMatchCase = false) : isHigherPriority r' r = true := by
  rw [higher_modFields, append_applyMod hp hm h h' (.inl rfl) (fun _ hc => by cases hc)]
  exact c07_add_disabled_option (modFields r) 1 (by rw [← and_two_pow_beq]; exact hno)

/-- `,script` / `,image` / … (a permitted content type not yet listed) on a rule WITHOUT document-only
    options. -/
theorem c07_text_content_type (px : E.ParseExt) (wl : Bool) (pat : Bytes) (ms : List Mod) (c : CType)
    (id id' : Int) (r r' : NetRule) (hp : patOK pat = true) (hm : ∀ x ∈ ms ++ [.ctype false c], x.valsOK = true)
    (h : E.parseNetRule px (render wl pat ms) id = .ok r)
    (h' : E.parseNetRule px (render wl pat (ms ++ [.ctype false c])) id' = .ok r')
    (hdoc : E.documentOnlyOptions.any (fun x => r.isEnabled x) = false)
    (hno : r.permTypes &&& c.bit = 0) : isHigherPriority r' r = true := by
  obtain ⟨k, hk⟩ := ctype_bit_pow c
  rw [higher_modFields, append_applyMod hp hm h h' (.inl rfl) (fun _ _ => hdoc)]
  show isHigherPriority { modFields r with permTypes := r.permTypes ||| c.bit } (modFields r) = true
  rw [hk] at hno ⊢
  exact c07_add_content_type (modFields r) k (testBit_false_of_and_pow hno)

/-- A permitted content type appended to a rule that already carries a document-only option changes nothing
    the order reads (the override puts `document` back): the two rules TIE. -/
theorem c07_text_content_type_doc_tie (px : E.ParseExt) (wl : Bool) (pat : Bytes) (ms : List Mod) (c : CType)
    (id id' : Int) (r r' : NetRule) (hp : patOK pat = true) (hm : ∀ x ∈ ms ++ [.ctype false c], x.valsOK = true)
    (h : E.parseNetRule px (render wl pat ms) id = .ok r)
    (h' : E.parseNetRule px (render wl pat (ms ++ [.ctype false c])) id' = .ok r')
    (hdoc : E.documentOnlyOptions.any (fun x => r.isEnabled x) = true) :
    isHigherPriority r' r = false ∧ isHigherPriority r r' = false := by
  obtain ⟨R, _, e, e'⟩ := append_mod hp hm h h'
  have hd : docOnlyB R.enabled = true := by rw [← enabled_of_overrideDoc e]; exact hdoc
  have e2 : modFields r' = overrideDoc R := e'.trans (overrideDoc_permTypes_doc R _ hd)
  rw [higher_modFields r' r, higher_modFields r r', e, e2]
  exact ⟨c07_irrefl _, c07_irrefl _⟩

/-- `,~script` / … (a restricted content type not yet listed): strictly higher, document-only or not. -/
theorem c07_text_restricted_content_type (px : E.ParseExt) (wl : Bool) (pat : Bytes) (ms : List Mod) (c : CType)
    (id id' : Int) (r r' : NetRule) (hp : patOK pat = true) (hm : ∀ x ∈ ms ++ [.ctype true c], x.valsOK = true)
    (h : E.parseNetRule px (render wl pat ms) id = .ok r)
    (h' : E.parseNetRule px (render wl pat (ms ++ [.ctype true c])) id' = .ok r')
    (hno : r.restrTypes &&& c.bit = 0) : isHigherPriority r' r = true := by
  obtain ⟨k, hk⟩ := ctype_bit_pow c
  rw [higher_modFields, append_applyMod hp hm h h' (.inl rfl) (fun _ hc => by cases hc)]
  show isHigherPriority { modFields r with restrTypes := r.restrTypes ||| c.bit } (modFields r) = true
  rw [hk] at hno ⊢
  exact c07_add_restricted_content_type (modFields r) k (testBit_false_of_and_pow hno)

/-- `,domain=…` on a rule without `$domain`. -/
theorem c07_text_domain (px : E.ParseExt) (wl : Bool) (pat : Bytes) (ms : List Mod) (vs : List (Bool × Bytes))
    (id id' : Int) (r r' : NetRule) (hp : patOK pat = true) (hm : ∀ x ∈ ms ++ [.domain vs], x.valsOK = true)
    (h : E.parseNetRule px (render wl pat ms) id = .ok r)
    (h' : E.parseNetRule px (render wl pat (ms ++ [.domain vs])) id' = .ok r')
    (hno : r.permDomains = [] ∧ r.restrDomains = []) : isHigherPriority r' r = true := by
  have hne : vs ≠ [] := ne_nil_of_valsOK (hm _ (List.mem_append_right _ List.mem_cons_self))
  rw [higher_modFields, append_applyMod hp hm h h' (.inl rfl) (fun _ hc => by cases hc)]
  show isHigherPriority { modFields r with permDomains := posVals vs, restrDomains := negVals vs } (modFields r) = true
  cases hpos : posVals vs with
  | nil =>
    have hneg : negVals vs ≠ [] := by
      intro hn
      have := pos_neg_length vs
      rw [hpos, hn] at this
      exact hne (List.eq_nil_of_length_eq_zero this.symm)
    have : ({ modFields r with permDomains := [], restrDomains := negVals vs } : NetRule) =
        { modFields r with restrDomains := negVals vs } := by
      rw [← hno.1]; rfl
    rw [this]
    exact c07_add_restricted_domain (modFields r) _ hno.1 hno.2 hneg
  | cons d ds =>
    refine c07_specific_over_generic _ _ (by rfl) (by rfl) (by rfl) ?_
    simp [NetRule.isGeneric, modFields, hno.1]

/-- `,dnstype=…` (names of known record types) on a rule without `$dnstype`. -/
theorem c07_text_dnstype (px : E.ParseExt) (wl : Bool) (pat : Bytes) (ms : List Mod) (vs : List (Bool × Bytes))
    (id id' : Int) (r r' : NetRule) (hp : patOK pat = true) (hm : ∀ x ∈ ms ++ [.dnstype vs], x.valsOK = true)
    (h : E.parseNetRule px (render wl pat ms) id = .ok r)
    (h' : E.parseNetRule px (render wl pat (ms ++ [.dnstype vs])) id' = .ok r')
    (hno : r.permDns = [] ∧ r.restrDns = [])
    (hknown : r'.permDns ≠ [] ∨ r'.restrDns ≠ []) : isHigherPriority r' r = true := by
  have e := append_applyMod hp hm h h' (.inl rfl) (fun _ hc => by cases hc)
  have a : r'.permDns = (posVals vs).filterMap dnsTypeNumber := congrArg NetRule.permDns e
  have b : r'.restrDns = (negVals vs).filterMap dnsTypeNumber := congrArg NetRule.restrDns e
  rw [a, b] at hknown
  rw [higher_modFields, e]
  exact c07_add_dnstype (modFields r) _ _ hno.1 hno.2 hknown

/-- `,ctag=…` on a rule without `$ctag`. -/
theorem c07_text_ctag (px : E.ParseExt) (wl : Bool) (pat : Bytes) (ms : List Mod) (vs : List (Bool × Bytes))
    (id id' : Int) (r r' : NetRule) (hp : patOK pat = true) (hm : ∀ x ∈ ms ++ [.ctag vs], x.valsOK = true)
    (h : E.parseNetRule px (render wl pat ms) id = .ok r)
    (h' : E.parseNetRule px (render wl pat (ms ++ [.ctag vs])) id' = .ok r')
    (hno : r.permTags = [] ∧ r.restrTags = []) : isHigherPriority r' r = true := by
  have hne : vs ≠ [] := ne_nil_of_valsOK (hm _ (List.mem_append_right _ List.mem_cons_self))
  rw [higher_modFields, append_applyMod hp hm h h' (.inl rfl) (fun _ hc => by cases hc)]
  refine c07_add_ctag (modFields r) _ _ hno.1 hno.2 (ne_of_flag2 ?_)
  rw [sortB_length, sortB_length]
  exact posNeg_ne_zero vs hne

/-- `,client=…` on a rule without `$client`. -/
theorem c07_text_client (px : E.ParseExt) (wl : Bool) (pat : Bytes) (ms : List Mod) (vs : List (Bool × Bytes))
    (id id' : Int) (r r' : NetRule) (hp : patOK pat = true) (hm : ∀ x ∈ ms ++ [.client vs], x.valsOK = true)
    (h : E.parseNetRule px (render wl pat ms) id = .ok r)
    (h' : E.parseNetRule px (render wl pat (ms ++ [.client vs])) id' = .ok r')
    (hno : Clients.len r.permClients = 0 ∧ Clients.len r.restrClients = 0) : isHigherPriority r' r = true := by
  have hne : vs ≠ [] := ne_nil_of_valsOK (hm _ (List.mem_append_right _ List.mem_cons_self))
  rw [higher_modFields, append_applyMod hp hm h h' (.inl rfl) (fun _ hc => by cases hc)]
  refine c07_add_client (modFields r) _ _ hno.1 hno.2 ?_
  rw [clientsOf_len, clientsOf_len]
  have hl := pos_neg_length vs
  have : vs.length ≠ 0 := fun h0 => hne (List.eq_nil_of_length_eq_zero h0)
  omega

/-- `,denyallow=…` on a rule without `$denyallow`. -/
theorem c07_text_denyallow (px : E.ParseExt) (wl : Bool) (pat : Bytes) (ms : List Mod) (vs : List Bytes)
    (id id' : Int) (r r' : NetRule) (hp : patOK pat = true) (hm : ∀ x ∈ ms ++ [.denyallow vs], x.valsOK = true)
    (h : E.parseNetRule px (render wl pat ms) id = .ok r)
    (h' : E.parseNetRule px (render wl pat (ms ++ [.denyallow vs])) id' = .ok r')
    (hno : r.denyallow = []) : isHigherPriority r' r = true := by
  rw [higher_modFields, append_applyMod hp hm h h' (.inl rfl) (fun _ hc => by cases hc)]
  exact c07_add_denyallow (modFields r) _ hno (ne_nil_of_valsOK (hm _ (List.mem_append_right _ List.mem_cons_self)))

/-! ### the exceptions, machine-checked through the parser model (scope decision of DESIGN.md §8.5) -/

private def exExt : Ext :=
  { psl := fun _ => (lit "com", true), parsePrefix := fun _ => none, pat := fun _ _ _ => true,
    parseAddr := fun s => if s == lit "1.2.3.4" then some { is4 := true, val := 16909060 } else none }

/-- `(t'.IsHigherPriority(t), t.IsHigherPriority(t'))` for two rule texts, through the complete parser model
    (`$dnsrewrite` values included). -/
private def prio (t' t : String) : Option (Bool × Bool) :=
  match I2.parseNetRuleFull exExt (fun _ => []) (lit t') 1, I2.parseNetRuleFull exExt (fun _ => []) (lit t) 1 with
  | .ok a, .ok b => some (isHigherPriority a b, isHigherPriority b a)
  | _, _ => none

/-- `prio` on byte strings: `prio t' t = prioBytes (lit t') (lit t)` by unfolding, and the examples below rewrite
    the two `lit`s of literals with `lit_ofList` before the kernel evaluates. -/
private def prioBytes (t' t : Bytes) : Option (Bool × Bool) :=
  match I2.parseNetRuleFull exExt (fun _ => []) t' 1, I2.parseNetRuleFull exExt (fun _ => []) t 1 with
  | .ok a, .ok b => some (isHigherPriority a b, isHigherPriority b a)
  | _, _ => none

/-- `,popup` on `$script,image,media` is LOWER (three content types are replaced by `document`); on two types
    it ties; on one type or none it is higher. -/
example : prio "||e.com^$script,image,media,popup" "||e.com^$script,image,media" = some (false, true) := by
  rw [show prio _ _ = prioBytes (lit _) (lit _) from rfl, lit_ofList, lit_ofList]
  decide +kernel
example : prio "||e.com^$script,image,popup" "||e.com^$script,image" = some (false, false) := by
  rw [show prio _ _ = prioBytes (lit _) (lit _) from rfl, lit_ofList, lit_ofList]
  decide +kernel
example : prio "||e.com^$script,popup" "||e.com^$script" = some (true, false) := by
  rw [show prio _ _ = prioBytes (lit _) (lit _) from rfl, lit_ofList, lit_ofList]
  decide +kernel
example : prio "||e.com^$popup" "||e.com^" = some (true, false) := by
  rw [show prio _ _ = prioBytes (lit _) (lit _) from rfl, lit_ofList, lit_ofList]
  decide +kernel

/-- The same for an exception-only document-only option. -/
example : prio "@@||e.com^$script,image,media,elemhide" "@@||e.com^$script,image,media" = some (false, true) := by
  rw [show prio _ _ = prioBytes (lit _) (lit _) from rfl, lit_ofList, lit_ofList]
  decide +kernel

/-- `,dnsrewrite=…` is not counted: tie. -/
example : prio "||e.com^$script,dnsrewrite=1.2.3.4" "||e.com^$script" = some (false, false) := by
  rw [show prio _ _ = prioBytes (lit _) (lit _) from rfl, lit_ofList, lit_ofList]
  decide +kernel

/-- A content type appended to a document-only rule: tie (`c07_text_content_type_doc_tie`). -/
example : prio "@@||e.com^$elemhide,script" "@@||e.com^$elemhide" = some (false, false) := by
  rw [show prio _ _ = prioBytes (lit _) (lit _) from rfl, lit_ofList, lit_ofList]
  decide +kernel

/-- … while the theorems' cases behave as proved: `,important`, `,third-party`, `,image`, `,domain=`, `,~script`
    on a document-only rule. -/
example : prio "||e.com^$script,important" "||e.com^$script" = some (true, false) := by
  rw [show prio _ _ = prioBytes (lit _) (lit _) from rfl, lit_ofList, lit_ofList]
  decide +kernel
example : prio "||e.com^$script,third-party" "||e.com^$script" = some (true, false) := by
  rw [show prio _ _ = prioBytes (lit _) (lit _) from rfl, lit_ofList, lit_ofList]
  decide +kernel
example : prio "||e.com^$script,image" "||e.com^$script" = some (true, false) := by
  rw [show prio _ _ = prioBytes (lit _) (lit _) from rfl, lit_ofList, lit_ofList]
  decide +kernel
example : prio "||e.com^$script,domain=a.com" "||e.com^$script" = some (true, false) := by
  rw [show prio _ _ = prioBytes (lit _) (lit _) from rfl, lit_ofList, lit_ofList]
  decide +kernel
example : prio "@@||e.com^$elemhide,~script" "@@||e.com^$elemhide" = some (true, false) := by
  rw [show prio _ _ = prioBytes (lit _) (lit _) from rfl, lit_ofList, lit_ofList]
  decide +kernel

/-- The hypotheses of the theorems are satisfiable: the texts are renderings of structured modifiers. -/
example : render false (lit "||e.com^") [.ctype false .script] = lit "||e.com^$script" ∧
    render false (lit "||e.com^") ([.ctype false .script] ++ [.opt .important]) = lit "||e.com^$script,important" ∧
    patOK (lit "||e.com^") = true := by
  rw [lit_ofList, lit_ofList, lit_ofList]
  decide +kernel

end UF.C07
