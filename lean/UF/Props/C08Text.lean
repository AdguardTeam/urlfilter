import UF.Compose5.C08Text
import UF.Props.C08Engine
import UF.Compose5.C08Order
import UF.Proofs.Lit
/-
  C08 at TEXT level: two rule texts that differ only by the `badfilter` modifier — at ANY
  position of the `,`-separated modifier list — are parsed to twins (`xb.matchFields = x.withBadfilter.matchFields`),
  both accepted or both rejected with the same error; hence they match the same requests, and adding the two
  LINES anywhere in the lists changes no verdict.

  Shape of the texts: `[@@] body $ m1,…,mk` with
    * modifiers `mi` non-empty, without `,`, `\` and `$` (no escaped commas — `$client='a\,b'`, `$replace=` —
      and no `$` inside a value; such lists are split differently by `splitWithEscapeCharacter` / `parseRuleText`);
    * `body` (the pattern) not ending in a backslash (`\$` is an escaped delimiter);
    * the text not of the `/regex/` shape (`hreg`; e.g. the pattern does not start with `/`, or the last modifier
      does not end with `/`).
  `c08_text_twin` is the general form with these three conditions replaced by what `parseRuleText` returns.
-/
namespace UF.C08
open UF UF.B UF.Storage UF.Compose UF.Compose3 UF.L UF.E Bytes

/-- GENERAL FORM.  If `parseRuleText` splits `t1` and `t2` into the same exception flag and pattern, and the
    modifier texts are `m1,…,mk` resp. the same list with `badfilter` inserted at any position, then
    `NewNetworkRule(t2)` is `NewNetworkRule(t1)` with the `$badfilter` bit set, the text `t2` and its own list id. -/
theorem c08_text_twin (px : ParseExt) (t1 t2 : Bytes) (i j : Int) (pat : Bytes) (wl : Bool) (os1 os2 : List Bytes)
    (hc : ∀ o ∈ os1 ++ os2, CleanOption o)
    (h1 : parseRuleText t1 = .ok (pat, joinSep (os1 ++ os2) [ch ','], wl))
    (h2 : parseRuleText t2 = .ok (pat, joinSep (os1 ++ lit "badfilter" :: os2) [ch ','], wl)) :
    (∀ x, parseNetRule px t1 i = .ok x →
      ∃ xb, parseNetRule px t2 j = .ok xb ∧ xb.matchFields = x.withBadfilter.matchFields ∧
        xb.text = t2 ∧ xb.listID = j ∧ xb.shortcut = x.shortcut ∧
        ∀ q, xb.matches px.ext q = x.matches px.ext q) ∧
    (∀ e, parseNetRule px t1 i = .error e → parseNetRule px t2 j = .error e) := by
  have h := parseNetRule_insert_badfilter px t1 t2 i j pat wl os1 os2 hc h1 h2
  constructor
  · intro x hx
    rw [hx] at h
    refine ⟨tw 8 t2 j x, h, rfl, rfl, rfl, rfl, fun q => ?_⟩
    exact L.twin_matches px.ext x _ q rfl rfl
  · intro e he
    rw [he] at h
    exact h

/-- TEXT FORM: `[@@] body $ m1,…,mk` (k ≥ 1) and the same text with `badfilter` at any position of the list. -/
theorem c08_text_twin_texts (px : ParseExt) (wl : Bool) (body : Bytes) (os1 os2 : List Bytes) (i j : Int)
    (hne : os1 ++ os2 ≠ [])
    (hc : ∀ o ∈ os1 ++ os2, CleanOption o ∧ ch '$' ∉ o)
    (hwl : wl = false → hasPrefix body (lit "@@") = false)
    (hb : body.getLast? ≠ some (ch '\\'))
    (hreg : ∀ opts, (hasPrefix (body ++ ch '$' :: opts) (lit "/") && hasSuffix (body ++ ch '$' :: opts) (lit "/") &&
      !hasSub (body ++ ch '$' :: opts) (lit "replace=")) = false)
    (t1 t2 : Bytes)
    (ht1 : t1 = (if wl then lit "@@" else []) ++ (body ++ ch '$' :: joinSep (os1 ++ os2) [ch ',']))
    (ht2 : t2 = (if wl then lit "@@" else []) ++ (body ++ ch '$' :: joinSep (os1 ++ lit "badfilter" :: os2) [ch ','])) :
    (∀ x, parseNetRule px t1 i = .ok x →
      ∃ xb, parseNetRule px t2 j = .ok xb ∧ xb.matchFields = x.withBadfilter.matchFields ∧
        xb.text = t2 ∧ xb.listID = j ∧ xb.shortcut = x.shortcut ∧
        ∀ q, xb.matches px.ext q = x.matches px.ext q) ∧
    (∀ e, parseNetRule px t1 i = .error e → parseNetRule px t2 j = .error e) := by
  subst ht1 ht2
  exact c08_text_twin px _ _ i j body wl os1 os2 (fun o ho => (hc o ho).1)
    (parseRuleText_texts wl body _ hne hc hwl hb hreg)
    (parseRuleText_texts wl body _ (by simp) (forall_mem_insert hc ⟨cleanOption_badfilter, by decide⟩) hwl hb hreg)

/-- C08 FROM RAW INPUTS with the pair given as two LINES whose (trimmed) texts differ only by `badfilter` at any
    position of the modifier list: no twin hypothesis left — `NewRule` accepts both lines as network rules, the
    first one is not itself a badfilter rule and is structurally distinct from every rule of the lists. -/
theorem c08_storage_texts (io io' : IO) (px : ParseExt) (lists lists1 lists' : List RList)
    (hok : StorageOK lists) (hok' : StorageOK lists')
    (st st' : RuleStorage) (hnew : newRuleStorage lists = some st) (hnew' : newRuleStorage lists' = some st')
    (h1 h2 h1' h2' : List (BitVec 64)) (tx tb : Bytes) (i j : Int) (x xb : NetRule)
    (hl1 : LineInserted tx i lists lists1) (hl2 : LineInserted tb j lists1 lists')
    (hpx : newRule (realRx px) tx i = .ok (some (.net x)))
    (hpb : newRule (realRx px) tb j = .ok (some (.net xb)))
    (pat : Bytes) (wl : Bool) (os1 os2 : List Bytes) (hc : ∀ o ∈ os1 ++ os2, CleanOption o)
    (ht1 : parseRuleText (trimSpace tx) = .ok (pat, joinSep (os1 ++ os2) [ch ','], wl))
    (ht2 : parseRuleText (trimSpace tb) = .ok (pat, joinSep (os1 ++ lit "badfilter" :: os2) [ch ','], wl))
    (hx : x.badfilter = false)
    (hdist : ∀ r ∈ netRulesOf (specRules px lists), r.matchFields ≠ x.matchFields) :
    (∀ url sourceURL reqType,
      classOf (getBasicResult (engineMatchRequest io' px lists' st' h1' h2' url sourceURL reqType)) =
        classOf (getBasicResult (engineMatchRequest io px lists st h1 h2 url sourceURL reqType))) ∧
    (∀ q, classOf (getBasicResult (engineMatch io' px lists' st' h1' h2' q)) =
        classOf (getBasicResult (engineMatch io px lists st h1 h2 q))) ∧
    (∀ old old' d, d.hostname ≠ [] →
      classOf (dnsEngineMatchRequest io' px lists' st' h1' old' d).networkRule =
        classOf (dnsEngineMatchRequest io px lists st h1 old d).networkRule) := by
  have hp1 : parseNetRule px (trimSpace tx) i = .ok x := newRule_net hpx
  have hp2 : parseNetRule px (trimSpace tb) j = .ok xb := newRule_net hpb
  obtain ⟨xb', hxb', hmf, _⟩ := (c08_text_twin px _ _ i j pat wl os1 os2 hc ht1 ht2).1 x hp1
  rw [hp2] at hxb'
  cases hxb'
  exact c08_storage_lines io io' px lists lists1 lists' hok hok' st st' hnew hnew' h1 h2 h1' h2' tx tb i j x xb
    hl1 hl2 hpx hpb hx hmf hdist

/-! ### Non-vacuity: `badfilter` at the front, in the middle and at the back -/

private def exPx : ParseExt :=
  { ext := { psl := fun _ => (lit "com", true), parseAddr := fun _ => none,
             parsePrefix := fun _ => none, pat := I2.modelPatD },
    loadDNSRewrite := fun _ => none, regexpShortcut := fun _ => [] }

/-- The hypotheses of `c08_text_twin_texts` for `@@||e.com^$important,domain=a.com|b.com,image`. -/
example :
    (∀ o ∈ [lit "important", lit "domain=a.com|b.com"] ++ [lit "image"], CleanOption o ∧ ch '$' ∉ o) ∧
    (lit "||e.com^").getLast? ≠ some (ch '\\') ∧
    (∀ opts, (hasPrefix (lit "||e.com^" ++ ch '$' :: opts) (lit "/") &&
      hasSuffix (lit "||e.com^" ++ ch '$' :: opts) (lit "/") &&
      !hasSub (lit "||e.com^" ++ ch '$' :: opts) (lit "replace=")) = false) := by
  refine ⟨?_, by decide +kernel, fun opts => rfl⟩
  simp only [CleanOption, CleanItem]
  decide +kernel

/-- The three positions through the model parser: every `badfilter` variant negates the base rule, and the
    parsed rules agree on every matching field. -/
example :
    negatesText exPx (lit "@@||e.com^$badfilter,important,domain=a.com|b.com,image")
      (lit "@@||e.com^$important,domain=a.com|b.com,image") = some true ∧
    negatesText exPx (lit "@@||e.com^$important,domain=a.com|b.com,badfilter,image")
      (lit "@@||e.com^$important,domain=a.com|b.com,image") = some true ∧
    negatesText exPx (lit "@@||e.com^$important,domain=a.com|b.com,image,badfilter")
      (lit "@@||e.com^$important,domain=a.com|b.com,image") = some true := by
  rw [lit_ofList, lit_ofList, lit_ofList, lit_ofList]
  decide +kernel

end UF.C08
