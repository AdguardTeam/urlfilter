import UF.Spec.Result
import UF.Proofs.Badfilter
import UF.Proofs.DnsRewrite
import UF.Proofs.BadfilterExamples
/-
  C08 — `$badfilter` disables exactly its twin rules, however many are present.
  The verdict-level corollaries (`c08_rewrites_*`, `c08_verdict_*`) use the models of DNSRewrites,
  NewMatchingResult and GetDNSBasicRule, all of which start with `removeBadfilterRules`.
-/
namespace UF.C08
open UF

/-- `removeBadfilterRules` (any number of badfilter rules) keeps exactly the rules that are not
    badfilter rules and are negated by no badfilter rule of the list — in order, with multiplicity. -/
theorem removeBad_eq (rs : List NetRule) :
    removeBadfilterRules rs =
      rs.filter (fun r => !r.badfilter && !rs.any (fun b => b.badfilter && negatesBadfilter b r)) :=
  removeBadfilterRules_eq_spec rs

/-- The survivors are a subsequence of the input (order and multiplicity preserved). -/
theorem c08_sublist (rs : List NetRule) : (removeBadfilterRules rs).Sublist rs := by
  rw [removeBad_eq]; exact List.filter_sublist

/-- Badfilter rules themselves never survive. -/
theorem c08_no_badfilter (rs : List NetRule) (r : NetRule) (h : r ∈ removeBadfilterRules rs) :
    r.badfilter = false := by
  rw [removeBad_eq, List.mem_filter] at h
  have := h.2
  simp only [Bool.and_eq_true, Bool.not_eq_true'] at this
  exact this.1

/-- `negatesBadfilter b r` holds iff `b` carries `$badfilter` and `b` with that bit flipped equals
    `r` on every matching-relevant field (everything except text, list id, shortcut). -/
theorem negates_iff (b r : NetRule) :
    negatesBadfilter b r = true ↔ b.badfilter = true ∧ b.flipBadfilter.matchFields = r.matchFields := by
  rw [negatesBadfilter_eq_isTwin]; simp [isTwin]

/-- … field by field: exception flag, pattern, domains (both lists), denyallow, DNS types (both),
    ctags (both), clients (both), enabled options (modulo the badfilter bit), disabled options,
    both content-type masks, and the `$dnsrewrite` value. -/
theorem negates_fields (b r : NetRule) :
    negatesBadfilter b r = true ↔ b.badfilter = true ∧
      b.whitelist = r.whitelist ∧ b.pattern = r.pattern ∧ b.permDomains = r.permDomains ∧
      b.restrDomains = r.restrDomains ∧ b.denyallow = r.denyallow ∧ b.permDns = r.permDns ∧
      b.restrDns = r.restrDns ∧ b.permTags = r.permTags ∧ b.restrTags = r.restrTags ∧
      b.permClients = r.permClients ∧ b.restrClients = r.restrClients ∧
      (b.enabled ^^^ Facts.OptionBadfilter) = r.enabled ∧
      b.disabled = r.disabled ∧ b.permTypes = r.permTypes ∧ b.restrTypes = r.restrTypes ∧
      b.rewrite = r.rewrite := by
  rw [negates_iff, matchFields_eq_iff]; rfl

/-- A rule and its twin: `x$badfilter` (whatever its text) negates `x`. -/
theorem c08_twin_negates (x xb : NetRule) (hx : x.badfilter = false)
    (hxb : xb.matchFields = x.withBadfilter.matchFields) : negatesBadfilter xb x = true := by
  rw [negates_iff]
  constructor
  · rw [badfilter_congr xb _ hxb]; exact withBadfilter_badfilter x
  · rw [flip_matchFields_congr xb _ hxb, flip_withBadfilter x hx]

/-- A rule `y` differing from `x` in at least one matching-relevant field is not negated by
    `x$badfilter`. -/
theorem c08_other (x xb y : NetRule) (hx : x.badfilter = false)
    (hxb : xb.matchFields = x.withBadfilter.matchFields) (hy : y.matchFields ≠ x.matchFields) :
    negatesBadfilter xb y = false := by
  apply Bool.eq_false_iff.mpr
  intro h
  rw [negates_iff] at h
  rw [flip_matchFields_congr xb _ hxb, flip_withBadfilter x hx] at h
  exact hy h.2.symm

/-- … hence `y` stays effective in any list in which no badfilter rule is its twin. -/
theorem c08_other_effective (L : List NetRule) (y : NetRule) (hy : y ∈ L) (hyb : y.badfilter = false)
    (hno : ∀ b ∈ L, b.badfilter = true → b.flipBadfilter.matchFields ≠ y.matchFields) :
    y ∈ removeBadfilterRules L := by
  rw [removeBad_eq, List.mem_filter]
  refine ⟨hy, ?_⟩
  have : L.any (fun b => b.badfilter && negatesBadfilter b y) = false := by
    apply List.any_eq_false.mpr
    intro b hb
    cases hbb : b.badfilter with
    | false => simp
    | true =>
      have : negatesBadfilter b y = false := by
        apply Bool.eq_false_iff.mpr
        intro h
        exact hno b hb hbb ((negates_iff b y).mp h).2
      simp [this]
  simp [hyb, this]

/-- Conversely a rule with a twin in the list never survives. -/
theorem c08_twin_removed (L : List NetRule) (x xb : NetRule) (hb : xb ∈ L)
    (htw : negatesBadfilter xb x = true) : x ∉ removeBadfilterRules L := by
  rw [removeBad_eq, List.mem_filter]
  intro ⟨_, h⟩
  have hbb := negatesBadfilter_badfilter xb x htw
  have : L.any (fun b => b.badfilter && negatesBadfilter b x) = true :=
    List.any_eq_true.mpr ⟨xb, hb, by simp [hbb, htw]⟩
  simp [this] at h

/-- Adding a rule `x` (not a badfilter rule, structurally distinct from every rule of
    `L = l1 ++ l2 ++ l3`) together with its twin `x$badfilter` at ARBITRARY positions — in either
    order — leaves the filtered list unchanged. -/
theorem c08_twin (l1 l2 l3 : List NetRule) (x xb : NetRule) (hx : x.badfilter = false)
    (hxb : xb.matchFields = x.withBadfilter.matchFields)
    (hdist : ∀ r ∈ l1 ++ l2 ++ l3, r.matchFields ≠ x.matchFields) :
    removeBadfilterRules (l1 ++ x :: l2 ++ xb :: l3) = removeBadfilterRules (l1 ++ l2 ++ l3) ∧
    removeBadfilterRules (l1 ++ xb :: l2 ++ x :: l3) = removeBadfilterRules (l1 ++ l2 ++ l3) := by
  have htw := c08_twin_negates x xb hx hxb
  have hd : ∀ r ∈ l1 ++ l2 ++ l3, negatesBadfilter xb r = false :=
    fun r hr => c08_other x xb r hx hxb (hdist r hr)
  simp only [removeBadfilterRules_eq_spec]
  exact specRemoveBad_twin l1 l2 l3 x xb hx htw hd

/-- Any number of extra rules with their twins, any interleaving: `E` marks the extra elements of
    `L'`; if every extra element is a badfilter rule or has a badfilter twin in `L'`, and no extra
    badfilter rule is the twin of a base rule, then filtering `L'` gives the same as filtering the
    base list `L'.filter (¬E)`. -/
theorem c08_twins (L' : List NetRule) (E : NetRule → Bool)
    (H1 : ∀ e ∈ L', E e = true → e.badfilter = true ∨ ∃ b ∈ L', negatesBadfilter b e = true)
    (H2 : ∀ e ∈ L', E e = true → e.badfilter = true → ∀ r ∈ L', E r = false → negatesBadfilter e r = false) :
    removeBadfilterRules L' = removeBadfilterRules (L'.filter (fun r => !E r)) := by
  simp only [removeBadfilterRules_eq_spec]
  apply specRemoveBad_extras L' E _ H2
  intro e he hE
  rcases H1 e he hE with h | ⟨b, hb, hn⟩
  · exact Or.inl h
  · exact Or.inr ⟨b, hb, negatesBadfilter_badfilter b e hn, hn⟩

/-! #### effective DNS rewrites (D14: `DNSRewrites` applies `$badfilter` first) -/

/-- A badfilter rule can only negate rules with the same `$dnsrewrite`, so filtering the rewrite
    subset (what `DNSRewrites` does) equals filtering the whole list and keeping the rewrites. -/
theorem c08_rewrites_comm (all : List NetRule) :
    removeBadfilterRules (dnsRewritesAll all) = (removeBadfilterRules all).filter (·.rewrite.isSome) := by
  rw [dnsRewritesAll_eq, removeBadfilterRules_eq_spec, removeBadfilterRules_eq_spec, specRemoveBad_rewrites_comm]

/-- The effective rewrites are computed from the badfilter-filtered list only. -/
theorem c08_rewrites_filtered (res : List NetRule) :
    dnsRewrites res = some (specRewritesCore ((removeBadfilterRules res).filter (·.rewrite.isSome))) := by
  rw [dnsRewrites_eq_spec, specRewrites, ← removeBadfilterRules_eq_spec, c08_rewrites_comm]

/-- No badfilter rule is ever returned as an effective rewrite. -/
theorem c08_rewrites_no_badfilter (res out : List NetRule) (h : dnsRewrites res = some out) (r : NetRule)
    (hr : r ∈ out) : r.badfilter = false := by
  rw [c08_rewrites_filtered] at h
  rw [← Option.some.inj h, specRewritesCore] at hr
  have := (List.mem_filter.mp (List.mem_filter.mp hr).1).1
  exact c08_no_badfilter res r this

/-- `DNSRewrites(L + {x, x$badfilter}) = DNSRewrites(L)` for a twin pair at arbitrary positions, in
    either order (`x` any rule, with or without `$dnsrewrite`, distinct from every rule of `L`). -/
theorem c08_rewrites_twin (l1 l2 l3 : List NetRule) (x xb : NetRule) (hx : x.badfilter = false)
    (hxb : xb.matchFields = x.withBadfilter.matchFields)
    (hdist : ∀ r ∈ l1 ++ l2 ++ l3, r.matchFields ≠ x.matchFields) :
    dnsRewrites (l1 ++ x :: l2 ++ xb :: l3) = dnsRewrites (l1 ++ l2 ++ l3) ∧
    dnsRewrites (l1 ++ xb :: l2 ++ x :: l3) = dnsRewrites (l1 ++ l2 ++ l3) := by
  have := c08_twin l1 l2 l3 x xb hx hxb hdist
  simp only [c08_rewrites_filtered, this.1, this.2, and_self]

/-! #### verdicts (the models of NewMatchingResult and GetDNSBasicRule start with the filter) -/

/-- Lists with the same filtered rules give the same web result (all fields, hence the verdict). -/
theorem c08_verdict_web (rules rules' src src' : List NetRule)
    (h : removeBadfilterRules rules' = removeBadfilterRules rules)
    (hs : removeBadfilterRules src' = removeBadfilterRules src) :
    newMatchingResult rules' src' = newMatchingResult rules src := by
  unfold newMatchingResult; rw [h, hs]

theorem c08_verdict_dns (rules rules' : List NetRule)
    (h : removeBadfilterRules rules' = removeBadfilterRules rules) :
    getDNSBasicRule rules' = getDNSBasicRule rules := by
  unfold getDNSBasicRule; rw [h]

/-- verdict(L + {x, x$badfilter}) = verdict(L): a twin pair added at arbitrary positions (either
    order) to the rules matching the request changes neither the web result nor the DNS basic
    rule; the same for a pair added to the rules matching the referrer. -/
theorem c08_verdict_twin (l1 l2 l3 other : List NetRule) (x xb : NetRule) (hx : x.badfilter = false)
    (hxb : xb.matchFields = x.withBadfilter.matchFields)
    (hdist : ∀ r ∈ l1 ++ l2 ++ l3, r.matchFields ≠ x.matchFields) :
    newMatchingResult (l1 ++ x :: l2 ++ xb :: l3) other = newMatchingResult (l1 ++ l2 ++ l3) other ∧
    newMatchingResult (l1 ++ xb :: l2 ++ x :: l3) other = newMatchingResult (l1 ++ l2 ++ l3) other ∧
    newMatchingResult other (l1 ++ x :: l2 ++ xb :: l3) = newMatchingResult other (l1 ++ l2 ++ l3) ∧
    newMatchingResult other (l1 ++ xb :: l2 ++ x :: l3) = newMatchingResult other (l1 ++ l2 ++ l3) ∧
    getDNSBasicRule (l1 ++ x :: l2 ++ xb :: l3) = getDNSBasicRule (l1 ++ l2 ++ l3) ∧
    getDNSBasicRule (l1 ++ xb :: l2 ++ x :: l3) = getDNSBasicRule (l1 ++ l2 ++ l3) := by
  have := c08_twin l1 l2 l3 x xb hx hxb hdist
  exact ⟨c08_verdict_web _ _ _ _ this.1 rfl, c08_verdict_web _ _ _ _ this.2 rfl,
    c08_verdict_web _ _ _ _ rfl this.1, c08_verdict_web _ _ _ _ rfl this.2,
    c08_verdict_dns _ _ this.1, c08_verdict_dns _ _ this.2⟩

/-! #### generated-fact obligation (go/ast over the current rules/network.go) -/


/-- As long as `negatesBadfilter` compares struct fields directly, it reads EVERY matching-relevant
    field of `NetworkRule` from BOTH operands (a field added to the struct and forgotten here — the
    history of `$denyallow`, `$dnstype`, `$dnsrewrite` — breaks this obligation). -/
theorem c08_fact_all_fields_compared :
    Facts.negatesBadfilterReadsR.any (fun x => Facts.networkRuleFields.contains x) = true →
    (Facts.networkRuleFields.filter (fun x => !nonMatchingFields.contains x)).all
      (fun x => Facts.negatesBadfilterReadsF.contains x && Facts.negatesBadfilterReadsR.contains x) = true := by
  decide +kernel

/-! #### non-vacuity and the old shape (D7) -/


/-- The hypotheses of `c08_twin` are satisfiable: `exRImg` is distinct from the base rule `exR`. -/
example : exRImg.badfilter = false ∧ exRImgBad.matchFields = exRImg.withBadfilter.matchFields ∧
    (∀ r ∈ [exR] ++ [] ++ [], r.matchFields ≠ exRImg.matchFields) ∧
    removeBadfilterRules ([exR] ++ exRImg :: [] ++ exRImgBad :: []) = [exR] := by decide +kernel

/-- Repaired code on the D7 replay input `[r, r$badfilter, r$image, r$image,badfilter]`: nothing
    survives; and `$denyallow=b.com,badfilter` does not negate `$denyallow=a.com`. -/
example : removeBadfilterRules [exR, exRBad, exRImg, exRImgBad] = [] ∧
    negatesBadfilter exDenyBBad exDenyA = false := by decide +kernel

/-- The pinned tree's shape (D7) on the same input: each badfilter rule re-adds the rule disabled by
    the other, and the unrelated `$denyallow` rule is negated. -/
example : removeBadfilterRulesOld [exR, exRBad, exRImg, exRImgBad] = [exRImg, exR] ∧
    negatesBadfilterOld exDenyBBad exDenyA = true := by decide +kernel

end UF.C08
