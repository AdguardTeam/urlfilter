import UF.Compose.Scan
import UF.Props.C11
import UF.Props.C12
import UF.Proofs.Lit
/-
  C11 with the real parser model: the parser parameter of `c11` is the model of `rules.NewRule` over the
  modelled `strings.TrimSpace` and `NewHostRule` (`Compose.realParser px`), for which `TrimsFirst` is
  proved; the oracles in `px` stay parameters.  `storageRules px lists` is what the storage scanner yields
  from the bytes of the lists (String- or File-backed), `retrieveFull` is `RuleStorage.RetrieveRule`
  (cache included) returning the rule object.
-/
namespace UF.C11
open UF UF.Storage UF.Compose

/-- The assumption of `c11` about the parser holds for the modelled `NewRule`. -/
theorem c11_trimsFirst_real (px : E.ParseExt) : TrimsFirst (realParser px) := realParser_trimsFirst px

/-- The storage model's scan with the real parser is the projection (kind, text, list id) of the scan that
    keeps the rule objects. -/
theorem c11_scan_real (px : E.ParseExt) (lists : List RList) :
    storageScan (realParser px) lists = (storageRules px lists).map fun p => (toS p.1, p.2) :=
  storageScan_real px lists

/-- C11 with the real parser: every rule produced by scanning the real contents of the lists with the
    modelled `NewRule` is retrieved again — the same rule object: kind, text, list id and every parsed
    field — through the index reported with it, from String- and File-backed lists alike, for every
    chunking of the file reads, after ANY history of earlier retrievals (any reachable cache state). -/
theorem c11_real (io : IO) (px : E.ParseExt) (lists : List RList) (hok : ListsOK lists)
    (st : RuleStorage) (hnew : newRuleStorage lists = some st) (history : List (BitVec 64))
    (r : Rule) (k : BitVec 64) (h : (r, k) ∈ storageRules px lists) :
    (retrieveFull io px (reach io px st history) k).1 = some r :=
  retrieveFull_scanned io px lists hok st hnew history h

/-- `c11_real` with the model of the `$dnsrewrite` value parser plugged in as well: the only parameters
    left are the external oracles `ext` (public suffix list, `netip`, pattern oracle) and `findRegexpShortcut`
    (any function `Bytes → Bytes`). -/
theorem c11_real_modelled (io : IO) (ext : Ext) (regexpShortcut : Bytes → Bytes) (lists : List RList)
    (hok : ListsOK lists) (st : RuleStorage) (hnew : newRuleStorage lists = some st) (history : List (BitVec 64))
    (r : Rule) (k : BitVec 64) (h : (r, k) ∈ storageRules (modelPx ext regexpShortcut) lists) :
    (retrieveFull io (modelPx ext regexpShortcut) (reach io (modelPx ext regexpShortcut) st history) k).1 = some r :=
  c11_real io (modelPx ext regexpShortcut) lists hok st hnew history r k h

/-- The same in the storage model's terms (kind, text, list id), any cache that is a cache of these lists. -/
theorem c11_real_srule (io : IO) (px : E.ParseExt) (st : RuleStorage) (hok : ListsOK st.lists)
    (hinv : CacheInv io (realParser px) st) (r : Rule) (k : BitVec 64) (h : (r, k) ∈ storageRules px st.lists) :
    (retrieveRule io (realParser px) st k).1 = .rule (toS r) :=
  c11 io (realParser px) (realParser_trimsFirst px) st hok hinv (toS r) k
    (by rw [storageScan_real]; exact List.mem_map.2 ⟨(r, k), h, rfl⟩)

/-- The cache is invisible: in every reachable state, retrieval of ANY index (scanned or garbage) returns
    what the lists themselves answer; so a pure function `retrieve` represents the stateful storage. -/
theorem c11_real_cache_invisible (io : IO) (px : E.ParseExt) (lists : List RList)
    (st : RuleStorage) (hnew : newRuleStorage lists = some st) (history : List (BitVec 64)) (k : BitVec 64) :
    (retrieveFull io px (reach io px st history) k).1 = lookupFull io px lists k := by
  obtain ⟨h1, h2⟩ := reach_inv io px lists st hnew history
  rw [retrieveFull_eq_lookup io px _ h1 k, h2]

/-- Every yielded rule is `NewRule(line, id)` of a line of its list, its text is the trimmed line, and the
    index is (list id, byte offset of the line). -/
theorem c11_real_lines (px : E.ParseExt) (lists : List RList) (r : Rule) (k : BitVec 64)
    (h : (r, k) ∈ storageRules px lists) :
    ∃ l ∈ lists, ∃ idx line, (idx, line) ∈ scanLines l.content ∧
      E.newRule (realRx px) line l.id = .ok (some r) ∧ r.text = trimSpace line ∧ r.listID = l.id ∧
      k = pack (BitVec.ofInt 32 l.id) (BitVec.ofNat 32 idx) := by
  obtain ⟨l, hl, idx, line, h1, h2, _, h4⟩ := storageRules_line h
  exact ⟨l, hl, idx, line, h1, h2, (realRx_text h2).1, (realRx_text h2).2, h4⟩

/-- The index identifies the rule. -/
theorem c11_real_index_inj (px : E.ParseExt) (lists : List RList) (hok : ListsOK lists)
    (r1 r2 : Rule) (k : BitVec 64) (h1 : (r1, k) ∈ storageRules px lists) (h2 : (r2, k) ∈ storageRules px lists) :
    r1 = r2 := by
  have hst : newRuleStorage lists = some ⟨lists, []⟩ := by
    unfold newRuleStorage; rw [hok.distinct]; rfl
  have a := c11_real ⟨0, fun _ => 0⟩ px lists hok _ hst [] r1 k h1
  have b := c11_real ⟨0, fun _ => 0⟩ px lists hok _ hst [] r2 k h2
  rw [a] at b
  exact Option.some.inj b

/-- The scan with the real parser equals parsing the contents line by line (`specStorageScan`). -/
theorem c11_real_ref (px : E.ParseExt) (lists : List RList) :
    storageScan (realParser px) lists =
      (specStorageScan (realParser px) lists).map fun (r, id, off) =>
        (r, pack (BitVec.ofInt 32 id) (BitVec.ofNat 32 off)) :=
  c11_ref (realParser px) (realParser_trimsFirst px) lists

/-- String- and File-backed lists with the same contents yield the same rules. -/
theorem c11_real_backing (px : E.ParseExt) (lists : List RList) (flags flags' : RList → Bool) :
    storageRules px (lists.map fun l => { l with file := flags l }) =
      storageRules px (lists.map fun l => { l with file := flags' l }) := by
  unfold storageRules storageRulesX
  simp only [List.flatMap_map]
  rfl

/-- `c12_inert_crlf` assumes `trim (l ++ [13]) = trim l`; with the modelled
    `TrimSpace` this holds (`trimSpace_crnl`/`trimSpace_nl` are the same lemma for the scanner's lines), so:
    switching a list to CRLF endings changes nothing in the sequence of accepted rules. -/
theorem c11_crlf_inert (px : E.ParseExt) (id : Int) (lines : List Bytes) :
    E.scanAccepted (realRx px) id (lines.map (· ++ [13])) = E.scanAccepted (realRx px) id lines :=
  C12.c12_inert_crlf (realRx px) id lines trimSpace_cr

/-- The three outcomes of a line for the real parser, with no assumption left. -/
theorem c11_real_outcomes (px : E.ParseExt) (line : Bytes) (id : Int) :
    E.newRule (realRx px) line id = .ok none ∨
    (∃ r, E.newRule (realRx px) line id = .ok (some r) ∧ r.text = trimSpace line ∧ r.listID = id) ∨
    E.newRule (realRx px) line id = .error .err :=
  C12.c12_outcomes (realRx px) line id (hostRuleH_keeps px.ext)

/-! ### Non-vacuity: a concrete storage (two lists, CRLF, a comment, a hosts line, a cosmetic rule, an
    invalid rule; one File-backed) scanned with the real parser model and the retrieval of one index. -/

private def exPx : E.ParseExt :=
  { ext := { psl := fun _ => ([], false), parseAddr := fun s => if s == lit "0.0.0.0" then some ⟨true, 0, []⟩ else none,
             parsePrefix := fun _ => none, pat := fun _ _ _ => true },
    loadDNSRewrite := fun _ => none, regexpShortcut := fun _ => [] }

private def exLists : List RList :=
  [⟨1, false, lit "||a.org^\r\n! c\n0.0.0.0 b.org\n", false⟩, ⟨-2, true, lit "##x\n||$$\n/ad$domain=c.org", true⟩]

example : ListsOK exLists :=
  ⟨by decide +kernel, by decide +kernel, by unfold exLists; rw [lit_ofList, lit_ofList]; decide +kernel⟩

example : (storageRules exPx exLists).map (fun p => (kindOf p.1, p.1.text, p.1.listID, p.2.toInt)) =
    [(.network, lit "||a.org^", 1, 4294967296), (.host, lit "0.0.0.0 b.org", 1, 4294967310),
     (.network, lit "/ad$domain=c.org", -2, -8589934583)] := by
  unfold exLists
  rw [lit_ofList, lit_ofList, lit_ofList, lit_ofList, lit_ofList]
  decide +kernel

end UF.C11
