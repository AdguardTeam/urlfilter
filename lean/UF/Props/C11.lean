import UF.Proofs.StorageMain
import UF.Proofs.StorageRef
import UF.Proofs.StorageDemo
/-
  C11 -- every scanned rule can be retrieved by its index from any backing store.

  Model: UF/Model/Storage.lean (+ TrimSpace.lean); reference: UF/Spec/Storage.lean.
  `rules.NewRule` is a parameter `parse`; the only assumption is `TrimsFirst parse`.
  `ListsOK lists`: distinct ids that fit int32, contents shorter than 2^31 bytes (the property's own
  quantifier).  `CacheInv`: every cache entry is what the lists answer (true of a new storage and
  kept by every `RetrieveRule`, see `c11_cache`).
-/
namespace UF.Storage

/-- `storageIdxToRuleListIdx (ruleListIdxToStorageIdx id idx) = (id, idx)` for ALL int32 pairs. -/
theorem pack_unpack (id idx : BitVec 32) : unpack (pack id idx) = (id, idx) := unpack_pack id idx

/-- The storage index is injective over (list id, offset). -/
theorem pack_inj (a b c d : BitVec 32) (h : pack a b = pack c d) : a = c ∧ b = d := pack_injective h

/-- In terms of Go `int`s: an id that fits int32 and an offset below 2^31 come back unchanged. -/
theorem pack_unpack_int (id : Int) (off : Nat) (h1 : -2147483648 ≤ id) (h2 : id < 2147483648) (h3 : off < 2147483648) :
    ((unpack (pack (BitVec.ofInt 32 id) (BitVec.ofNat 32 off))).1.toInt,
     (unpack (pack (BitVec.ofInt 32 id) (BitVec.ofNat 32 off))).2.toInt) = (id, (off : Int)) := by
  rw [unpack_pack, toInt_ofInt32 h1 h2, toInt_ofNat32 h3]

/-- The Go-shaped `strings.TrimSpace` (ASCII fast path with two fall-backs) is "trim left, then
    trim right". -/
theorem trimSpace_fast_path (s : Bytes) : trimSpace s = trimSpaceRef s := trimSpace_eq_ref s

/-- The scanner's line (with its newline) and the retriever's slice (without) trim to the same text. -/
theorem trimSpace_nl (l : Bytes) : trimSpace (l ++ [0x0A]) = trimSpace l := trimSpace_nl' l

theorem trimSpace_crnl (l : Bytes) : trimSpace (l ++ [0x0D, 0x0A]) = trimSpace l := trimSpace_crnl' l

/-- Offsets: a scanned `(idx, line)` lies inside the content, and the slice
    `StringRuleList.RetrieveRule` takes at `idx` (up to the next newline) trims to the same text. -/
theorem scan_retrieve_string (content : Bytes) (idx : Nat) (line : Bytes) (h : (idx, line) ∈ scanLines content) :
    idx < content.length ∧ trimSpace (untilNL (content.drop idx)) = trimSpace line := by
  obtain ⟨h1, h2⟩ := scanLines_mem h
  exact ⟨h1, by rw [h2, trimSpace_takeLine]⟩

/-- `StringRuleList.RetrieveRule` never panics (both slice expressions stay in bounds), at any index. -/
theorem retrieveString_no_panic (parse : Parser) (id : Int) (content : Bytes) (idx : Int) :
    retrieveString parse id content idx ≠ .panic := by
  by_cases h : idx < 0 ∨ idx ≥ content.length
  · rw [retrieveString_oob _ _ _ _ h]; simp
  · obtain ⟨i, rfl⟩ : ∃ i : Nat, idx = (i : Int) := ⟨idx.toNat, by omega⟩
    rw [retrieveString_eq _ _ _ _ (by omega)]
    simp only
    split
    · simp
    · cases parse (trimSpace (untilNL (List.drop i content))) id <;> simp [ofParse]

/-- Seek + block reads = slicing the string: for every buffer size, every chunking of the reads and
    every index (negative, inside, beyond the end). -/
theorem retrieveFile_eq_string (bufSize : Nat) (chunk : Nat → Nat) (parse : Parser) (id : Int) (content : Bytes)
    (idx : Int) : retrieveFile bufSize chunk parse id content idx = retrieveString parse id content idx :=
  retrieveFile_eq_retrieveString bufSize chunk parse id content idx

/-- C11, main statement: every rule the storage scanner yields is retrieved again through the index
    reported with it -- same kind, text and list id -- from String- and File-backed lists alike,
    whatever the cache holds (as long as it is a cache of these lists). -/
theorem c11 (io : IO) (parse : Parser) (hp : TrimsFirst parse) (st : RuleStorage) (hok : ListsOK st.lists)
    (hinv : CacheInv io parse st) (r : SRule) (k : BitVec 64) (h : (r, k) ∈ storageScan parse st.lists) :
    (retrieveRule io parse st k).1 = .rule r := by
  have hl := lookupRule_of_scan io hp hok h
  obtain ⟨_, _, h3⟩ := retrieveRule_spec io parse st k hinv
  rcases h3 with h3 | ⟨_, h3⟩
  · rw [h3, hl]
  · rw [hl] at h3; cases h3

/-- The cache: a new storage satisfies the invariant, and every `RetrieveRule` call -- of ANY index,
    scanned or garbage -- keeps it and leaves the lists alone.  So `c11` applies after every history. -/
theorem c11_cache (io : IO) (parse : Parser) :
    (∀ lists st, newRuleStorage lists = some st → CacheInv io parse st ∧ st.lists = lists) ∧
    (∀ st k, CacheInv io parse st →
      CacheInv io parse (retrieveRule io parse st k).2 ∧ (retrieveRule io parse st k).2.lists = st.lists) := by
  refine ⟨fun lists st h => cacheInv_new io parse h, fun st k hinv => ?_⟩
  obtain ⟨h1, h2, _⟩ := retrieveRule_spec io parse st k hinv
  exact ⟨h1, h2⟩

/-- After any history of retrievals on a new storage, a scanned index still answers with its rule. -/
theorem c11_history (io : IO) (parse : Parser) (hp : TrimsFirst parse) (lists : List RList) (hok : ListsOK lists)
    (st : RuleStorage) (hnew : newRuleStorage lists = some st) (history : List (BitVec 64))
    (r : SRule) (k : BitVec 64) (h : (r, k) ∈ storageScan parse lists) :
    (retrieveRule io parse (history.foldl (fun s j => (retrieveRule io parse s j).2) st) k).1 = .rule r := by
  obtain ⟨hinv, hl⟩ := cacheInv_new io parse hnew
  have key : ∀ (hs : List (BitVec 64)) (s : RuleStorage), CacheInv io parse s → s.lists = lists →
      CacheInv io parse (hs.foldl (fun s j => (retrieveRule io parse s j).2) s) ∧
      (hs.foldl (fun s j => (retrieveRule io parse s j).2) s).lists = lists := by
    intro hs
    induction hs with
    | nil => intro s h1 h2; exact ⟨h1, h2⟩
    | cons j js ih =>
      intro s h1 h2
      obtain ⟨g1, g2, _⟩ := retrieveRule_spec io parse s j h1
      exact ih _ g1 (g2.trans h2)
  obtain ⟨k1, k2⟩ := key history st hinv hl
  exact c11 io parse hp _ (by rw [k2]; exact hok) k1 r k (by rw [k2]; exact h)

/-- The index identifies the rule: two scanned entries with the same index are the same rule. -/
theorem c11_index_inj (parse : Parser) (hp : TrimsFirst parse) (lists : List RList) (hok : ListsOK lists)
    (r1 r2 : SRule) (k : BitVec 64) (h1 : (r1, k) ∈ storageScan parse lists) (h2 : (r2, k) ∈ storageScan parse lists) :
    r1 = r2 := by
  have a := lookupRule_of_scan ⟨0, fun _ => 0⟩ hp hok h1
  have b := lookupRule_of_scan ⟨0, fun _ => 0⟩ hp hok h2
  rw [a] at b
  cases b
  rfl

/-- The scanned sequence equals parsing the content line by line (reference: split at newlines,
    offsets = bytes before the line), list by list. -/
theorem c11_ref (parse : Parser) (hp : TrimsFirst parse) (lists : List RList) :
    storageScan parse lists =
      (specStorageScan parse lists).map fun (r, id, off) => (r, pack (BitVec.ofInt 32 id) (BitVec.ofNat 32 off)) := by
  unfold storageScan specStorageScan
  rw [List.map_flatMap]
  congr 1
  funext l
  rw [← scanList_eq_spec hp, List.map_map]
  apply List.map_congr_left
  intro ⟨r, idx⟩ hm
  obtain ⟨_, _, _, hid, _⟩ := scanList_mem hm
  simp only [Function.comp, hid]

/-- One list: the scanner is the reference scan. -/
theorem c11_ref_list (parse : Parser) (hp : TrimsFirst parse) (id : Int) (ign : Bool) (content : Bytes) :
    scanList parse id ign content = specScanList parse id ign content := scanList_eq_spec hp id ign content

/-- An in-memory list and a file-backed list with the same content are indistinguishable: the scan
    does not look at the backing, and retrieval agrees at every index for every chunking. -/
theorem c11_backing (io : IO) (parse : Parser) (lists : List RList) (flags flags' : RList → Bool) :
    let a := lists.map fun l => { l with file := flags l }
    let b := lists.map fun l => { l with file := flags' l }
    storageScan parse a = storageScan parse b ∧ ∀ k, lookupRule io parse a k = lookupRule io parse b k := by
  simp only
  constructor
  · unfold storageScan
    simp only [List.flatMap_map]
  · intro k
    unfold lookupRule
    rw [findList_map_file, findList_map_file]
    cases findList lists (unpack k).1.toInt with
    | none => rfl
    | some l => exact retrieve_file_irrel io parse l _ _ _

/-- `strings.TrimSpace` is idempotent: a rule text (a trimmed line) is a fixed point, which is what makes
    the parser assumption `TrimsFirst` coherent. -/
theorem trimSpace_idempotent (s : Bytes) : trimSpace (trimSpace s) = trimSpace s := trimSpace_idem s

/-- Duplicate ids: `NewRuleStorage` succeeds exactly when the ids are pairwise distinct ... -/
theorem c11_dup_ok (lists : List RList) (st : RuleStorage) (h : newRuleStorage lists = some st) :
    lists.Pairwise (fun a b => a.id ≠ b.id) ∧ st.lists = lists ∧ st.cache = [] := by
  unfold newRuleStorage at h
  split at h
  · cases h
  · rename_i hd
    simp only [Option.some.injEq] at h
    subst h
    exact ⟨(hasDupIds_eq_false_iff.mp (by simpa using hd)).2, rfl, rfl⟩

/-- ... and fails only when two lists share an id. -/
theorem c11_dup_err (lists : List RList) (h : newRuleStorage lists = none) :
    ¬ lists.Pairwise (fun a b => a.id ≠ b.id) := by
  unfold newRuleStorage at h
  split at h
  · rename_i hd
    intro hp
    rw [hasDupIds_eq_false_iff.mpr ⟨by simp, hp⟩] at hd
    cases hd
  · cases h

/-! ### Non-vacuity: the hypotheses are satisfiable by a concrete, non-trivial instance
    (`demoParser`, `demoLists` in UF/Proofs/StorageDemo.lean: ids min/max int32, CRLF, padding, a
    comment, an invalid rule, no final newline, String- and File-backed, IgnoreCosmetic on/off). -/

example : TrimsFirst demoParser := demoParser_trimsFirst
example : ListsOK demoLists := demo_listsOK
example : (⟨.cosmetic, lit "##b", -2147483648⟩, pack (BitVec.ofInt 32 (-2147483648)) (BitVec.ofNat 32 12)) ∈
    storageScan demoParser demoLists := by rw [demo_storageScan]; simp
/-- `c11` applied to the instance: retrieving index (min int32, 12) from a new storage gives `##b`. -/
example (io : IO) : (retrieveRule io demoParser ⟨demoLists, []⟩
      (pack (BitVec.ofInt 32 (-2147483648)) (BitVec.ofNat 32 12))).1 = .rule ⟨.cosmetic, lit "##b", -2147483648⟩ :=
  c11 io demoParser demoParser_trimsFirst ⟨demoLists, []⟩ demo_listsOK
    (by intro k v hk; simp [List.lookup] at hk) _ _ (by rw [demo_storageScan]; simp)
/-- pack on the extreme ids -/
example : (pack (BitVec.ofInt 32 (-2147483648)) (BitVec.ofNat 32 12)).toInt = -9223372036854775796 ∧
    (pack (BitVec.ofInt 32 (-1)) (BitVec.ofInt 32 (-1))).toInt = -1 ∧
    (pack (BitVec.ofInt 32 2147483647) (BitVec.ofNat 32 7)).toInt = 9223372032559808519 := by decide +kernel
/-- trimming: NBSP / ideographic space / CRLF go, a cut sequence and U+200B (not White_Space) stay -/
example : trimSpace ([0xC2, 0xA0] ++ lit " ||a^" ++ [0xE3, 0x80, 0x80, 0x0D, 0x0A]) = lit "||a^" ∧
    trimSpace (lit "||a^" ++ [0xE2, 0x80, 0x8B, 0x20]) = lit "||a^" ++ [0xE2, 0x80, 0x8B] ∧
    trimSpace (lit " x" ++ [0xC2, 0x0A]) = lit "x" ++ [0xC2] := by decide +kernel

end UF.Storage
