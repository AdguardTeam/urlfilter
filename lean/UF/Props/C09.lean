import UF.Spec.DnsRewrite
import UF.Proofs.DnsRewrite
import UF.Proofs.DnsRewriteExamples
/-
  C09 — effective DNS rewrites apply every matching exception, in any order.
  `dnsRewrites` returns `Option`: `none` would be a nil-pointer panic of the Go code, so every
  statement `dnsRewrites … = some …` also says "does not crash".
-/
namespace UF.C09
open UF

/-- `DNSRewrites()` = the reference filter of `DNSRewritesAll()`, as SEQUENCES, for every list of
    matched network rules (any length, any mixture of rules with and without `$dnsrewrite`). -/
theorem c09 (res : List NetRule) : dnsRewrites res = some (specRewrites (dnsRewritesAll res)) :=
  dnsRewrites_eq_spec res

/-- `DNSRewritesAll()` = the rules with a `$dnsrewrite`, in order. -/
theorem c09_all (res : List NetRule) : dnsRewritesAll res = res.filter (·.rewrite.isSome) :=
  dnsRewritesAll_eq res

/-- Without `$badfilter` rules (the domain of the property; `$badfilter` belongs to C08) the
    reference is the plain filter of the property text. -/
theorem c09_nobadfilter (res : List NetRule) (h : ∀ r ∈ res, r.badfilter = false) :
    dnsRewrites res = some ((dnsRewritesAll res).filter (fun r =>
      !r.whitelist && !(dnsRewritesAll res).any (fun e => e.whitelist && disables e r))) := by
  rw [c09, specRewrites, specRemoveBad_of_no_badfilter]
  · rfl
  · intro r hr
    rw [c09_all] at hr
    exact h r (List.mem_filter.mp hr).1

/-- Membership form: a rule is an effective rewrite iff it is an effective (not badfilter-disabled)
    non-exception rewrite rule and no effective exception disables it. -/
theorem c09_mem_iff (res : List NetRule) (out : List NetRule) (h : dnsRewrites res = some out) (r : NetRule) :
    r ∈ out ↔ (r ∈ specRemoveBad (dnsRewritesAll res) ∧ r.whitelist = false ∧
      ∀ e ∈ specRemoveBad (dnsRewritesAll res), e.whitelist = true → disables e r = false) := by
  rw [c09] at h
  have := Option.some.inj h
  rw [← this, specRewrites, specRewritesCore, List.mem_filter]
  simp only [Bool.and_eq_true, Bool.not_eq_true', List.any_eq_false]
  constructor
  · intro ⟨h1, h2, h3⟩
    refine ⟨h1, h2, fun e he hw => ?_⟩
    cases hd : disables e r with
    | false => rfl
    | true => exact absurd ⟨hw, hd⟩ (h3 e he)
  · intro ⟨h1, h2, h3⟩
    refine ⟨h1, h2, fun e he => ?_⟩
    intro ⟨hw, hd⟩
    rw [h3 e he hw] at hd; cases hd

/-- Exception rules (and badfilter rules) are never returned; everything returned is a rewrite rule. -/
theorem c09_noexc (res out : List NetRule) (h : dnsRewrites res = some out) (r : NetRule) (hr : r ∈ out) :
    r.whitelist = false ∧ r.badfilter = false ∧ r.rewrite.isSome = true ∧ r ∈ res := by
  have hm := (c09_mem_iff res out h r).mp hr
  have h1 := List.mem_filter.mp hm.1
  have h2 : r ∈ res.filter (·.rewrite.isSome) := by rw [← c09_all]; exact h1.1
  have h3 := List.mem_filter.mp h2
  refine ⟨hm.2.1, ?_, h3.2, h3.1⟩
  have := h1.2
  simp only [Bool.and_eq_true, Bool.not_eq_true'] at this
  exact this.1

/-- Surviving rules keep their relative order (and multiplicity). -/
theorem c09_order (res out : List NetRule) (h : dnsRewrites res = some out) : out.Sublist res := by
  rw [c09] at h
  rw [← Option.some.inj h, specRewrites, specRewritesCore, specRemoveBad, c09_all]
  exact (List.filter_sublist.trans List.filter_sublist).trans List.filter_sublist

/-- Non-important exceptions never disable important rewrites. -/
theorem c09_important_rel (e r : NetRule) (he : e.important = false) (hr : r.important = true) :
    disables e r = false := by
  unfold disables
  split
  · simp [he, hr]
  · rfl

/-- An important effective rewrite rule is returned when every effective exception is non-important. -/
theorem c09_important (res out : List NetRule) (h : dnsRewrites res = some out) (r : NetRule)
    (hr : r ∈ specRemoveBad (dnsRewritesAll res)) (hw : r.whitelist = false) (hi : r.important = true)
    (hexc : ∀ e ∈ res, e.whitelist = true → e.important = false) : r ∈ out := by
  rw [c09_mem_iff res out h r]
  refine ⟨hr, hw, fun e he hew => c09_important_rel e r (hexc e ?_ hew) hi⟩
  have h1 := (List.mem_filter.mp he).1
  rw [c09_all] at h1
  exact (List.mem_filter.mp h1).1

/-- An important exception with an empty value disables ALL rewrites; a plain one with an empty
    value disables all non-important ones. -/
theorem c09_empty_exception (e r : NetRule) (he : e.rewrite = some emptyRewrite) (rw : DnsRewrite)
    (hr : r.rewrite = some rw) : disables e r = (e.important || !r.important) :=
  disables_empty e r rw he hr

/-- Moving the exceptions anywhere among the rules does not change the result: two result lists
    with the same subsequence of non-exception rules and the same exceptions up to order give the
    same effective rewrites. -/
theorem c09_perm (res res' : List NetRule)
    (h1 : res.filter (fun r => !r.whitelist) = res'.filter (fun r => !r.whitelist))
    (h2 : (res.filter (·.whitelist)).Perm (res'.filter (·.whitelist))) :
    dnsRewrites res = dnsRewrites res' := by
  rw [c09, c09, c09_all, c09_all]
  congr 1
  apply specRewrites_perm
  · rw [List.filter_filter, List.filter_filter]
    have : ∀ l : List NetRule, l.filter (fun a => (!a.whitelist) && a.rewrite.isSome) =
        (l.filter (fun r => !r.whitelist)).filter (·.rewrite.isSome) := by
      intro l; rw [List.filter_filter]; apply List.filter_congr; intro r _; exact Bool.and_comm _ _
    rw [this, this, h1]
  · have : ∀ l : List NetRule, (l.filter (·.rewrite.isSome)).filter (·.whitelist) =
        (l.filter (·.whitelist)).filter (·.rewrite.isSome) := by
      intro l; rw [List.filter_filter, List.filter_filter]; apply List.filter_congr; intro r _; exact Bool.and_comm _ _
    rw [this, this]
    exact h2.filter _

/-! #### non-vacuity and the old shape (D8) -/


/-- Repaired code on the D8 replay `[r1, @@r1, @@r2, r2]`: nothing is left; the MX exception
    disables the identical MX rewrite; an unrelated rule survives in place. -/
example : dnsRewrites [r1, e1, e2, r2] = some [] ∧ dnsRewrites [rMX, eMX] = some [] ∧
    dnsRewrites [e2, r1, rMX, e1] = some [rMX] := by decide +kernel

/-- The pinned tree's in-place index loop (D8) on the same input skips the exception that follows a
    deleted one and returns it together with the rule it should have disabled; and the MX value is
    compared by pointer. -/
example : dnsRewritesOld [r1, e1, e2, r2] = some [e2, r2] ∧ dnsRewritesOld [rMX, eMX] = some [rMX] := by decide +kernel

/-- `c09_perm` applies to the replay input: the exceptions moved to the front. -/
example : dnsRewrites [e1, e2, r1, r2] = dnsRewrites [r1, e1, e2, r2] := by decide +kernel

end UF.C09
