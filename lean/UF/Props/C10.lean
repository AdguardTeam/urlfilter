import UF.Proofs.DnsRewriteParse
import UF.Proofs.Lit
/-
  C10 — parsed `$dnsrewrite` values always have the published shape.

  Model: `UF.loadDNSRewrite` (UF/Model/DnsRewriteParse.lean) mirrors rules/dnsrewrite.go;
  reference: `UF.shapeOK` (UF/Spec/DnsRewriteShape.lean) is the doc comment of `RRValue`/`DNSRewrite`.
  All theorems hold for EVERY byte string and EVERY address oracle (`netip.ParseAddr` may answer
  anything: the family of an address is part of the `Addr` it returns, `Is6 = ¬Is4`).
  The tables of miekg/dns, the keyword list and the handler keys are generated facts; the theorems
  are re-checked against them on every run.
-/
namespace UF.H
open Bytes

/-- Every accepted value has the published shape. -/
theorem c10 (ext : Ext) (s : Bytes) (rw : DnsRewrite)
    (h : loadDNSRewrite ext s = .ok rw) : shapeOK rw = true := by
  rcases loadDNSRewrite_wellShaped ext s with h' | ⟨rw', h', hs⟩
  · rw [h'] at h
    cases h
  · rw [h'] at h
    cases h
    exact hs

/-- The parser never panics: no checked slice or index (`p[0]`, `p[1:]`, `valStr[l-1]`,
    `valStr[:l-1]`, `fields[i]`, `kv[i]`, `parts[i]`) fails, for any input. -/
theorem c10_total (ext : Ext) (s : Bytes) : loadDNSRewrite ext s ≠ .error .panic := by
  rcases loadDNSRewrite_wellShaped ext s with h | ⟨rw, h, _⟩ <;> rw [h] <;> simp

/-- Error/ok dichotomy: a value is either rejected with an (ordinary) error or accepted with a
    well-shaped rewrite; there is no third outcome. -/
theorem c10_dichotomy (ext : Ext) (s : Bytes) :
    loadDNSRewrite ext s = .error .reject ∨
    ∃ rw, loadDNSRewrite ext s = .ok rw ∧ shapeOK rw = true :=
  loadDNSRewrite_wellShaped ext s

/-- What the shape says, type by type (consumers type-assert `Value` according to `RRType`). -/
theorem c10_value_by_type (ext : Ext) (s : Bytes) (rw : DnsRewrite)
    (h : loadDNSRewrite ext s = .ok rw) (hc : rw.newCNAME = []) (hrc : rw.rcode = 0) :
    (rw.rrType = Facts.H.DnsTypeA → ∃ a, rw.value = .addr a ∧ a.is4 = true) ∧
    (rw.rrType = Facts.H.DnsTypeAAAA → ∃ a, rw.value = .addr a ∧ a.is4 = false) ∧
    (rw.rrType = Facts.H.DnsTypeMX → ∃ p e, rw.value = .mx p e ∧ p ≤ 65535) ∧
    (rw.rrType = Facts.H.DnsTypeSRV → ∃ p w po t, rw.value = .srv p w po t ∧ p ≤ 65535 ∧ w ≤ 65535 ∧ po ≤ 65535) ∧
    (rw.rrType = Facts.H.DnsTypeHTTPS ∨ rw.rrType = Facts.H.DnsTypeSVCB →
        ∃ p t ps, rw.value = .svcb p t ps ∧ p ≤ 65535) ∧
    (rw.rrType = Facts.H.DnsTypePTR → ∃ x, rw.value = .str x ∧ x.getLast? = some (ch '.')) ∧
    (rw.rrType = Facts.H.DnsTypeTXT → ∃ x, rw.value = .str x) := by
  have hs := c10 ext s rw h
  obtain ⟨rc, rr, cn, v⟩ := rw
  simp only at hc hrc
  subst hc hrc
  have hv : valueShapeOK rr v = true := (Bool.and_eq_true_iff.1 hs).2
  -- at a literal record type `hv` evaluates: `false = true` for every constructor but the demanded one
  refine ⟨?_, ?_, ?_, ?_, ?_, ?_, ?_⟩
  · rintro rfl
    cases v <;> try cases hv
    exact ⟨_, rfl, hv⟩
  · rintro rfl
    cases v <;> try cases hv
    exact ⟨_, rfl, Bool.not_eq_true' _ ▸ hv⟩
  · rintro rfl
    cases v <;> try cases hv
    exact ⟨_, _, rfl, of_decide_eq_true hv⟩
  · rintro rfl
    cases v <;> try cases hv
    rename_i p w po t
    have hv : (isU16 p && isU16 w && isU16 po) = true := hv
    simp only [isU16, Bool.and_eq_true, decide_eq_true_eq] at hv
    exact ⟨p, w, po, t, rfl, hv.1.1, hv.1.2, hv.2⟩
  · rintro (rfl | rfl) <;> cases v <;> try cases hv
    all_goals exact ⟨_, _, _, rfl, of_decide_eq_true hv⟩
  · rintro rfl
    cases v <;> try cases hv
    exact ⟨_, rfl, beq_iff_eq.1 hv⟩
  · rintro rfl
    cases v <;> try cases hv
    exact ⟨_, rfl⟩

/-- A new-CNAME rewrite carries nothing else; a non-success rcode carries nothing else. -/
theorem c10_cname_rcode_alone (ext : Ext) (s : Bytes) (rw : DnsRewrite)
    (h : loadDNSRewrite ext s = .ok rw) :
    (rw.newCNAME ≠ [] → rw.rcode = 0 ∧ rw.rrType = 0 ∧ rw.value = .none) ∧
    (rw.rcode ≠ 0 → rw.newCNAME = [] ∧ rw.rrType = 0 ∧ rw.value = .none) := by
  have hs := c10 ext s rw h
  refine ⟨shapeOK_cname_alone hs, ?_⟩
  obtain ⟨rc, rr, cn, v⟩ := rw
  · intro hrc
    simp only at hrc
    cases cn with
    | nil => simpa [shapeOK, hrc] using hs
    | cons c t => simp [shapeOK] at hs; exact absurd hs.1.1 hrc

/-- Generated-fact obligation: the model's handler dispatch has exactly the keys of the Go map
    `dnsRewriteRRHandlers` (probed through the real `loadDNSRewrite`). -/
theorem c10_handler_keys :
    ∀ rr ∈ Facts.H.dnsTypeTable.map (·.2),
      (handlerOf rr).isSome = Facts.H.dnsRewriteHandlerTypes.contains rr := by decide +kernel

/-- Generated-fact obligation: the keyword list of the shorthand form. -/
theorem c10_keywords :
    Facts.H.dnsRewriteKeywords = [lit "NOERROR", lit "NXDOMAIN", lit "REFUSED", lit "SERVFAIL"] := by decide +kernel

/-- Generated-fact obligation: every keyword of the shorthand form is a key of the generated
    `dns.StringToRcode` table, with the value the RFC assigns -- so the `(lookupTbl … s).getD 0` of
    `loadDNSRewriteShort` (Go: the map index `dns.StringToRcode[s]`, zero value when absent) never
    falls back silently to NOERROR for a keyword. -/
theorem c10_keywords_in_rcode_table :
    Facts.H.dnsRewriteKeywords.all (fun k => (lookupTbl Facts.H.dnsRcodeTable k).isSome) = true ∧
    lookupTbl Facts.H.dnsRcodeTable (lit "NOERROR") = some 0 ∧
    lookupTbl Facts.H.dnsRcodeTable (lit "SERVFAIL") = some 2 ∧
    lookupTbl Facts.H.dnsRcodeTable (lit "NXDOMAIN") = some 3 ∧
    lookupTbl Facts.H.dnsRcodeTable (lit "REFUSED") = some 5 := by decide +kernel

/-! Non-vacuity: each form is accepted for some value (and the hypotheses of `c10` are satisfiable). -/

example : (loadDNSRewrite exampleExt (lit "NOERROR;MX;10 mail.example.net")).toOption =
    some { rrType := 15, value := .mx 10 (lit "mail.example.net") } := by
  rw [lit_ofList, lit_ofList]
  decide +kernel
example : isReject (loadDNSRewrite exampleExt (lit "NOERROR;MX;65536 mail.example.net")) = true := by
  rw [lit_ofList]
  decide +kernel
example : isReject (loadDNSRewrite exampleExt (lit "NOERROR;AAAA;1.2.3.4")) = true := by
  rw [lit_ofList]
  decide +kernel
example : (loadDNSRewrite exampleExt (lit "::1")).toOption =
    some { rrType := 28, value := .addr { is4 := false, val := 1 } } := by decide +kernel
example : (loadDNSRewrite exampleExt (lit "NOERROR;PTR;host.example.net")).toOption =
    some { rrType := 12, value := .str (lit "host.example.net.") } := by
  rw [lit_ofList, lit_ofList]
  decide +kernel
example : (loadDNSRewrite exampleExt (lit "REFUSED")).toOption = some { rcode := 5 } := by decide +kernel
example : (loadDNSRewrite exampleExt (lit "example.net")).toOption = some { newCNAME := lit "example.net" } := by decide +kernel
example : (loadDNSRewrite exampleExt (lit "NOERROR;HTTPS;1 . alpn=h3 alpn=h2")).toOption =
    some { rrType := 65, value := .svcb 1 (lit ".") (some [(lit "alpn", lit "h2")]) } := by
  rw [lit_ofList, lit_ofList, lit_ofList, lit_ofList]
  decide +kernel
/-- The shape predicate is not trivially true. -/
example : shapeOK { rrType := 1, value := .addr { is4 := false, val := 1 } } = false := by decide +kernel
example : shapeOK { rrType := 15, value := .mx 65536 (lit "x") } = false := by decide +kernel

end UF.H
