import UF.Props.C03Full
import UF.Proofs.MaskParse
/-
  C03: the divergence of Go's `regexp/syntax` from the textbook semantics
  (flag-blind factoring of alternation prefixes, UF/Model/RegexQuirk.lean) cannot touch MASK patterns:
  the expression `patternToRegexp` builds contains no class of the two cases of a letter and no
  alternation of single characters, so Go's tree of it contains no case-folded literal (with
  `$match-case`) or only case-folded ones (without), and `goTree` is the identity on it.  The C03 theorems
  (`c03_text`, `c03_stored`, `c03_models_agree`, …) do not depend on that part of `parseRE`.
-/
namespace UF.C03
open UF Bytes UF.I2 UF.Re

/-- The expression of a mask pattern has no source of case-folded literals. -/
theorem c03_mask_quirk_free (p : Bytes) :
    (Mask.maskAst (MaskSpec.tokenize p) true).hazard = false := by
  simp only [Mask.maskAst, if_true]
  exact Mask.hazard_maskAtoms _

/-- … hence Go's tree of the text compiled for a `$match-case` mask rule is the textbook tree. -/
theorem c03_mask_goTree (p t : Bytes) :
    goTree t (Mask.maskAst (MaskSpec.tokenize p) true) = some (Mask.maskAst (MaskSpec.tokenize p) true) :=
  goTree_of_not_hazard t _ (c03_mask_quirk_free p)

/-! ### Non-vacuity -/

example : goTree (lit "x") (Mask.maskAst (MaskSpec.tokenize (lit "||Ex.org^a|A")) true) =
    some (Mask.maskAst (MaskSpec.tokenize (lit "||Ex.org^a|A")) true) := c03_mask_goTree _ _

/-- A `/regex/` pattern CAN have one (then `goTree` is not the identity). -/
example : (parseCore (lit "A.|[aA]")).map hazard = some true := by decide +kernel

end UF.C03
