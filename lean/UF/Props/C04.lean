import UF.Spec.Match
import UF.Model.ParseOptions
import UF.Proofs.MergeSorted
import UF.Proofs.MatchDomain
import UF.Proofs.MatchSpec
import UF.Proofs.ParseWF
import UF.Proofs.Bits
import UF.Proofs.ParsePerm
import UF.Proofs.ParseBits
/-
  C04 — a rule matches iff its pattern and every modifier are satisfied; value order never matters.

  Model: `NetRule.matches` (UF/Model/Match.lean, the shape of `NetworkRule.Match`) and
  `parseNetRule` (UF/Model/ParseOptions.lean, the shape of `NewNetworkRule`).
  Reference: `specMatch` (UF/Spec/Match.lean), set-membership statements over the modifier values.
-/
namespace UF.C04
open UF Bytes

/-- The two-index merge over two sorted slices (`matchClientTagsSpecific`) finds a common element
    iff one exists.  Both lists must be sorted by `strings.Compare`: the request's tags are sorted
    by contract, the rule's by `loadCTags` (`c04_parser_sorts`). -/
theorem merge_iff_common (a b : List Bytes) (ha : SortedB a) (hb : SortedB b) :
    matchClientTagsSpecific a b = true ↔ ∃ t, t ∈ a ∧ t ∈ b := by
  rw [E.matchClientTagsSpecific_iff a b ha hb]
  simp [List.any_eq_true]

/-- Binary search over the sorted client names finds `x` iff it is listed. -/
theorem bsearch_iff_mem (xs : List Bytes) (x : Bytes) (h : SortedB xs) :
    bsearch xs.toArray x = true ↔ x ∈ xs := by
  rw [E.bsearch_iff xs x h]
  simp

/-- The double-`HasSuffix` test of `isDomainOrSubdomainOfAny` says: the host is `d` or ends with
    `"." ++ d`. -/
theorem domain_test_iff (host d : Bytes) :
    (host == d || (hasSuffix host d && hasSuffix host (ch '.' :: d))) = true ↔
      host = d ∨ ∃ x, host = x ++ ch '.' :: d := by
  rw [E.plain_domain_test_iff]
  simp [specPlainDomain, E.hasSuffix_iff]

/-- The wildcard test (`HasPrefix` / `Index > 0` pre-check, then the public-suffix comparison) says:
    the public suffix `s` of the host is non-empty and ICANN-managed and the host is `base.s` or ends
    with `.base.s` — label boundary included — for every host that does not begin with a dot. -/
theorem wildcard_test_iff (ext : Ext) (host base : Bytes) (h : host.head? ≠ some (ch '.')) :
    domainEntryMatches ext host (base ++ lit ".*") = true ↔
      (ext.psl host).1 ≠ [] ∧ (ext.psl host).2 = true ∧
      (host = base ++ ch '.' :: (ext.psl host).1 ∨
       ∃ x, host = x ++ ch '.' :: (base ++ ch '.' :: (ext.psl host).1)) := by
  rw [E.domainEntryMatches_eq_spec ext host _ h]
  have hs : hasSuffix (base ++ lit ".*") (lit ".*") = true := E.hasSuffix_append base (lit ".*")
  have hl : (base ++ lit ".*").length - 2 = base.length := by simp [lit]
  simp only [specDomainEntry, hs, if_true, hl, List.take_left', specWildcardDomain]
  simp [E.hasSuffix_iff, and_assoc]

/-- Content-type masks, for a request that is ONE content type (bit `k`): permitted when no type is
    listed or bit `k` is, and bit `k` is not restricted. -/
theorem reqtype_iff (r : NetRule) (k : Nat) :
    matchRequestType r (2 ^ k) = true ↔
      (r.permTypes = 0 ∨ r.permTypes.testBit k = true) ∧ r.restrTypes.testBit k = false := by
  rw [E.matchRequestType_eq_spec]
  have key : ∀ n : Nat, (n &&& 2 ^ k = 0) ↔ n.testBit k = false := by
    intro n
    rw [and_two_pow_eq]
    cases n.testBit k <;> simp
  simp only [specReqType, Bool.and_eq_true, Bool.or_eq_true, beq_iff_eq, bne_iff_ne, ne_eq, key]
  simp

/-- `loadCTags` / `loadClients` sort what they parse: every parsed rule is well-formed. -/
theorem c04_parser_sorts (px : E.ParseExt) (t : Bytes) (id : Int) (r : NetRule)
    (h : E.parseNetRule px t id = .ok r) : r.WellFormed :=
  E.parseNetRule_wellFormed h

/-- C04 on rule records: for every well-formed rule (tags and client names sorted) and every request
    of the domain, `Match` is the reference. -/
theorem c04 (ext : Ext) (r : NetRule) (q : Request) (hwf : r.WellFormed) (hq : q.InDomain) :
    r.matches ext q = specMatch ext r q :=
  E.matches_eq_spec ext r q hwf hq

/-- C04 end to end from the rule TEXT: whatever `NewNetworkRule` accepts matches a request iff the
    reference computed from the parsed modifier values does. -/
theorem c04_text (px : E.ParseExt) (t : Bytes) (id : Int) (r : NetRule) (q : Request)
    (h : E.parseNetRule px t id = .ok r) (hq : q.InDomain) :
    r.matches px.ext q = specMatch px.ext r q :=
  E.matches_eq_spec px.ext r q (E.parseNetRule_wellFormed h) hq

/-- Value order never matters (1): `Match` reads the list-valued modifiers as sets. -/
theorem c04_perm (ext : Ext) (r r' : NetRule) (h : r.PermEquiv r') (q : Request) :
    r.matches ext q = r'.matches ext q :=
  E.matches_permEquiv ext h q

/-- Value order never matters (2): writing the values of every list-valued modifier in another
    order and then sorting as the parser does (`slices.Sort` for tags and client names,
    `SortFunc` for subnets) gives a rule that matches exactly the same requests. -/
theorem c04_perm_values (ext : Ext) (r : NetRule) (q : Request)
    {pd pd' rd rd' da da' pt pt' rt rt' ph ph' rh rh' : List Bytes} {pn pn' rn rn' : List Nat}
    {pnets pnets' rnets rnets' : List Prefix}
    (h1 : pd.Perm pd') (h2 : rd.Perm rd') (h3 : da.Perm da') (h4 : pn.Perm pn') (h5 : rn.Perm rn')
    (h6 : pt.Perm pt') (h7 : rt.Perm rt') (h8 : ph.Perm ph') (h9 : rh.Perm rh')
    (h10 : pnets.Perm pnets') (h11 : rnets.Perm rnets') :
    NetRule.matches ext
      { r with permDomains := pd, restrDomains := rd, denyallow := da, permDns := pn, restrDns := rn,
               permTags := sortB pt, restrTags := sortB rt,
               permClients := E.Clients.finalize (some { hosts := ph, nets := pnets }),
               restrClients := E.Clients.finalize (some { hosts := rh, nets := rnets }) } q =
    NetRule.matches ext
      { r with permDomains := pd', restrDomains := rd', denyallow := da', permDns := pn', restrDns := rn',
               permTags := sortB pt', restrTags := sortB rt',
               permClients := E.Clients.finalize (some { hosts := ph', nets := pnets' }),
               restrClients := E.Clients.finalize (some { hosts := rh', nets := rnets' }) } q := by
  apply E.matches_permEquiv
  exact {
    text := rfl, listID := rfl, whitelist := rfl, pattern := rfl, shortcut := rfl,
    permDomains := h1, restrDomains := h2, denyallow := h3, permDns := h4, restrDns := h5,
    permTags := E.sortB_eq_of_perm h6, restrTags := E.sortB_eq_of_perm h7,
    permClients := E.finalize_permEquiv ph ph' pnets pnets' h8 h10,
    restrClients := E.finalize_permEquiv rh rh' rnets rnets' h9 h11,
    enabled := rfl, disabled := rfl, permTypes := rfl, restrTypes := rfl }

/-- Value order never matters (3), at the level of the modifier's VALUE TEXT: writing the
    `|`-separated values of `$ctag` in another order gives the same parsed (sorted) lists, or the
    same error. -/
theorem c04_perm_text_ctag {l l' : List Bytes} (h : l.Perm l') (hne : l ≠ [])
    (hs : E.sepFree (ch '|') l) :
    E.loadCTags (joinSep l [ch '|']) = E.loadCTags (joinSep l' [ch '|']) :=
  E.loadCTags_perm h hne hs

/-- … of `$domain` / `$denyallow`: the parsed permitted / restricted lists are permutations of
    each other (or both texts are rejected); `c04_perm` then gives equal `Match`. -/
theorem c04_perm_text_domain {l l' : List Bytes} (h : l.Perm l') (hne : l ≠ [])
    (hs : E.sepFree (ch '|') l) :
    E.PE.Rel (fun a b => a.1.Perm b.1 ∧ a.2.Perm b.2)
      (E.loadDomains (joinSep l [ch '|']) (ch '|')) (E.loadDomains (joinSep l' [ch '|']) (ch '|')) :=
  E.loadDomains_perm h hne hs

/-- … of `$dnstype`. -/
theorem c04_perm_text_dnstype {l l' : List Bytes} (h : l.Perm l') (hne : l ≠ [])
    (hs : E.sepFree (ch '|') l) :
    E.PE.Rel (fun a b => a.1.Perm b.1 ∧ a.2.Perm b.2)
      (E.loadDNSTypes (joinSep l [ch '|'])) (E.loadDNSTypes (joinSep l' [ch '|'])) :=
  E.loadDNSTypes_perm h hne hs

/-- … of `$client`, on the values as `splitWithEscapeCharacter` delivers them: the finalized
    client sets have equal host lists and subnets that are permutations of each other. -/
theorem c04_perm_text_client (ext : Ext) {l l' : List Bytes} (h : l.Perm l') :
    E.PE.Rel (fun a b => Clients.PermEquiv (E.Clients.finalize a.1) (E.Clients.finalize b.1) ∧
                       Clients.PermEquiv (E.Clients.finalize a.2) (E.Clients.finalize b.2))
      (l.foldlM (E.loadClientsStep ext) (none, none)) (l'.foldlM (E.loadClientsStep ext) (none, none)) :=
  E.loadClients_items_perm ext h

/-- `$csp`, `$replace`, `$cookie`, `$redirect` are unreachable from rule text on this tree
    (`loadOption` has no case for them): no parsed rule has one of these bits (DESIGN.md §3). -/
theorem c04_unreachable_options (px : E.ParseExt) (t : Bytes) (id : Int) (r : NetRule)
    (h : E.parseNetRule px t id = .ok r) (opt : Nat)
    (ho : opt = Facts.OptionCsp ∨ opt = Facts.OptionReplace ∨ opt = Facts.OptionCookie ∨
          opt = Facts.OptionRedirect) :
    r.isEnabled opt = false ∧ r.isDisabled opt = false :=
  E.parseNetRule_no_advanced h opt ho

/-- Generated-fact obligation: every key of `dns.StringToType` is ASCII, which is what makes the
    `upperKey` model of `strings.ToUpper` + map lookup in `strToRRType` exact for non-ASCII input. -/
theorem dns_type_names_ascii : Facts.dnsStringToType.all (fun e => isAscii e.1) = true := by decide

/-! ### Non-vacuity -/

/-- A concrete oracle: the public suffix of both hosts below is `com`, ICANN-managed. -/
private def exExt : Ext :=
  { psl := fun _ => (lit "com", true), parseAddr := fun _ => none, parsePrefix := fun _ => none,
    pat := fun _ _ _ => true }

/-- The D3 boundary: `google.*` accepts `www.google.com` and rejects `google.notgoogle.com`. -/
example : specDomainEntry exExt (lit "www.google.com") (lit "google.*") = true := by decide +kernel
example : specDomainEntry exExt (lit "google.notgoogle.com") (lit "google.*") = false := by decide +kernel
example : domainEntryMatches exExt (lit "google.notgoogle.com") (lit "google.*") = false := by decide +kernel

/-- The request domain is inhabited by ordinary requests, and well-formed rules exist with
    non-trivial sorted values. -/
example : ({ reqType := 4, sortedTags := [lit "a", lit "b"], hostname := lit "x.com",
             sourceHostname := lit "www.google.com" } : Request).InDomain :=
  { oneType := ⟨2, rfl⟩, sorted := by decide, hostNoDot := by decide, srcNoDot := by decide }

example : ({ permTags := [lit "a", lit "b"], restrTags := [lit "c"],
             permClients := some { hosts := [lit "pc", lit "tv"], nets := [] } } : NetRule).WellFormed :=
  { permTags := by decide, restrTags := by decide,
    permHosts := by intro c h; cases h; decide,
    restrHosts := by intro c h; cases h }

/-- Without sortedness the merge is wrong, so the hypothesis of `merge_iff_common` is needed. -/
example : matchClientTagsSpecific [lit "b", lit "a"] [lit "a"] = false := by decide +kernel

end UF.C04
