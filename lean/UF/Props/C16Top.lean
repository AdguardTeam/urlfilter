import UF.Compose3.CosTop
import UF.Compose3.CosText
import UF.Props.C06Top
import UF.Proofs.Lit
/-
  C16 AT THE TOP LEVEL: the cosmetic option of `Engine.MatchRequest(…)` and the cosmetic result of
  `Engine.GetCosmeticResult(hostname, option)`, from RAW inputs (list bytes, URL strings).
-/
namespace UF.C16
open UF UF.B UF.Storage UF.Compose UF.Compose3

/-- C16 for EVERY exception rule record, no hypothesis on its option mask: the option is the reference
    applied to the named modifiers the rule carries (`cosModsOf`: elemhide, generichide, jsinject, document =
    its five bits, urlblock, genericblock, content, extension, important). -/
theorem c16_spec_all (r : NetRule) (hw : r.whitelist = true) :
    getCosmeticOption (some r) = specCosmeticOption true (cosModsOf r) :=
  getCosmeticOption_eq_spec r hw

/-- The decoding is faithful: for a rule whose option bits are exactly those of a list of named modifiers, the
    modifiers read off the rule (`cosModsOf`) and the list give the same reference option. -/
theorem c16_decode (r : NetRule) (mods : List CosMod) (hw : r.whitelist = true) (hbits : r.enabled = modsBits mods) :
    specCosmeticOption true (cosModsOf r) = specCosmeticOption true mods := by
  rw [← c16_spec_all r hw, c16 r mods hw hbits]

/-- The cosmetic option of the result of `Engine.MatchRequest` is the reference option of its basic rule's
    class and modifiers — everything when there is no basic rule or it blocks.  Nothing of the engine enters:
    this is `getCosmeticOption_eq_specOptionOf` at one `Option NetRule`; WHICH rule the basic rule is, from the
    bytes, is `c16_top_winner` and `c16_top_raw` (Props/C16TopRaw.lean). -/
theorem c16_top (io : IO) (px : E.ParseExt) (lists : List RList) (st : RuleStorage)
    (history history' : List (BitVec 64)) (url sourceURL : Bytes) (reqType : Nat) :
    getCosmeticOption (engineMatchRequest io px lists st history history' url sourceURL reqType).basicRule =
      specOptionOf (engineMatchRequest io px lists st history history' url sourceURL reqType).basicRule :=
  getCosmeticOption_eq_specOptionOf _

/-- … and that basic rule is a line of the lists that matches the request: an exception `b` that decides the
    option was parsed from some line, matches `NewRequest(url, src, t)`, and the option is
    "all minus what `b`'s modifiers disable". -/
theorem c16_top_winner (io : IO) (px : E.ParseExt) (lists : List RList) (hok : StorageOK lists)
    (st : RuleStorage) (hnew : newRuleStorage lists = some st) (history history' : List (BitVec 64))
    (url sourceURL : Bytes) (reqType : Nat)
    (hne : getCosmeticOption (engineMatchRequest io px lists st history history' url sourceURL reqType).basicRule ≠ cosAll) :
    ∃ b, (engineMatchRequest io px lists st history history' url sourceURL reqType).basicRule = some b ∧
      b.whitelist = true ∧
      b ∈ matchingLines px lists (requestOf px.ext url sourceURL reqType) ∧
      getCosmeticOption (some b) = specCosmeticOption true (cosModsOf b) := by
  cases hb : (engineMatchRequest io px lists st history history' url sourceURL reqType).basicRule with
  | none => rw [hb] at hne; exact absurd rfl hne
  | some b =>
    cases hw : b.whitelist with
    | false =>
      rw [hb] at hne
      exact absurd (c16_nonexception (some b) (fun r hr => by cases hr; exact hw)) hne
    | true =>
      exact ⟨b, rfl, hw, (C06.c06_top_winner io px lists hok st hnew history history' url sourceURL reqType b hb).1,
        c16_spec_all b hw⟩

/-- C16 FROM THE RULE TEXT (C16 composed with the option parser): for every text `NewNetworkRule` accepts as an exception
    rule — whatever else it carries (`$domain`, content types, `$important`, `~extension`, …), any order, any
    repetitions — `GetCosmeticOption` is the reference `specCosmeticOption true` applied to the named modifiers
    WRITTEN in its options part (`textCosMods`: the comma-separated option names `elemhide`, `generichide`,
    `jsinject`, `document`, `urlblock`, `genericblock`, `content`, `extension`, `important`). -/
theorem c16_text (px : E.ParseExt) (t : Bytes) (id : Int) (r : NetRule)
    (h : E.parseNetRule px t id = .ok r) (hw : r.whitelist = true) :
    ∃ pat opts, E.parseRuleText t = .ok (pat, opts, true) ∧
      getCosmeticOption (some r) = specCosmeticOption true (textCosMods opts) :=
  getCosmeticOption_text h hw

/-- C16 FROM RAW INPUTS AND THE TEXT OF THE WINNER: whenever the result of `Engine.MatchRequest` restricts the
    cosmetic options, its basic rule `b` is an exception parsed from a line of the lists that matches the
    request, and the option is the reference applied to the modifiers written in `b`'s TEXT. -/
theorem c16_top_text (io : IO) (px : E.ParseExt) (lists : List RList) (hok : StorageOK lists)
    (st : RuleStorage) (hnew : newRuleStorage lists = some st) (history history' : List (BitVec 64))
    (url sourceURL : Bytes) (reqType : Nat) (b : NetRule)
    (hb : (engineMatchRequest io px lists st history history' url sourceURL reqType).basicRule = some b)
    (hw : b.whitelist = true) :
    b ∈ matchingLines px lists (requestOf px.ext url sourceURL reqType) ∧
    ∃ pat opts, E.parseRuleText b.text = .ok (pat, opts, true) ∧
      getCosmeticOption (engineMatchRequest io px lists st history history' url sourceURL reqType).basicRule =
        specCosmeticOption true (textCosMods opts) := by
  have hm := (C06.c06_top_winner io px lists hok st hnew history history' url sourceURL reqType b hb).1
  refine ⟨hm, ?_⟩
  rw [hb]
  exact getCosmeticOption_text (allNet_parse (List.mem_filter.1 hm).1) hw

/-- No result re-enables anything: the option is always a subset of `CosmeticOptionAll`. -/
theorem c16_top_sub_all (io : IO) (px : E.ParseExt) (lists : List RList) (st : RuleStorage)
    (history history' : List (BitVec 64)) (url sourceURL : Bytes) (reqType : Nat) :
    getCosmeticOption (engineMatchRequest io px lists st history history' url sourceURL reqType).basicRule &&& cosAll =
      getCosmeticOption (engineMatchRequest io px lists st history history' url sourceURL reqType).basicRule := by
  cases hb : (engineMatchRequest io px lists st history history' url sourceURL reqType).basicRule with
  | none => decide
  | some b =>
    cases hw : b.whitelist with
    | false => rw [c16_nonexception (some b) (fun r hr => by cases hr; exact hw)]; decide
    | true =>
      rw [c16_bits b hw]
      cases b.isEnabled Facts.OptionElemhide <;> cases b.isEnabled Facts.OptionGenerichide <;>
        cases b.isEnabled Facts.OptionJsinject <;> decide

/-- Monotonicity at the top level: take any two scenarios (lists, URLs, types) whose results are decided by
    exceptions `b`, `b'`; if `b'` carries every option bit of `b` (more modifiers), the second option is a
    subset of the first. -/
theorem c16_top_mono (io : IO) (px px' : E.ParseExt) (lists lists' : List RList) (st st' : RuleStorage)
    (h1 h2 h1' h2' : List (BitVec 64)) (url src url' src' : Bytes) (t t' : Nat) (b b' : NetRule)
    (hb : (engineMatchRequest io px lists st h1 h2 url src t).basicRule = some b)
    (hb' : (engineMatchRequest io px' lists' st' h1' h2' url' src' t').basicRule = some b')
    (hw : b.whitelist = true) (hw' : b'.whitelist = true)
    (hsub : ∀ opt, b.isEnabled opt = true → b'.isEnabled opt = true) :
    getCosmeticOption (engineMatchRequest io px' lists' st' h1' h2' url' src' t').basicRule &&&
        getCosmeticOption (engineMatchRequest io px lists st h1 h2 url src t).basicRule =
      getCosmeticOption (engineMatchRequest io px' lists' st' h1' h2' url' src' t').basicRule := by
  rw [hb, hb']
  exact c16_mono b b' hw hw' hsub

/-- `Engine.GetCosmeticResult(hostname, option)` FROM BYTES: generic and specific selector lists have exactly
    the members of the reference over the cosmetic rules parsed line by line, with
    (includeCSS, includeJS, includeGenericCSS) = the three bits of the option (C15 composed with the decoding). -/
theorem c16_top_cosmetic (px : E.ParseExt) (lists : List RList) (hostname : Bytes) (option : CosOpt) :
    (∀ c, c ∈ (engineCosmeticResult px lists hostname option).1 ↔ c ∈ (specCosmeticResult px lists hostname option).1) ∧
    (∀ c, c ∈ (engineCosmeticResult px lists hostname option).2 ↔ c ∈ (specCosmeticResult px lists hostname option).2) :=
  C15.c15_storage px lists hostname (decodeCosmeticFlags option).1 (decodeCosmeticFlags option).2.1
    (decodeCosmeticFlags option).2.2

/-- The whole chain `MatchRequest` → `GetCosmeticOption` → `GetCosmeticResult`: the flags handed to the
    cosmetic engine when an exception `b` decided are "not disabled by `b`" (C16), and the selectors are the
    reference ones for these flags (C15). -/
theorem c16_top_chain (io : IO) (px : E.ParseExt) (lists : List RList) (st : RuleStorage)
    (history history' : List (BitVec 64)) (url sourceURL : Bytes) (reqType : Nat) (hostname : Bytes) (b : NetRule)
    (hb : (engineMatchRequest io px lists st history history' url sourceURL reqType).basicRule = some b)
    (hw : b.whitelist = true) :
    ∀ c, (c ∈ (engineCosmeticResult px lists hostname
            (getCosmeticOption (engineMatchRequest io px lists st history history' url sourceURL reqType).basicRule)).1 ↔
          c ∈ (specCosmetic px.ext (cosRulesOf (specRules px lists)) hostname
            (!b.isEnabled Facts.OptionElemhide) (!b.isEnabled Facts.OptionJsinject)
            (!(b.isEnabled Facts.OptionElemhide || b.isEnabled Facts.OptionGenerichide))).1) ∧
         (c ∈ (engineCosmeticResult px lists hostname
            (getCosmeticOption (engineMatchRequest io px lists st history history' url sourceURL reqType).basicRule)).2 ↔
          c ∈ (specCosmetic px.ext (cosRulesOf (specRules px lists)) hostname
            (!b.isEnabled Facts.OptionElemhide) (!b.isEnabled Facts.OptionJsinject)
            (!(b.isEnabled Facts.OptionElemhide || b.isEnabled Facts.OptionGenerichide))).2) := by
  intro c
  have h := c16_top_cosmetic px lists hostname (getCosmeticOption (some b))
  rw [hb]
  unfold specCosmeticResult at h
  rw [c16_flags b hw] at h
  exact ⟨h.1 c, h.2 c⟩

/-- Fewer options, fewer selectors: if `option'` is bitwise contained in `option`, every selector
    `GetCosmeticResult` returns for `option'` it also returns for `option` (so an exception with more
    modifiers can only remove selectors from the page). -/
theorem c16_top_cosmetic_mono (px : E.ParseExt) (lists : List RList) (hostname : Bytes) (option option' : CosOpt)
    (h : option' &&& option = option') :
    (∀ c, c ∈ (engineCosmeticResult px lists hostname option').1 → c ∈ (engineCosmeticResult px lists hostname option).1) ∧
    (∀ c, c ∈ (engineCosmeticResult px lists hostname option').2 → c ∈ (engineCosmeticResult px lists hostname option).2) := by
  obtain ⟨a1, a2⟩ := c16_top_cosmetic px lists hostname option
  obtain ⟨b1, b2⟩ := c16_top_cosmetic px lists hostname option'
  obtain ⟨d1, _, d3⟩ := decode_mono option option' h
  obtain ⟨m1, m2⟩ := specCosmetic_mono px.ext (cosRulesOf (specRules px lists)) hostname
    (decodeCosmeticFlags option).1 (decodeCosmeticFlags option).2.1 (decodeCosmeticFlags option).2.2
    (decodeCosmeticFlags option').1 (decodeCosmeticFlags option').2.1 (decodeCosmeticFlags option').2.2 d1 d3
  exact ⟨fun c hc => (a1 c).2 (m1 c ((b1 c).1 hc)), fun c hc => (a2 c).2 (m2 c ((b2 c).1 hc))⟩

/-! ### Non-vacuity: an `$elemhide` exception for the page decides the option (only the JS bit is left), and
    the cosmetic result for that option is empty while the full option gives both selectors. -/

private def exPx : E.ParseExt :=
  { ext := { psl := fun _ => (lit "org", true), parseAddr := fun _ => none,
             parsePrefix := fun _ => none, pat := I2.modelPatD },
    loadDNSRewrite := fun _ => none, regexpShortcut := fun _ => [] }

private def exLists : List RList :=
  [⟨1, false, lit "@@||site.org^$elemhide\n##.ad\nsite.org##.banner\n@@||js.org^$jsinject,generichide\n", false⟩]

example :
    let m := engineMatchRequest ⟨4096, fun _ => 1⟩ exPx exLists ⟨exLists, []⟩ [] [] (lit "http://site.org/") [] 1
    m.basicRule.map (·.text) = some (lit "@@||site.org^$elemhide") ∧
    m.basicRule.map cosModsOf = some [.elemhide] ∧
    textCosMods (lit "elemhide") = [.elemhide] ∧ textCosMods (lit "domain=a.org|b.org,document,~extension") = [.document] ∧
    getCosmeticOption m.basicRule = cosJS ∧
    engineCosmeticResult exPx exLists (lit "site.org") (getCosmeticOption m.basicRule) = ([], []) ∧
    engineCosmeticResult exPx exLists (lit "site.org") cosAll = ([lit ".ad"], [lit ".banner"]) := by
  unfold exLists
  rw [lit_ofList, lit_ofList, lit_ofList, lit_ofList, lit_ofList, lit_ofList, lit_ofList, lit_ofList]
  decide +kernel

example :
    let m := engineMatchRequest ⟨4096, fun _ => 1⟩ exPx exLists ⟨exLists, []⟩ [] [] (lit "http://js.org/") [] 1
    m.basicRule.map cosModsOf = some [.generichide, .jsinject] ∧
    engineCosmeticResult exPx exLists (lit "site.org") (getCosmeticOption m.basicRule) = ([], [lit ".banner"]) := by
  unfold exLists
  rw [lit_ofList, lit_ofList, lit_ofList, lit_ofList]
  decide +kernel

end UF.C16
