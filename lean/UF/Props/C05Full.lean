import UF.Compose2.MatchFull
import UF.Compose2.ShortcutMask
import UF.Compose2.ParsePattern
import UF.Compose2.RegexShortcutSound
import UF.Props.C05
import UF.Props.C03
import UF.Model.RequestNew
import UF.Proofs.Lit
/-
  C05 for mask rules, HYPOTHESIS-FREE.

  `c05_mask_rule` has the hypothesis `hcompiled` ("whatever the pattern oracle accepts is accepted by a
  concatenation containing the literal atoms of the shortcut's run"); here it is discharged from the
  mask compiler: by `c03_text` the text `preparePattern` compiles parses to
  `maskAst (tokenize p) mc`, and the maximal run chosen by `findShortcut` appears in it as consecutive
  literal atoms (UF/Compose2/ShortcutMask.lean).  With the pattern oracle instantiated by `modelPat`
  the rule-level statements need no assumption about `regexp` at all.
-/
namespace UF.C05
open UF Bytes Re UF.I2

/-- Masks, at the level of the compiled matcher: for EVERY ASCII mask pattern `p` (as stored in the
    rule), with or without `$match-case`, and EVERY ASCII subject `u`, if the compiled pattern
    accepts `u` then the lower-cased subject contains the rule's shortcut
    (`loadShortcut (findShortcut p)`: the longest separator-free run, lower-cased, if longer than 1).
    The hypothesis `hu` is not needed by the proof (the byte-level model satisfies the statement for
    all bytes); it delimits the domain on which `compiledAccepts`/`toLower` ARE Go's rune-based
    `regexp`/`strings.ToLower` (`||ex.org/a^b` vs `http://ex.org/aéb`; `ſ`/`K` folding). -/
theorem c05_mask_full (p : Bytes) (mc : Bool) (u w : Bytes) (hp : ∀ b ∈ p, b < 128)
    (_hu : ∀ b ∈ u, b < 128)
    (hre : UF.isRegexPattern p = false) (hf : findShortcut p = some w)
    (h : Mask.compiledAccepts p mc u = true) :
    hasSub (toLower u) (loadShortcut w) = true := by
  obtain ⟨as, bs, fold, hs⟩ := compiled_has_run mc u hp hre hf h
  exact c05_mask_atoms as bs fold w u hs

/-- The same with `findShortcut`'s totality folded in: the shortcut exists and is implied. -/
theorem c05_mask_full_total (p : Bytes) (mc : Bool) (hp : ∀ b ∈ p, b < 128)
    (hre : UF.isRegexPattern p = false) :
    ∃ w, findShortcut p = some w ∧
      ∀ u, (∀ b ∈ u, b < 128) → Mask.compiledAccepts p mc u = true →
        hasSub (toLower u) (loadShortcut w) = true := by
  obtain ⟨w, hw, _⟩ := findShortcut_inv p
  exact ⟨w, hw, fun u hu h => c05_mask_full p mc u w hp hu hre hw h⟩

/-- Against the DOCUMENTED mask language (through `c03`): every ASCII subject without a line feed that
    the mask language of `p` accepts contains the shortcut. -/
theorem c05_mask_spec (p : Bytes) (mc : Bool) (u w : Bytes) (hp : ∀ b ∈ p, b < 128)
    (hu : ∀ b ∈ u, b < 128)
    (hre : UF.isRegexPattern p = false) (hn : Mask.NoNL u) (hf : findShortcut p = some w)
    (h : MaskSpec.maskAccepts (MaskSpec.tokenize p) mc u = true) :
    hasSub (toLower u) (loadShortcut w) = true := by
  apply c05_mask_full p mc u w hp hu hre hf
  rw [C03.c03_stored p mc u hp hu hre hn]
  exact h

/-- Through `modelPat`: whenever the composed pattern model answers `true` on a mask pattern, the
    shortcut is in the lower-cased target. -/
theorem c05_mask_modelPat (p : Bytes) (mc : Bool) (u w : Bytes) (hre : UF.isRegexPattern p = false)
    (hf : findShortcut p = some w) (h : modelPat p mc u = some true) :
    hasSub (toLower u) (loadShortcut w) = true := by
  obtain ⟨hd, hc⟩ := modelPat_mask_inv hre h
  exact c05_mask_full p mc u w hd.patAscii hd.tgtAscii hre hf hc

/-- C05 at the level of `Match` for mask rules, with the pattern oracle instantiated by the models and
    NO hypothesis about the compiled expression: for every rule whose shortcut is what `loadShortcut`
    computes from its (non-regex) pattern, and every well-formed request, `Match` is unchanged when the
    shortcut test is removed. -/
theorem c05_full (ext : Ext) (r : NetRule) (q : Request) (w : Bytes)
    (hre : UF.isRegexPattern r.pattern = false)
    (hfind : findShortcut r.pattern = some w)
    (hshort : r.shortcut = loadShortcut w)
    (hlower : q.urlLower = toLower q.url)
    (hhost : q.isHostnameRequest = true → hasSub q.url q.hostname = true) :
    (w = [] ∨ IsMaskRun r.pattern w) ∧
    r.matches (withModelPat ext) q = ({ r with shortcut := [] } : NetRule).matches (withModelPat ext) q := by
  apply c05_mask_rule (withModelPat ext) r q w hfind hshort _ hlower hhost
  intro target ht
  obtain ⟨hd, hc⟩ := modelPat_mask_inv hre (modelPatD_true.1 ht)
  exact compiled_has_run _ target hd.patAscii hre hfind hc

/-- The same for `/regex/` rules over `modelPat` (`c05_regex_rule` with its pattern
    hypothesis discharged for the composed oracle): the candidates `parts` of the textual heuristics
    are arbitrary, the tree is the model's parse of the text between the slashes.  No hypothesis about
    a `(?i)` at the start of a `$match-case` rule's own text is needed: then `parseCore`
    yields no tree, nothing is required and no candidate is accepted (`parseCore_of_hasPrefix_ci`). -/
theorem c05_full_regex (ext : Ext) (r : NetRule) (q : Request) (parts : List Bytes)
    (hre : UF.isRegexPattern r.pattern = true)
    (hshort : r.shortcut = loadShortcut (findRegexpShortcut parts (parseCore ((r.pattern.drop 1).dropLast))))
    (hlower : q.urlLower = toLower q.url)
    (hhost : q.isHostnameRequest = true → hasSub q.url q.hostname = true) :
    r.matches (withModelPat ext) q = ({ r with shortcut := [] } : NetRule).matches (withModelPat ext) q := by
  apply c05_regex_rule (withModelPat ext) r q parts _ hshort _ hlower hhost
  intro target ht
  obtain ⟨r0, hparse, hs, _⟩ := modelPat_regex_some hre (modelPatD_true.1 ht)
  exact ⟨r0, fun t ht => (FoldRel.regexRule ht hparse).litsCovered, hs.symm⟩

/-- C05 from the rule TEXT for mask rules — no oracle and no hypothesis about the rule record: whatever
    `NewNetworkRule` accepts with a pattern that is not a `/regex/` matches the same requests with and
    without its shortcut test (`loadShortcut` stored what `findShortcut` finds in the stored pattern:
    `parseNetRule_pattern`). -/
theorem c05_text_full (px : E.ParseExt) (t : Bytes) (id : Int) (r : NetRule) (q : Request)
    (h : E.parseNetRule px t id = .ok r)
    (hre : UF.isRegexPattern r.pattern = false)
    (hlower : q.urlLower = toLower q.url)
    (hhost : q.isHostnameRequest = true → hasSub q.url q.hostname = true) :
    r.matches (withModelPat px.ext) q = ({ r with shortcut := [] } : NetRule).matches (withModelPat px.ext) q := by
  obtain ⟨_, _, _, _, _, _, hsc⟩ := parseNetRule_pattern h
  rcases hsc with ⟨hre', _⟩ | ⟨_, w, hw, hs⟩
  · rw [hre] at hre'; cases hre'
  · exact (c05_full px.ext r q w hre hw hs hlower hhost).2

/-- The same for `/regex/` rules, for every shortcut oracle of the repaired shape (any candidates,
    filtered against the required literals of the parse). -/
theorem c05_text_full_regex (px : E.ParseExt) (t : Bytes) (id : Int) (r : NetRule) (q : Request)
    (h : E.parseNetRule px t id = .ok r)
    (hre : UF.isRegexPattern r.pattern = true)
    (horacle : ∃ parts, px.regexpShortcut r.pattern =
      findRegexpShortcut parts (parseCore ((r.pattern.drop 1).dropLast)))
    (hlower : q.urlLower = toLower q.url)
    (hhost : q.isHostnameRequest = true → hasSub q.url q.hostname = true) :
    r.matches (withModelPat px.ext) q = ({ r with shortcut := [] } : NetRule).matches (withModelPat px.ext) q := by
  obtain ⟨_, _, _, _, _, _, hsc⟩ := parseNetRule_pattern h
  obtain ⟨parts, hparts⟩ := horacle
  rcases hsc with ⟨_, hs⟩ | ⟨hre', _⟩
  · exact c05_full_regex px.ext r q parts hre (by rw [hs, hparts]) hlower hhost
  · rw [hre] at hre'; cases hre'

/-- `/regex/` rules, from the TEXT: the shortcut computed by the text-level model of
    `findRegexpShortcut` (the heuristics' candidates filtered against the literals Go's parse tree
    requires — adjacent literals merged, common prefixes of alternations factored) is a factor of
    every lower-cased target the pattern model accepts, with or without `$match-case`.
    (For `$match-case` rules `modelPat` searches GO's tree of the text — `goTree`, the written
    tree up to the fold flags `parser.factor` mixes up — and `goReq` factors with Go's flag-blind
    `Equal`; the statement covers every assignment of fold flags, `FoldRel`.  `modelPat` and
    `modelRegexpShortcut` answer `none`, and nothing is claimed, for the expressions listed in
    UF/Compose2/Pat.lean and UF/Compose2/RegexShortcut.lean.) -/
theorem c05_regex_text (p : Bytes) (mc : Bool) (u sc : Bytes) (hre : UF.isRegexPattern p = true)
    (hsc : modelRegexpShortcut p = some sc) (h : modelPat p mc u = some true) :
    hasSub (toLower u) (loadShortcut sc) = true := by
  rcases loadShortcut_cases sc with h0 | h0 <;> rw [h0]
  · exact hasSub_nil _
  · rcases modelRegexpShortcut_some hsc with rfl | ⟨hq, tree, hp, hsc⟩
    · exact hasSub_nil _
    · rcases pickLongest_sound (regexParts ((p.drop 1).dropLast)) (goReq tree) with he | ⟨l, hl, hsub⟩
      · rw [hsc, he]; exact hasSub_nil _
      · rw [← hsc] at hsub
        obtain ⟨r0, hparse, hs, _⟩ := modelPat_regex_some hre h
        have hrel : FoldRel tree r0 := FoldRel.regexRule hp hparse
        exact hasSub_trans (goReq_search hrel hs.symm l hl) hsub

/-- C05 from the rule TEXT for `/regex/` rules over the complete model (`parseNetRuleM`: no oracle but
    `netip`): whenever the shortcut model answers for the rule's pattern, `Match` is unchanged when the
    shortcut test is removed. -/
theorem c05_text_model_regex (ext : Ext) (t : Bytes) (id : Int) (r : NetRule) (q : Request)
    (h : parseNetRuleM ext t id = .ok r)
    (hre : UF.isRegexPattern r.pattern = true)
    (hdom : regexShortcutInDomain r.pattern = true)
    (hlower : q.urlLower = toLower q.url)
    (hhost : q.isHostnameRequest = true → hasSub q.url q.hostname = true) :
    r.matches (withModelPat ext) q = ({ r with shortcut := [] } : NetRule).matches (withModelPat ext) q := by
  obtain ⟨_, _, _, _, _, _, hsc⟩ := parseNetRule_pattern h
  rcases hsc with ⟨_, hs⟩ | ⟨hre', _⟩
  · apply c05
    intro hm
    rw [matchPattern_withModelPat] at hm
    cases hsm : modelRegexpShortcut r.pattern with
    | none => simp [regexShortcutInDomain, hsm] at hdom
    | some sc =>
      have hsc' : r.shortcut = loadShortcut sc := by
        rw [hs]; simp [fullParseExt, reShortcutM, hsm]
      rw [hsc']
      exact hasSub_urlLower_of_target hlower hhost
        (c05_regex_text r.pattern _ _ sc hre hsm (modelPatD_true.1 hm))
  · rw [hre] at hre'; cases hre'

/-- C05 over the complete model for EVERY rule text: mask rules unconditionally, `/regex/` rules
    whenever the expression is inside the modelled subset. -/
theorem c05_text_model (ext : Ext) (t : Bytes) (id : Int) (r : NetRule) (q : Request)
    (h : parseNetRuleM ext t id = .ok r)
    (hdom : UF.isRegexPattern r.pattern = true → regexShortcutInDomain r.pattern = true)
    (hlower : q.urlLower = toLower q.url)
    (hhost : q.isHostnameRequest = true → hasSub q.url q.hostname = true) :
    r.matches (withModelPat ext) q = ({ r with shortcut := [] } : NetRule).matches (withModelPat ext) q := by
  cases hre : UF.isRegexPattern r.pattern with
  | true => exact c05_text_model_regex ext t id r q h hre (hdom hre) hlower hhost
  | false => exact c05_text_full (fullParseExt ext reShortcutM) t id r q h hre hlower hhost

/-! ### Non-vacuity -/

/-- `||example.org^*banner`: the shortcut is `example.org`, the compiled pattern accepts the URL, and
    the URL contains the shortcut. -/
example :
    findShortcut (lit "||example.org^*banner") = some (lit "example.org") ∧
    Mask.compiledAccepts (lit "||example.org^*banner") false (lit "https://Sub.Example.org/x/BANNER") = true ∧
    hasSub (toLower (lit "https://Sub.Example.org/x/BANNER")) (loadShortcut (lit "example.org")) = true := by
  rw [lit_ofList, lit_ofList, lit_ofList]
  decide +kernel

/-- The hypotheses of `c05_full` hold for an ordinary rule and request. -/
example : UF.isRegexPattern (lit "||example.org^") = false ∧
    findShortcut (lit "||example.org^") = some (lit "example.org") ∧
    loadShortcut (lit "example.org") = lit "example.org" := by decide +kernel

/-- Without the D4-style repair the statement would be false for regex rules: the witness of
    Props/C05.lean (`/foo|barbaz/`) accepts a URL that lacks `barbaz`. -/
example : modelPat (lit "/foo|barbaz/") false (lit "http://x.com/foo") = some true ∧
    hasSub (lit "http://x.com/foo") (lit "barbaz") = false := by decide +kernel

/-- The pieces of the text-level shortcut model on concrete inputs: the candidates of the heuristics
    (`ab(c)d` ↦ `...ab...d`, split at the dots), literal merging (`a`,`[b]`,`c` ↦ `abc`), an
    alternation that requires nothing, and one whose branches share a prefix (`foo|foobar` ↦ `foo`). -/
example : regexParts (lit "ab(c)d") = [[], [], [], lit "ab", [], [], lit "d"] := by decide +kernel
example : itemsReq (mergeItems [.lit (lit "a") false, .lit (lit "b") false, .other none [], .lit (lit "c") false]) =
    [lit "ab", lit "c"] := by decide +kernel
example : altTopReq [[.lit (lit "foo") false], [.lit (lit "barbaz") false]] = [] := by decide +kernel
example : altTopReq [[.lit (lit "foo") false], [.lit (lit "foobar") false]] = [lit "foo"] := by decide +kernel
example : altTopReq [[.lit (lit "A") false], [.lit (lit "a") false]] = [lit "a"] := by decide +kernel

/-! ### The hypothesis `hlower` cannot be dropped for hostname requests

  `NewRequest` lower-cases the URL itself (C17 `lower_capped`), so `hlower : q.urlLower = toLower q.url`
  is a theorem for URL requests.  `FillRequestForHostname` does NOT: it stores
  `URLLowerCase = "http://" + hostname` unchanged (rules/request.go), and `DNSEngine.MatchRequest`
  probes its tables with the raw name.  For the hostname `EXAMPLE.org` and the rule `||example.org^`
  the compiled pattern (`(?i)`) accepts the target, but the shortcut test `strings.Contains(URLLowerCase,
  "example.org")` rejects -- so "the result is the same with the shortcut test removed" FAILS on that
  request, and the statements above hold for hostname requests only under the contract of DESIGN.md §6:
  hostnames given to `NewRequestForHostname` / `DNSRequest` are lower-case (the function documents that
  validation is the caller's job; DNS names are case-insensitive).  Mixed-case hostnames are therefore
  outside the domain of C02/C05/C17; no generator produces them as inputs of compared ops and the
  driver answers `ood` where an op can receive one. -/

private def lcExt : Ext :=
  { psl := fun _ => (lit "org", true), parseAddr := fun _ => none, parsePrefix := fun _ => none,
    pat := fun _ _ _ => false }

/-- The explicit dependency on lower-case hostnames: on the request `FillRequestForHostname` builds
    for `EXAMPLE.org`, the rule `||example.org^` (complete parser model, shortcut `example.org`) has
    `urlLower ≠ toLower url`, its pattern ACCEPTS, its shortcut test REJECTS, and `Match` differs from
    `Match` without the shortcut. -/
theorem c05_hostname_lowercase_needed :
    (match parseNetRuleM lcExt (lit "||example.org^") 1,
           H.newRequestForHostname lcExt (lit "EXAMPLE.org") with
     | .ok r, .ok q =>
       r.shortcut == lit "example.org" && q.isHostnameRequest && q.url == lit "http://EXAMPLE.org" &&
       q.urlLower != toLower q.url &&
       matchPattern (withModelPat lcExt) r q && !matchShortcut r q &&
       !r.matches (withModelPat lcExt) q &&
       ({ r with shortcut := [] } : NetRule).matches (withModelPat lcExt) q
     | _, _ => false) = true := by decide +kernel

/-- With the lower-case name the hypothesis holds and the two agree. -/
example :
    (match parseNetRuleM lcExt (lit "||example.org^") 1,
           H.newRequestForHostname lcExt (lit "example.org") with
     | .ok r, .ok q =>
       q.urlLower == toLower q.url && r.matches (withModelPat lcExt) q &&
       ({ r with shortcut := [] } : NetRule).matches (withModelPat lcExt) q
     | _, _ => false) = true := by decide +kernel

end UF.C05
