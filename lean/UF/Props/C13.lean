import UF.Proofs.ProgDegradedRun
import UF.Proofs.ProgSlices
import UF.Gen.Facts
/-
  C13 — query results are a pure function of the lists and the request.
  Everything is about the Prog / Pool models (lean/UF/Model/Prog.lean, Pool.lean); the tie to the Go code is
  the two generated fact obligations below plus the `c13hist` / `c13model` correspondence runs.
-/
namespace UF.C13
open UF UF.Prog

/-- FACT (regenerated from /repo on every run): every field of `rules.Request` is definitely assigned
    when a pooled request is refilled (`getRequestFromPool` ∪ `FillRequestForHostname`).  A new field
    without an assignment, or a dropped assignment, breaks this `decide`. -/
theorem c13_fact_request_fields : Facts.requestAssignedOnRefill = Facts.requestFields := by decide +kernel

/-- FACT: the model's `Request` has exactly the fields of `rules.Request`. -/
theorem c13_fact_model_fields : Facts.requestFields = modelRequestFields := by decide +kernel

/-- No per-request data (client identity, tags, record type, source) survives the refill: the refilled
    request does not depend on the pooled value at all. -/
theorem fill_overwrites (etld1 : Bytes → Bytes) (old : Request) (d : DReq) :
    fillFromPool etld1 old d = fillFromPool etld1 default d :=
  fillFromPool_default etld1 old d

/-- The invariant of the shared state -- `CacheInv` (cache ⊆ graph of `truth`) and `CellInv` (a lazy-compile
    cell is empty or what compiling ITS rule gives) -- is preserved by every atomic action of every thread
    whose local state is well formed (`TInv`: a pending `cachePut idx r` carries `truth idx = some r`, a rule
    at `preparePattern` is the rule of its object), and no action changes a cell that is set. -/
theorem sinv_preserved {R Re : Type} (env : Env R Re) (s : State R Re) (t : Thread R)
    (hs : SInv env s) (ht : TInv env t) :
    SInv env (step env s t).1 ∧ TInv env (step env s t).2 ∧ CellsLe s (step env s t).1 :=
  ⟨(step_spec env s t).sinv hs ht, (step_spec env s t).tinv hs.1 ht, (step_spec env s t).cellsLe⟩

/-- The lazy-compile state cannot leak: under `CellInv`, whatever cell a rule object has reached
    (`uncompiled`, `compiled re`, `invalid`), what `preparePattern` + `MatchString` answer for a request is
    `patOK` -- a function of the rule and the request alone. -/
theorem c13_cell_is_function_of_rule {R Re : Type} (env : Env R Re) (s : State R Re) (ob : Obj) (r : R)
    (req : Request) (hci : CellInv env s) (hob : env.objRule ob = some r) :
    (match s.cells ob with
      | .compiled x => env.accepts x r req
      | .invalid => false
      | .uncompiled => env.patOK r req) = env.patOK r req := by
  cases hc : s.cells ob with
  | uncompiled => rfl
  | compiled x => simp [Env.patOK, cell_compiled hci hob hc]
  | invalid => simp [Env.patOK, cell_invalid hci hob hc]

/-- C13 for one query: from ANY state satisfying the invariant (whatever the cache, the pool and the
    lazy-compile cells hold after earlier queries), a sequentially executed query finishes without a crash,
    answers exactly the stateless `pureAnswer`, and re-establishes the invariant. -/
theorem c13 {R Re : Type} (env : Env R Re) (s : State R Re) (q : Query) (hs : SInv env s) (h0 : s.closed = []) :
    (runQuery env s q).2.pc = .done ∧
    (runQuery env s q).2.answer = pureAnswer env q ∧
    SInv env (runQuery env s q).1 ∧ (runQuery env s q).1.closed = [] :=
  runQuery_pure q hs h0

/-- C13 lifted to every history of queries (any length, repeats, DNS and web queries mixed): the i-th
    answer is `pureAnswer` of the i-th query, whatever was asked before. -/
theorem c13_history {R Re : Type} (env : Env R Re) (qs : List Query) :
    ∀ (s : State R Re), SInv env s → s.closed = [] →
      (runHistory env s (qs.map HEv.query)).2 = qs.map (pureAnswer env) :=
  fun s hs h0 => (runHistory_pure qs s hs h0).1

/-- The statement of the property: the answer after any history equals the answer of the same query
    as the FIRST query on a fresh engine (empty cache, empty pool, nothing compiled). -/
theorem c13_fresh {R Re : Type} (env : Env R Re) (qs : List Query) (q : Query) :
    (runQuery env (runHistory env ({} : State R Re) (qs.map HEv.query)).1 q).2.answer =
      (runQuery env ({} : State R Re) q).2.answer := by
  obtain ⟨_, hs, h0⟩ := runHistory_pure qs {} (sinv_init env) rfl
  rw [(c13 env _ q hs h0).2.1, (c13 env _ q (sinv_init env) rfl).2.1]

/-- `removeDNSRewriteRules` with the capacity-limited reslice `rules[:i:i]`, on explicit slices: it
    never panics, the heap only GROWS (`h ++ ext`: no existing backing array is written, so the caller's
    slice -- and every other slice -- shows the same elements afterwards), and the result is the
    sub-sequence of non-rewrite rules. -/
theorem rewrites_fresh {α : Type} (isRw : α → Bool) (h : Heap α) (rules : Slice) (hwf : rules.WF h) :
    ∃ ext f, removeDNSRewriteRulesS isRw true h rules = some (h ++ ext, f) ∧
      rules.view (h ++ ext) = rules.view h ∧
      f.view (h ++ ext) = (rules.view h).filter (fun r => !isRw r) := by
  obtain ⟨ext, f, h1, h2⟩ := removeDNSRewriteRulesS_spec isRw h rules hwf
  exact ⟨ext, f, h1, by simp only [Slice.view, heap_getD_append_left h ext hwf.1], h2⟩

/-- Non-vacuity of `rewrites_fresh`: with `rules[:i]` instead of `rules[:i:i]` (capacity kept) the first
    append writes INTO the caller's array: for `[rw, a]` the caller afterwards sees `[a, a]`. -/
example :
    let h : Heap Nat := [[1, 2]]
    let rules : Slice := { arr := 0, len := 2, cap := 2 }
    (removeDNSRewriteRulesS (· == 1) false h rules).map (fun p => rules.view p.1) = some [2, 2] ∧
    (removeDNSRewriteRulesS (· == 1) true h rules).map (fun p => rules.view p.1) = some [1, 2] := by decide +kernel

/-- Non-vacuity of `c13`/`c13_history`: a concrete engine (rules = numbers; 7 compiles and accepts, 8 has an
    invalid pattern, 9 is a "match anything" pattern; index 10 sits in two shortcut buckets), a history in
    which the second query finds the cache warm, the pool non-empty and the cells of 7 and 8 set. -/
example :
    let env : Env Nat Nat :=
      { truth := fun i => if i == 10 then some 7 else if i == 20 then some 8 else if i == 30 then some 9 else none,
        listOf := fun _ => 1, etld1 := id,
        cands := fun _ => [(true, 10), (true, 20), (true, 10), (false, 30), (false, 40)], hcands := fun _ => [],
        basic := fun _ => false, wants := fun _ _ => true, pre := fun _ _ => true,
        compile := fun r => if r == 7 then .re 1 else if r == 8 then .bad else .any,
        accepts := fun _ _ _ => true, resident := [8, 9] }
    let d1 : DReq := { hostname := lit "a", clientName := lit "laptop" }
    let d2 : DReq := { hostname := lit "a" }
    let h := runHistory env {} [.query (.dns d1), .query (.dns d2)]
    h.2 = [([7, 9, 9], []), ([7, 9, 9], [])] ∧ h.1.cache.length = 3 ∧ h.1.pool.length = 1 ∧
      h.1.cells (.st 10) = .compiled 1 ∧ h.1.cells (.st 20) = .invalid ∧ h.1.cells (.st 30) = .uncompiled ∧
      h.1.cells (.seq 0) = .invalid := by decide +kernel

end UF.C13
