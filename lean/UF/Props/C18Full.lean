import UF.Compose2.Dispatch
import UF.Compose2.DomainNameChars
import UF.Props.C18
/-
  C18 on the complete model of `rules.NewRule`: the dispatch statements of C18 are about `H`'s model of
  the tests `NewRule` applies before the hosts syntax (`newRuleKind`); UF/Compose2/Dispatch.lean shows that
  `E`'s checked models of `isComment` / `findCosmeticRuleMarker` are the same functions, so the statements
  hold of `newRuleFull`.
-/
namespace UF.C18
open UF Bytes UF.I2 UF.H

/-- The dispatch of the complete model is `H`'s `newRuleKind` on the trimmed line. -/
theorem c18_kind_full (ext : Ext) (reShortcut : Bytes → Bytes) (line : Bytes) (id : Int) :
    newRuleFull ext reShortcut line id =
      kindResult ext reShortcut (trimSpace line) id (newRuleKind ext isDomainNameB (trimSpace line) id) :=
  newRuleFull_kind ext reShortcut line id

/-- The two models of the comment and cosmetic-marker tests agree on every line. -/
theorem c18_tests_agree (line : Bytes) :
    E.isComment line = .ok (isCommentLine line) ∧
    E.findCosmeticRuleMarker line = .ok (findCosmeticRuleMarker line) :=
  ⟨isComment_eq line, findCosmeticRuleMarker_eq line⟩

/-- A list line whose trimmed text is `IP (sp|tab)+ name ((sp|tab)+ name)* ws* ['#' any]` (address and
    names without '$', the address not starting with '!') and whose comment does not begin with a
    cosmetic marker directly after a name yields, in the complete model of `NewRule`, the host rule with
    exactly the listed names and the parsed address (text = the trimmed line) -- whatever else the
    comment contains (`$$`, `$@$`, ` ##` …: the carve-out after the repair of D16). -/
theorem c18_dispatch_full (ext : Ext) (reShortcut : Bytes → Bytes) (line : Bytes)
    (ip : Bytes) (wn : List (Bytes × Bytes)) (trail cmt : Bytes) (a : Addr) (listID : Int)
    (htrim : trimSpace line = hostLineIP ip wn trail cmt)
    (hip : isHostToken ip = true) (hwn : goodPairs wn = true) (hne : wn ≠ [])
    (ht : allBlank trail = true) (hc : isCommentTail cmt = true)
    (ha : ext.parseAddr ip = some a)
    (hipd : isPlainToken ip = true) (hwnd : dollarFreePairs wn = true)
    (hout : commentIsMarker trail cmt = false) :
    newRuleFull ext reShortcut line listID =
      .ok (some (.host { text := hostLineIP ip wn trail cmt, listID := listID,
                         hostnames := wn.map (·.2), ip := a })) := by
  rw [newRuleFull_kind, htrim,
    c18_dispatch ext isDomainNameB ip wn trail cmt a listID hip hwn hne ht hc ha hipd hwnd hout]
  rfl

/-- The same for a bare domain name (`IsDomainName` is `E`'s state machine, no longer a
    parameter; it accepts only letters, digits, '.' and '-', so the name is a plain token:
    `isPlainToken_of_isDomainName`). -/
theorem c18_dispatch_bare_full (ext : Ext) (reShortcut : Bytes → Bytes) (line : Bytes)
    (name trail cmt : Bytes) (listID : Int)
    (htrim : trimSpace line = hostLineBare name trail cmt)
    (hn : isHostToken name = true) (hdn : E.isDomainNameC name = .ok true)
    (ht : allBlank trail = true) (hc : isCommentTail cmt = true)
    (hout : commentIsMarker trail cmt = false) :
    newRuleFull ext reShortcut line listID =
      .ok (some (.host { text := hostLineBare name trail cmt, listID := listID, hostnames := [name],
                         ip := { is4 := true, val := 0 } })) := by
  have hdn' : isDomainNameB name = true := by
    unfold isDomainNameB
    rw [hdn]
  rw [newRuleFull_kind, htrim,
    c18_dispatch_bare ext isDomainNameB name trail cmt listID hn hdn' ht hc
      (Compose.isPlainToken_of_isDomainName hdn) hout]
  rfl

/-- A host rule produced by the complete model answers a query iff the name is listed. -/
theorem c18_host_match_full (ext : Ext) (reShortcut : Bytes → Bytes) (line : Bytes) (id : Int)
    (h : HostRule) (_ : newRuleFull ext reShortcut line id = .ok (some (.host h))) (q : Bytes) :
    hostRuleMatches h q = true ↔ q ∈ h.hostnames :=
  host_match_iff h q

/-! ### Non-vacuity -/

private def exExt : Ext :=
  { psl := fun _ => ([], false),
    parseAddr := fun s => if s == lit "0.0.0.0" then some { is4 := true, val := 0 } else none,
    parsePrefix := fun _ => none, pat := fun _ _ _ => false }

/-- `  0.0.0.0 example.org  www.example.org # note\r\n`: the hypotheses hold and the model yields the
    two names. -/
example :
    let line := lit "  0.0.0.0 example.org  www.example.org # note\r\n"
    let ip := lit "0.0.0.0"
    let wn := [(lit " ", lit "example.org"), (lit "  ", lit "www.example.org")]
    trimSpace line = hostLineIP ip wn (lit " ") (lit "# note") ∧
    isHostToken ip = true ∧ goodPairs wn = true ∧ allBlank (lit " ") = true ∧ isCommentTail (lit "# note") = true ∧
    isPlainToken ip = true ∧ dollarFreePairs wn = true ∧
    commentIsMarker (lit " ") (lit "# note") = false := by decide +kernel

example : (match newRuleFull exExt (fun _ => []) (lit "  0.0.0.0 example.org  www.example.org # note\r\n") 3 with
    | .ok (some (.host h)) => some (h.hostnames, h.listID)
    | _ => none) = some ([lit "example.org", lit "www.example.org"], 3) := by decide +kernel

/-- The D16 replay through the complete model of `NewRule`: `0.0.0.0 example.org # costs$$5` is the
    host rule for `example.org` (before /repo d2e67f2 the line was rejected as a cosmetic rule). -/
example : (match newRuleFull exExt (fun _ => []) (lit "0.0.0.0 example.org # costs$$5\n") 3 with
    | .ok (some (.host h)) => some (h.hostnames, h.listID)
    | _ => none) = some ([lit "example.org"], 3) := by decide +kernel

end UF.C18
