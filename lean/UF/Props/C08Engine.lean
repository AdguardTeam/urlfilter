import UF.Compose5.C08Storage
import UF.Props.C06Top
import UF.Props.C02Top
import UF.Proofs.Lit
/-
  C08 AT ENGINE LEVEL: "adding a rule together with its `$badfilter` twin to any list leaves every verdict
  unchanged", at `Engine.MatchRequest` / `NetworkEngine.Match` and `DNSEngine.MatchRequest`, from the BYTES of the
  lists.  UF/Props/C08.lean speaks of the rules ALREADY matching a request; supplied here: (a) twins match the SAME
  requests (`Match` reads the shortcut, which `negatesBadfilter` does not compare; for parsed rules it is a function of
  the shared pattern); (b) the verdicts of two storages that differ by the pair, also given as two inserted LINES.
  The value-order inconsistency is in UF/Props/C08Order.lean, the text-level form of (a) in UF/Props/C08Text.lean.
-/
namespace UF.C08
open UF UF.B UF.Storage UF.Compose UF.Compose3 UF.L

/-! ### (a) twins match the same requests -/

/-- `Match` reads a rule only through the fields `negatesBadfilter` compares, plus the shortcut. -/
theorem matchFields_matches (ext : Ext) (x y : NetRule) (q : Request)
    (h : x.matchFields = y.matchFields) (hs : x.shortcut = y.shortcut) : x.matches ext q = y.matches ext q :=
  L.matchFields_matches ext x y q h hs

/-- … and not the `$badfilter` bit: a rule with the matching fields of `x$badfilter` and the shortcut of `x`
    matches exactly what `x` matches. -/
theorem twin_matches (ext : Ext) (x xb : NetRule) (q : Request)
    (hxb : xb.matchFields = x.withBadfilter.matchFields) (hs : xb.shortcut = x.shortcut) :
    xb.matches ext q = x.matches ext q :=
  L.twin_matches ext x xb q hxb hs

/-- Two rules `NewNetworkRule` returns (any texts, any list ids) with the same stored pattern have the same
    shortcut. -/
theorem parsed_same_pattern_same_shortcut (px : E.ParseExt) (t t' : Bytes) (i j : Int) (r r' : NetRule)
    (h : E.parseNetRule px t i = .ok r) (h' : E.parseNetRule px t' j = .ok r') (hp : r.pattern = r'.pattern) :
    r.shortcut = r'.shortcut :=
  L.parsed_same_pattern_same_shortcut h h' hp

/-- A PARSED rule and a PARSED twin of it (identical apart from the `$badfilter` modifier, the text and the
    list id) match the same requests. -/
theorem c08_twin_same_requests (px : E.ParseExt) (tx tb : Bytes) (i j : Int) (x xb : NetRule)
    (hx : E.parseNetRule px tx i = .ok x) (hb : E.parseNetRule px tb j = .ok xb)
    (hxb : xb.matchFields = x.withBadfilter.matchFields) :
    ∀ q, xb.matches px.ext q = x.matches px.ext q :=
  fun q => parsed_twin_matches hx hb hxb q

/-! ### (b) the verdict of the engine, from bytes -/

/-- `Engine.MatchRequest` on an already built request (any `rules.Request` value, e.g. with client data —
    what `NetworkEngine.Match` sees): two storages whose line-by-line parsed network rules are, as sets, those
    of `lists` plus `x` and `xb` (`x` not a badfilter rule, `xb` its `$badfilter` twin, `x` structurally
    distinct from every rule of `lists`) give the same verdict class.  `io`, the cache histories, the order of
    lists and lines, list ids and multiplicities are arbitrary on both sides. -/
theorem c08_storage_request (io io' : IO) (px : E.ParseExt) (lists lists' : List RList)
    (hok : StorageOK lists) (hok' : StorageOK lists')
    (st st' : RuleStorage) (hnew : newRuleStorage lists = some st) (hnew' : newRuleStorage lists' = some st')
    (h1 h2 h1' h2' : List (BitVec 64)) (x xb : NetRule)
    (hins : ∀ r, r ∈ netRulesOf (specRules px lists') ↔ r ∈ netRulesOf (specRules px lists) ∨ r = x ∨ r = xb)
    (hx : x.badfilter = false) (hxb : xb.matchFields = x.withBadfilter.matchFields)
    (hdist : ∀ r ∈ netRulesOf (specRules px lists), r.matchFields ≠ x.matchFields)
    (q : Request) :
    classOf (getBasicResult (engineMatch io' px lists' st' h1' h2' q)) =
      classOf (getBasicResult (engineMatch io px lists st h1 h2 q)) := by
  rw [C06.c06_top_request io' px lists' hok' st' hnew', C06.c06_top_request io px lists hok st hnew]
  obtain ⟨hxm, hbm⟩ := ins_parsed hins
  rw [classWeb_agree (matchingLines_ins hins hxb q) (sourceMatchingLines_ins hins hxb q)]
  exact classWeb_withPair _ _ x xb _ _ hx hxb
    (fun r hr => hdist r (matchingLines_sub hr)) (fun r hr => hdist r (sourceMatchingLines_sub hr))
    (fun r hr => allNet_noReplace (matchingLines_sub hr)) (allNet_noReplace hxm) (allNet_noReplace hbm)

/-- C08 FROM RAW INPUTS, web: verdict(L + {x, x$badfilter}) = verdict(L) for
    `NewEngine(storage).MatchRequest(NewRequest(url, sourceURL, type))`, all URL strings, source-URL strings
    and request types. -/
theorem c08_storage (io io' : IO) (px : E.ParseExt) (lists lists' : List RList)
    (hok : StorageOK lists) (hok' : StorageOK lists')
    (st st' : RuleStorage) (hnew : newRuleStorage lists = some st) (hnew' : newRuleStorage lists' = some st')
    (h1 h2 h1' h2' : List (BitVec 64)) (x xb : NetRule)
    (hins : ∀ r, r ∈ netRulesOf (specRules px lists') ↔ r ∈ netRulesOf (specRules px lists) ∨ r = x ∨ r = xb)
    (hx : x.badfilter = false) (hxb : xb.matchFields = x.withBadfilter.matchFields)
    (hdist : ∀ r ∈ netRulesOf (specRules px lists), r.matchFields ≠ x.matchFields)
    (url sourceURL : Bytes) (reqType : Nat) :
    classOf (getBasicResult (engineMatchRequest io' px lists' st' h1' h2' url sourceURL reqType)) =
      classOf (getBasicResult (engineMatchRequest io px lists st h1 h2 url sourceURL reqType)) :=
  c08_storage_request io io' px lists lists' hok hok' st st' hnew hnew' h1 h2 h1' h2' x xb hins hx hxb hdist _

/-- C08 FROM RAW INPUTS, DNS: the class of `DNSEngine.MatchRequest(dReq).NetworkRule` (non-empty hostname;
    any record type, client name / address / tags, any pooled request value). -/
theorem c08_storage_dns (io io' : IO) (px : E.ParseExt) (lists lists' : List RList)
    (hok : StorageOK lists) (hok' : StorageOK lists')
    (st st' : RuleStorage) (hnew : newRuleStorage lists = some st) (hnew' : newRuleStorage lists' = some st')
    (h h' : List (BitVec 64)) (x xb : NetRule)
    (hins : ∀ r, r ∈ netRulesOf (specRules px lists') ↔ r ∈ netRulesOf (specRules px lists) ∨ r = x ∨ r = xb)
    (hx : x.badfilter = false) (hxb : xb.matchFields = x.withBadfilter.matchFields)
    (hdist : ∀ r ∈ netRulesOf (specRules px lists), r.matchFields ≠ x.matchFields)
    (old old' : Request) (d : DReq) (hd : d.hostname ≠ []) :
    classOf (dnsEngineMatchRequest io' px lists' st' h' old' d).networkRule =
      classOf (dnsEngineMatchRequest io px lists st h old d).networkRule := by
  rw [C02.c02_top_class io' px lists' hok' st' hnew' h' old' d hd, C02.c02_top_class io px lists hok st hnew h old d hd]
  obtain ⟨hxm, hbm⟩ := ins_parsed hins
  rw [classDns_agree (dnsMatchingLines_ins hins hxb d)]
  exact classDns_withPair _ x xb _ hx hxb (fun r hr => hdist r (dnsMatchingLines_sub hr))
    (fun r hr => allNet_noReplace (dnsMatchingLines_sub hr)) (allNet_noReplace hxm) (allNet_noReplace hbm)

/-- … and `DNSResult.DNSRewrites()`: neither call crashes and the effective rewrites carry the same set of
    rule texts (`x` and `xb` themselves, `$dnsrewrite` rules or not, are never among them). -/
theorem c08_storage_rewrites (io io' : IO) (px : E.ParseExt) (lists lists' : List RList)
    (hok : StorageOK lists) (hok' : StorageOK lists')
    (st st' : RuleStorage) (hnew : newRuleStorage lists = some st) (hnew' : newRuleStorage lists' = some st')
    (h h' : List (BitVec 64)) (x xb : NetRule)
    (hins : ∀ r, r ∈ netRulesOf (specRules px lists') ↔ r ∈ netRulesOf (specRules px lists) ∨ r = x ∨ r = xb)
    (hx : x.badfilter = false) (hxb : xb.matchFields = x.withBadfilter.matchFields)
    (hdist : ∀ r ∈ netRulesOf (specRules px lists), r.matchFields ≠ x.matchFields)
    (old old' : Request) (d : DReq) (hd : d.hostname ≠ []) :
    ∃ out out', dnsEffectiveRewrites (dnsEngineMatchRequest io px lists st h old d) = some out ∧
      dnsEffectiveRewrites (dnsEngineMatchRequest io' px lists' st' h' old' d) = some out' ∧
      ∀ t, t ∈ out'.map (·.text) ↔ t ∈ out.map (·.text) := by
  obtain ⟨out, e1, t1⟩ := C02.c02_top_rewrites_lines io px lists hok st hnew h old d hd
  obtain ⟨out', e2, t2⟩ := C02.c02_top_rewrites_lines io' px lists' hok' st' hnew' h' old' d hd
  refine ⟨out, out', e1, e2, fun t => ?_⟩
  rw [t1, t2, texts_of_agree (specRewrites_agree (dnsMatchingLines_ins hins hxb d)),
    specRewrites_withPair _ x xb _ hx hxb (fun r hr => hdist r (dnsMatchingLines_sub hr))]

/-! ### (b') the same with the two rules given as two inserted LINES -/

/-- What the insertion of a line does to the bytes: `strings.Split` of the new content is that of the old one
    with the line put between two pieces — in the middle (`a ⏎ b` ↦ `a ⏎ t ⏎ b`), at the very beginning
    (`b` ↦ `t ⏎ b`) or at the very end (`a` ↦ `a ⏎ t`) of any list of the storage; the backing may change. -/
theorem c08_line_inserted (A B : List RList) (id : Int) (ic f f' : Bool) (a b t : Bytes) (ht : 10 ∉ t) :
    LineInserted t id (A ++ ⟨id, ic, a ++ 10 :: b, f⟩ :: B) (A ++ ⟨id, ic, a ++ 10 :: (t ++ 10 :: b), f'⟩ :: B) ∧
    LineInserted t id (A ++ ⟨id, ic, b, f⟩ :: B) (A ++ ⟨id, ic, t ++ 10 :: b, f'⟩ :: B) ∧
    LineInserted t id (A ++ ⟨id, ic, a, f⟩ :: B) (A ++ ⟨id, ic, a ++ 10 :: t, f'⟩ :: B) :=
  ⟨lineInserted_middle A B id ic f f' a b t ht, lineInserted_front A B id ic f f' b t ht,
    lineInserted_back A B id ic f f' a t ht⟩

/-- Two lines `tx` (into the list with id `i`) and `tb` (into the list with id `j`) inserted one after the
    other at arbitrary positions — same list or different lists, either relative order —, which `NewRule`
    turns into the network rules `x` and `xb`: the parsed network rules are the old ones plus `x` and `xb`. -/
theorem c08_lines_rules (px : E.ParseExt) (tx tb : Bytes) (i j : Int) (lists lists1 lists' : List RList)
    (x xb : NetRule) (hl1 : LineInserted tx i lists lists1) (hl2 : LineInserted tb j lists1 lists')
    (hpx : E.newRule (realRx px) tx i = .ok (some (.net x)))
    (hpb : E.newRule (realRx px) tb j = .ok (some (.net xb))) :
    ∀ r, r ∈ netRulesOf (specRules px lists') ↔ r ∈ netRulesOf (specRules px lists) ∨ r = x ∨ r = xb :=
  netRules_twoLinesInserted hl1 hl2 hpx hpb

/-- C08 from raw inputs with the pair given as two inserted lines, web and DNS together. -/
theorem c08_storage_lines (io io' : IO) (px : E.ParseExt) (lists lists1 lists' : List RList)
    (hok : StorageOK lists) (hok' : StorageOK lists')
    (st st' : RuleStorage) (hnew : newRuleStorage lists = some st) (hnew' : newRuleStorage lists' = some st')
    (h1 h2 h1' h2' : List (BitVec 64)) (tx tb : Bytes) (i j : Int) (x xb : NetRule)
    (hl1 : LineInserted tx i lists lists1) (hl2 : LineInserted tb j lists1 lists')
    (hpx : E.newRule (realRx px) tx i = .ok (some (.net x)))
    (hpb : E.newRule (realRx px) tb j = .ok (some (.net xb)))
    (hx : x.badfilter = false) (hxb : xb.matchFields = x.withBadfilter.matchFields)
    (hdist : ∀ r ∈ netRulesOf (specRules px lists), r.matchFields ≠ x.matchFields) :
    (∀ url sourceURL reqType,
      classOf (getBasicResult (engineMatchRequest io' px lists' st' h1' h2' url sourceURL reqType)) =
        classOf (getBasicResult (engineMatchRequest io px lists st h1 h2 url sourceURL reqType))) ∧
    (∀ q, classOf (getBasicResult (engineMatch io' px lists' st' h1' h2' q)) =
        classOf (getBasicResult (engineMatch io px lists st h1 h2 q))) ∧
    (∀ old old' d, d.hostname ≠ [] →
      classOf (dnsEngineMatchRequest io' px lists' st' h1' old' d).networkRule =
        classOf (dnsEngineMatchRequest io px lists st h1 old d).networkRule) := by
  have hins := netRules_twoLinesInserted hl1 hl2 hpx hpb
  exact ⟨fun url src ty => c08_storage io io' px lists lists' hok hok' st st' hnew hnew' h1 h2 h1' h2' x xb hins hx hxb
      hdist url src ty,
    fun q => c08_storage_request io io' px lists lists' hok hok' st st' hnew hnew' h1 h2 h1' h2' x xb hins hx hxb hdist q,
    fun old old' d hd => c08_storage_dns io io' px lists lists' hok hok' st st' hnew hnew' h1 h1' x xb hins hx hxb
      hdist old old' d hd⟩

/-! ### Non-vacuity -/

private def exPx : E.ParseExt :=
  { ext := { psl := fun _ => (lit "org", true), parseAddr := fun _ => none,
             parsePrefix := fun _ => none, pat := I2.modelPatD },
    loadDNSRewrite := fun _ => none, regexpShortcut := fun _ => [] }

private def exBase : List RList :=
  [⟨1, false, lit "||ads.org^\n@@||ads.org^$image\n", false⟩, ⟨7, false, lit "||x.org^", false⟩]

/-- `||ads.org^$important` goes into list 1 (middle), its twin into list 7 (end). -/
private def exMid : List RList :=
  [⟨1, false, lit "||ads.org^\n||ads.org^$important\n@@||ads.org^$image\n", false⟩, ⟨7, false, lit "||x.org^", false⟩]

private def exExt : List RList :=
  [⟨1, false, lit "||ads.org^\n||ads.org^$important\n@@||ads.org^$image\n", false⟩,
   ⟨7, false, lit "||x.org^\n||ads.org^$badfilter,important", false⟩]

example : StorageOK exBase ∧ StorageOK exExt := by
  unfold exBase exExt
  rw [lit_ofList, lit_ofList, lit_ofList, lit_ofList]
  exact ⟨⟨by decide +kernel, by decide +kernel, by decide +kernel⟩,
    ⟨by decide +kernel, by decide +kernel, by decide +kernel⟩⟩

example : LineInserted (lit "||ads.org^$important") 1 exBase exMid := by
  unfold exBase exMid
  rw [show lit "||ads.org^\n@@||ads.org^$image\n" = lit "||ads.org^" ++ 10 :: lit "@@||ads.org^$image\n" from by
        rw [lit_ofList, lit_ofList, lit_ofList]; decide +kernel,
    show lit "||ads.org^\n||ads.org^$important\n@@||ads.org^$image\n" =
        lit "||ads.org^" ++ 10 :: (lit "||ads.org^$important" ++ 10 :: lit "@@||ads.org^$image\n") from by
      rw [lit_ofList, lit_ofList, lit_ofList, lit_ofList]; decide +kernel]
  exact lineInserted_middle [] [⟨7, false, lit "||x.org^", false⟩] 1 false false false _ _ _ (by decide +kernel)

example : LineInserted (lit "||ads.org^$badfilter,important") 7 exMid exExt := by
  unfold exMid exExt
  rw [show lit "||x.org^\n||ads.org^$badfilter,important" = lit "||x.org^" ++ 10 :: lit "||ads.org^$badfilter,important"
    from by rw [lit_ofList, lit_ofList, lit_ofList]; decide +kernel]
  exact lineInserted_back [⟨1, false, lit "||ads.org^\n||ads.org^$important\n@@||ads.org^$image\n", false⟩] [] 7 false
    false false _ _ (by decide +kernel)

private def exNet (t : Bytes) (id : Int) : NetRule :=
  match E.newRule (realRx exPx) t id with
  | .ok (some (.net x)) => x
  | _ => default

/-- The two lines parse to twins, `x` is distinct from the three base rules, and the computed verdicts agree
    (an image request is allowed by the exception — which `$important` would have overridden —, a script
    request is blocked). -/
example :
    (match E.newRule (realRx exPx) (lit "||ads.org^$important") 1,
           E.newRule (realRx exPx) (lit "||ads.org^$badfilter,important") 7 with
     | .ok (some (.net _)), .ok (some (.net _)) => true
     | _, _ => false) = true ∧
    (exNet (lit "||ads.org^$important") 1).badfilter = false ∧
    (exNet (lit "||ads.org^$badfilter,important") 7).matchFields =
      (exNet (lit "||ads.org^$important") 1).withBadfilter.matchFields ∧
    (∀ r ∈ netRulesOf (specRules exPx exBase), r.matchFields ≠ (exNet (lit "||ads.org^$important") 1).matchFields) ∧
    classOf (getBasicResult (engineMatchRequest ⟨4096, fun _ => 1⟩ exPx exExt ⟨exExt, []⟩ [] []
      (lit "http://ads.org/x.png") [] 32)) = .allow ∧
    classOf (getBasicResult (engineMatchRequest ⟨4096, fun _ => 1⟩ exPx exBase ⟨exBase, []⟩ [] []
      (lit "http://ads.org/x.png") [] 32)) = .allow ∧
    classOf (getBasicResult (engineMatchRequest ⟨4096, fun _ => 1⟩ exPx exExt ⟨exExt, []⟩ [] []
      (lit "http://ads.org/x.js") [] 4)) = .block := by
  -- the first conjunct on its own: a literal rewritten inside the discriminant of a `match` is evaluated twice
  refine ⟨by decide +kernel, ?_⟩
  unfold exBase exExt
  rw [lit_ofList, lit_ofList, lit_ofList, lit_ofList, lit_ofList, lit_ofList, lit_ofList, lit_ofList]
  decide +kernel

end UF.C08
