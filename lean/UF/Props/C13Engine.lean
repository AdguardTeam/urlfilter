import UF.Compose4.EnvOfStorage
import UF.Proofs.Lit
import UF.Compose4.CacheRefine
import UF.Props.C13
/-
  C13 ON THE ENGINE MODELS.  `Props/C13.lean` proves purity for the state machine
  `UF.Prog` over an abstract environment; here the environment is `Compose4.envOf`: the lookup tables
  (`Engine.build` / `DnsEngine.build`: shortcut windows, domain suffixes, hosts bucket, sequential table),
  `NetworkRule.Match` split into its stateless checks and the lazily compiled pattern, and --
  from `c13_engine` on -- the storage model as the retrieval function, built from the BYTES of the lists.

  What is stated: a history of queries run on the state machine (rule cache, request pool, lazy-compile cells
  all evolving) returns, query by query, what the ENGINE MODEL returns (`Engine.matchAll`,
  `DnsEngine.matchRequest`) when it retrieves through the storage model WITH ITS CACHE in any reachable cache
  state -- in particular the fresh one.  Lists are compared as lists (same rules, order, multiplicities).
-/
namespace UF.C13
open UF UF.B UF.Prog UF.Storage UF.Compose UF.Compose4

/-- The stateless answer of the state machine on the engine environment IS the engine model's answer. -/
theorem c13_pure_is_engine {Re : Type} (hf : HashFns) (k : Nat) (truth : Int → Option Rule) (listOf : Int → Int)
    (etld1 : Bytes → Bytes) (ext : Ext) (pm : PatModel Re) (basic : List NetRule → Option NetRule) (d : DnsEngine)
    (hpat : ext.pat = pm.pat) (q : Query) :
    pureAnswer (envOf hf k truth listOf etld1 ext pm basic d) q = engineAnswer hf k truth etld1 ext basic d q :=
  pureAnswer_eq hpat q

/-- `Match` of the state machine on a fresh rule object is `NetworkRule.Match` of the rule model. -/
theorem c13_match_is_engine {Re : Type} (hf : HashFns) (k : Nat) (truth : Int → Option Rule) (listOf : Int → Int)
    (etld1 : Bytes → Bytes) (ext : Ext) (pm : PatModel Re) (basic : List NetRule → Option NetRule) (d : DnsEngine)
    (hpat : ext.pat = pm.pat) (n : NetRule) (q : Request) :
    (envOf hf k truth listOf etld1 ext pm basic d).mtch (.net n) q = n.matches ext q :=
  envOf_mtch_net hpat n q

/-- C13 for ANY engine model (any hash pair, window length, tables `d`, retrieval function, pattern model):
    every history of web and DNS queries, from any state satisfying the shared invariant, answers what the
    engine model answers statelessly. -/
theorem c13_engine_generic {Re : Type} (hf : HashFns) (k : Nat) (truth : Int → Option Rule) (listOf : Int → Int)
    (etld1 : Bytes → Bytes) (ext : Ext) (pm : PatModel Re) (basic : List NetRule → Option NetRule) (d : DnsEngine)
    (hpat : ext.pat = pm.pat) (s : State Rule Re) (hs : SInv (envOf hf k truth listOf etld1 ext pm basic d) s)
    (h0 : s.closed = []) (qs : List Query) :
    (runHistory (envOf hf k truth listOf etld1 ext pm basic d) s (qs.map HEv.query)).2 =
      qs.map (engineAnswer hf k truth etld1 ext basic d) := by
  rw [c13_history _ qs s hs h0]
  exact List.map_congr_left (fun q _ => pureAnswer_eq hpat q)

/-- C13 FOR THE DNS ENGINE BUILT FROM THE BYTES OF THE LISTS: any history of queries (DNS queries through
    the request pool; `web` queries = `MatchAll` of its network engine) on the state machine returns, query by
    query, what the engine model returns when it retrieves through the storage model with its cache in
    ANY reachable cache state `reach … history` -- e.g. `history = []`, the fresh engine. -/
theorem c13_engine {Re : Type} (io : IO) (px : E.ParseExt) (lists : List RList) (pm : PatModel Re)
    (hpat : px.ext.pat = pm.pat) (st : RuleStorage) (hnew : newRuleStorage lists = some st)
    (history : List (BitVec 64)) (qs : List Query) :
    (runHistory (envDns io px lists pm) {} (qs.map HEv.query)).2 = qs.map (dnsAnswer io px lists st history) := by
  rw [c13_history _ qs {} (sinv_init _) rfl]
  exact List.map_congr_left (fun q _ => pureAnswer_envDns io px lists pm hpat st hnew history q)

/-- The same for the network engine of the lists (`NewNetworkEngine`). -/
theorem c13_engine_net {Re : Type} (io : IO) (px : E.ParseExt) (lists : List RList) (pm : PatModel Re)
    (hpat : px.ext.pat = pm.pat) (st : RuleStorage) (hnew : newRuleStorage lists = some st)
    (history : List (BitVec 64)) (qs : List Query) :
    (runHistory (envNet io px lists pm) {} (qs.map HEv.query)).2 = qs.map (netAnswer io px lists st history) := by
  rw [c13_history _ qs {} (sinv_init _) rfl]
  exact List.map_congr_left (fun q _ => pureAnswer_envNet io px lists pm hpat st hnew history q)

/-- …spelled out for `NetworkEngine.MatchAll`: whatever was asked before (`before`), the answer to `q` is the
    list `Engine.matchAll` computes on the engine built from the lists -- the object `C01.c01_storage` equates
    with the linear scan of the lists. -/
theorem c13_engine_matchAll {Re : Type} (io : IO) (px : E.ParseExt) (lists : List RList) (pm : PatModel Re)
    (hpat : px.ext.pat = pm.pat) (st : RuleStorage) (hnew : newRuleStorage lists = some st)
    (history : List (BitVec 64)) (before : List Query) (q : Request) :
    (runQuery (envNet io px lists pm) (runHistory (envNet io px lists pm) {} (before.map HEv.query)).1 (.web q)).2.answer =
      (((Engine.build djb2 Facts.shortcutLength (storageNetRules px lists)).matchAll djb2 Facts.shortcutLength
          (retrieveNet (retrieveAt io px (reach io px st history))) px.ext q).map Rule.net, []) := by
  rw [c13_fresh, (c13 _ {} (.web q) (sinv_init _) rfl).2.1, pureAnswer_envNet io px lists pm hpat st hnew history]
  rfl

/-- …and for `DNSEngine.MatchRequest`: whatever was asked before and whatever the pooled request `old` holds,
    the answer assembles to the top-level model `dnsEngineMatchRequest` (from bytes). -/
theorem c13_engine_matchRequest {Re : Type} (io : IO) (px : E.ParseExt) (lists : List RList) (pm : PatModel Re)
    (hpat : px.ext.pat = pm.pat) (st : RuleStorage) (hnew : newRuleStorage lists = some st)
    (history : List (BitVec 64)) (before : List Query) (old : Request) (d : DReq) (hd : d.hostname ≠ []) :
    dnsResultOf getDNSBasicRule
        (runQuery (envDns io px lists pm) (runHistory (envDns io px lists pm) {} (before.map HEv.query)).1 (.dns d)).2.answer =
      Compose3.dnsEngineMatchRequest io px lists st history old d := by
  rw [c13_fresh, (c13 _ {} (.dns d) (sinv_init _) rfl).2.1, pureAnswer_envDns io px lists pm hpat st hnew history,
    dnsAnswer_dns io px lists st history old d hd]

/-- No hypothesis on the pattern oracle is needed: every `ext.pat` is the oracle of a pattern model (the
    compiled object = the pair it was compiled from). -/
theorem c13_engine_every_oracle (io : IO) (px : E.ParseExt) (lists : List RList)
    (st : RuleStorage) (hnew : newRuleStorage lists = some st) (history : List (BitVec 64)) (qs : List Query) :
    (runHistory (envDns io px lists (PatModel.ofOracle px.ext.pat)) {} (qs.map HEv.query)).2 =
      qs.map (dnsAnswer io px lists st history) :=
  c13_engine io px lists _ rfl st hnew history qs

/-- THE CACHE OF THE STATE MACHINE IS THE CACHE OF THE STORAGE MODEL: from related states (`CacheRel`: the state
    machine's cache serves exactly the rule objects behind what `RuleStorage.cache` holds; a new storage and the
    empty state are related), the retrieval sub-program `get / read / put` of the state machine, run alone, hands
    the table the pointer `RuleStorage.RetrieveRule` of the storage model returns (`retrieveFull`, before the type
    assertion of `RetrieveNetworkRule`/`RetrieveHostRule`), and ends in related states.  `i` is any Go `int64`
    (every index a table holds is one: `idxOf k = k.toInt`). -/
theorem c13_cache_is_storage_cache {Re : Type} (io : IO) (px : E.ParseExt) (lists : List RList) (pm : PatModel Re)
    (st : RuleStorage) (hinv : Storage.CacheInv io (realParser px) st) (hl : st.lists = lists)
    (s : State Rule Re) (t : Thread Rule) (src : Src) (i : Int) (hi : (BitVec.ofInt 64 i).toInt = i)
    (hrel : CacheRel px st s.cache) (h0 : s.closed = []) :
    (retrieveProg (envDns io px lists pm) s t src i).2.pc =
        .use src i ((retrieveFull io px st (BitVec.ofInt 64 i)).1.filter ((envDns io px lists pm).wants src)) ∧
      CacheRel px (retrieveFull io px st (BitVec.ofInt 64 i)).2 (retrieveProg (envDns io px lists pm) s t src i).1.cache ∧
      (retrieveProg (envDns io px lists pm) s t src i).1.closed = [] :=
  retrieve_refines io px lists (envDns io px lists pm) rfl st hinv hl s t src i hi hrel h0

/-! ### Non-vacuity: a concrete storage (two lists, String- and File-backed; a hosts line; a `$domain` rule; the
    same text in both lists), the network engine built from its bytes, and a history of two identical queries
    run on the STATE MACHINE: the second finds the cache warm and the lazy-compile cells set, both return the
    list `Engine.matchAll` computes (shortcuts table first, then the domains table). -/

private def exPx : E.ParseExt :=
  { ext := { psl := fun _ => (lit "org", true), parseAddr := fun s => if s == lit "0.0.0.0" then some ⟨true, 0, []⟩ else none,
             parsePrefix := fun _ => none, pat := fun p _ t => Bytes.hasSub t p },
    loadDNSRewrite := fun _ => none, regexpShortcut := fun _ => [] }

private def exLists : List RList :=
  [⟨1, false, lit "/banner\r\n! c\n0.0.0.0 b.org\n-ads-\n", false⟩,
   ⟨-2, true, lit "##x\n/ad$domain=c.org\n-ads-", true⟩]

private def exQ : Request :=
  { url := lit "http://x.org/ad/-ads-/banner", urlLower := lit "http://x.org/ad/-ads-/banner", hostname := lit "x.org",
    sourceURL := lit "http://c.org/", sourceHostname := lit "c.org", reqType := 4, thirdParty := true }

example :
    let env := envNet ⟨4096, fun _ => 3⟩ exPx exLists (PatModel.ofOracle exPx.ext.pat)
    let h := runHistory env {} [.query (.web exQ), .query (.web exQ)]
    h.2.map (fun a => (netRulesOf a.1).map (fun r => (r.text, r.listID))) =
        [[(lit "-ads-", 1), (lit "-ads-", -2), (lit "/banner", 1), (lit "/ad$domain=c.org", -2)],
         [(lit "-ads-", 1), (lit "-ads-", -2), (lit "/banner", 1), (lit "/ad$domain=c.org", -2)]] ∧
      h.1.cache.length = 4 ∧
      ((Engine.build djb2 Facts.shortcutLength (storageNetRules exPx exLists)).matchAll djb2 Facts.shortcutLength
          (retrieveNet (retrieveAt ⟨4096, fun _ => 3⟩ exPx ⟨exLists, []⟩)) exPx.ext exQ).map (fun r => (r.text, r.listID)) =
        [(lit "-ads-", 1), (lit "-ads-", -2), (lit "/banner", 1), (lit "/ad$domain=c.org", -2)] := by
  unfold exLists exQ
  -- the long literals as character lists (`Lit.lean`): the kernel is slow on `String.toList` of a literal
  rw [lit_ofList, lit_ofList, lit_ofList]
  decide +kernel

end UF.C13
