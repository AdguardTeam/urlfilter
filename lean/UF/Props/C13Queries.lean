import UF.Compose4.Queries
import UF.Props.C13Engine
import UF.Proofs.Lit
/-
  C13 FOR `Engine.MatchRequest` AND THE COSMETIC QUERY.

  `Compose4/Queries.lean` adds to the machine's `dns` and `web` queries, as programs over the same shared state,
  `matchRequest r` (`Engine.MatchRequest`) and `cosmetic hostname option` (`Engine.GetCosmeticResult`, which does
  not touch the shared state); the code reading is in the header of that file.
  Stated here: for every history of the four kinds of events -- from the fresh engine, or from any state
  satisfying the shared invariant with no closed list -- every answer is the stateless one (`c13_queries`), which
  is the answer of the same event as the FIRST event on a fresh engine (`c13_queries_fresh`); on the network
  engine built from the BYTES of the lists the stateless `matchRequest` answer IS the top-level model
  `Compose3.engineMatch` / `engineMatchRequest` (`c13_queries_engine`, `c13_matchRequest_top`) and the cosmetic
  answer is `Compose3.engineCosmeticResult`; and the same for an `Engine` and a `DNSEngine` built over ONE
  storage, whose rule cache and cached rule objects (lazy-compile state) they share (`c13_two_engines`).

  NOT covered (tests only): immutability of earlier result OBJECTS under
  `DNSRewrites`/`GetBasicResult`/`GetCosmeticOption` beyond `rewrites_fresh`; the answers here are values.
-/
namespace UF.C13
open UF UF.B UF.Prog UF.Storage UF.Compose UF.Compose4

/-- C13 for histories of DNS, `MatchAll`, `Engine.MatchRequest` and cosmetic events, ANY environment: from any
    state satisfying the shared invariant with no closed list (whatever the cache, the pool and the lazy-compile
    cells hold), every answer is the stateless answer of its event, and the state reached is again such a
    state. -/
theorem c13_queries {Re : Type} (env : Env Rule Re) (cx : QCtx) (s : State Rule Re) (hs : SInv env s)
    (h0 : s.closed = []) (es : List QEv) :
    (runQHistory env cx s es).2 = es.map (pureQAns env cx) ∧
      SInv env (runQHistory env cx s es).1 ∧ (runQHistory env cx s es).1.closed = [] := by
  obtain ⟨a, c⟩ := runQHistory_pure cx es (s := s) ⟨hs, h0⟩
  exact ⟨a, c.1, c.2⟩

/-- The statement of the property: the answer to an event after ANY history of events equals the answer to the
    same event as the first event on a fresh engine (empty cache, empty pool, nothing compiled). -/
theorem c13_queries_fresh {Re : Type} (env : Env Rule Re) (cx : QCtx) (es : List QEv) (e : QEv) :
    (runQEv env cx (runQHistory env cx ({} : State Rule Re) es).1 e).2 = (runQEv env cx ({} : State Rule Re) e).2 := by
  obtain ⟨_, c⟩ := runQHistory_pure cx es (clean_init env)
  rw [(runQEv_pure cx e c).1, (runQEv_pure cx e (clean_init env)).1]

/-- `Engine.MatchRequest` alone: the two `MatchAll` runs of one call see different states (the second finds the
    cache and the cells as the first left them), and the call may follow any history; the result is
    `NewMatchingResult` of the two stateless `MatchAll` answers. -/
theorem c13_matchRequest {Re : Type} (env : Env Rule Re) (cx : QCtx) (s : State Rule Re) (hs : SInv env s)
    (h0 : s.closed = []) (r : Request) :
    (runMatchRequest env cx s r).2 =
      newMatchingResult (netRulesOf (pureAnswer env (.web r)).1)
        (if r.sourceURL != [] then netRulesOf (pureAnswer env (.web (cx.sourceReq r))).1 else []) ∧
    SInv env (runMatchRequest env cx s r).1 ∧ (runMatchRequest env cx s r).1.closed = [] := by
  obtain ⟨a, c⟩ := runMatchRequest_pure cx r (s := s) ⟨hs, h0⟩
  exact ⟨a, c.1, c.2⟩

/-- The cosmetic query neither reads nor writes the shared state (rule cache, lazy-compile cells, pool, fault
    state): the state after it is the state before it, and its answer is a function of the immutable tables. -/
theorem c13_cosmetic_inert {Re : Type} (env : Env Rule Re) (cx : QCtx) (s : State Rule Re) (h : Bytes) (o : CosOpt) :
    runQEv env cx s (.cosmetic h o) = (s, .cosmetic (cx.cosmetic h o)) := rfl

/-- On the network engine built from the bytes of the lists the stateless `matchRequest` answer IS the top-level
    model of `Engine.MatchRequest` (retrieving through the storage model in any two reachable cache states). -/
theorem c13_matchRequest_is_engine {Re : Type} (io : IO) (px : E.ParseExt) (lists : List RList) (pm : PatModel Re)
    (hpat : px.ext.pat = pm.pat) (st : RuleStorage) (hnew : newRuleStorage lists = some st)
    (history history' : List (BitVec 64)) (r : Request) :
    pureMatchRequest (envNet io px lists pm) (engineCtx px lists) r =
      Compose3.engineMatch io px lists st history history' r :=
  pureMatchRequest_envNet io px lists pm hpat st hnew history history' r

/-- C13 FOR THE `Engine` (engine.go) BUILT FROM THE BYTES OF THE LISTS: any history of `MatchAll`,
    `Engine.MatchRequest` and `GetCosmeticResult` events on the state machine returns, event by event, what the
    engine models return from the bytes: `Engine.matchAll` (over the storage model with its cache in any
    reachable state), `Compose3.engineMatch` (`MatchAll` twice + `NewMatchingResult`),
    `Compose3.engineCosmeticResult`.  (`dns` events on this environment are the degenerate DNS
    engine without hosts table; for the real one see `c13_two_engines`.) -/
theorem c13_queries_engine {Re : Type} (io : IO) (px : E.ParseExt) (lists : List RList) (pm : PatModel Re)
    (hpat : px.ext.pat = pm.pat) (st : RuleStorage) (hnew : newRuleStorage lists = some st)
    (history history' : List (BitVec 64)) (es : List QEv) :
    (runQHistory (envNet io px lists pm) (engineCtx px lists) {} es).2 =
      es.map (engineQAns io px lists st history history') := by
  rw [(runQHistory_pure _ es (clean_init _)).1]
  exact List.map_congr_left (fun e _ => pureQAns_envNet io px lists pm hpat st hnew history history' e)

/-- …spelled out for `Engine.MatchRequest` from RAW inputs: whatever events came before, the call on
    `NewRequest(url, sourceURL, reqType)` returns the top-level `engineMatchRequest` (the object of
    `c06_top`, `c16_top`). -/
theorem c13_matchRequest_top {Re : Type} (io : IO) (px : E.ParseExt) (lists : List RList) (pm : PatModel Re)
    (hpat : px.ext.pat = pm.pat) (st : RuleStorage) (hnew : newRuleStorage lists = some st)
    (history history' : List (BitVec 64)) (before : List QEv) (url sourceURL : Bytes) (reqType : Nat) :
    (runMatchRequest (envNet io px lists pm) (engineCtx px lists)
        (runQHistory (envNet io px lists pm) (engineCtx px lists) {} before).1
        (Compose3.requestOf px.ext url sourceURL reqType)).2 =
      Compose3.engineMatchRequest io px lists st history history' url sourceURL reqType := by
  obtain ⟨_, c⟩ := runQHistory_pure (engineCtx px lists) before (clean_init (envNet io px lists pm))
  rw [(runMatchRequest_pure _ _ c).1, pureMatchRequest_envNet io px lists pm hpat st hnew history history']
  rfl

/-- …and for the cosmetic query: whatever events came before, and leaving the state as it was. -/
theorem c13_cosmetic_top {Re : Type} (io : IO) (px : E.ParseExt) (lists : List RList) (pm : PatModel Re)
    (before : List QEv) (hostname : Bytes) (option : CosOpt) :
    runQEv (envNet io px lists pm) (engineCtx px lists)
        (runQHistory (envNet io px lists pm) (engineCtx px lists) {} before).1 (.cosmetic hostname option) =
      ((runQHistory (envNet io px lists pm) (engineCtx px lists) {} before).1,
        .cosmetic (Compose3.engineCosmeticResult px lists hostname option)) := rfl

/-- No hypothesis on the pattern oracle is needed (every `ext.pat` is the oracle of a pattern model). -/
theorem c13_queries_engine_every_oracle (io : IO) (px : E.ParseExt) (lists : List RList)
    (st : RuleStorage) (hnew : newRuleStorage lists = some st) (history history' : List (BitVec 64)) (es : List QEv) :
    (runQHistory (envNet io px lists (PatModel.ofOracle px.ext.pat)) (engineCtx px lists) {} es).2 =
      es.map (engineQAns io px lists st history history') :=
  c13_queries_engine io px lists _ rfl st hnew history history' es

/-- AN `Engine` AND A `DNSEngine` OVER ONE STORAGE (`NewEngine(s)`, `NewDNSEngine(s)`): they share the rule cache
    and the rule objects in it (hence their lazy-compile cells), and have their own lookup tables,
    sequential-table objects and request pool.  Any history alternating DNS queries (on the DNS engine) with
    `MatchAll`, `Engine.MatchRequest` and cosmetic queries (on the `Engine`), from the fresh pair, returns event
    by event what the engine models return from the bytes -- whatever the other engine put into the cache or
    compiled before. -/
theorem c13_two_engines {Re : Type} (io : IO) (px : E.ParseExt) (lists : List RList) (pm : PatModel Re)
    (hpat : px.ext.pat = pm.pat) (st : RuleStorage) (hnew : newRuleStorage lists = some st)
    (history history' : List (BitVec 64)) (es : List QEv) :
    (runWHistory (envNet io px lists pm) (envDns io px lists pm) (engineCtx px lists) {} es).2 =
      es.map (worldQAns io px lists st history history') := by
  rw [runWHistory_pure (sameStorage_envNet_envDns io px lists pm) _ es (clean_init _) (clean_init _)]
  apply List.map_congr_left
  intro e _
  cases e with
  | dns d => simp only [pureWAns, worldQAns, pureQAns, pureAnswer_envDns io px lists pm hpat st hnew history]
  | web r => exact pureQAns_envNet io px lists pm hpat st hnew history history' (.web r)
  | matchRequest r => exact pureQAns_envNet io px lists pm hpat st hnew history history' (.matchRequest r)
  | cosmetic h o => rfl

/-! ### Non-vacuity, from list BYTES: a blocking rule, a `$document` exception that matches the REFERRER only, a hosts
    line, a specific and a generic cosmetic rule.  `Engine.MatchRequest` with a source URL (two `MatchAll` runs:
    the document exception comes from the second) is asked three times in a history that also holds a cosmetic
    query, a plain `MatchAll` and the same request without referrer: the answers with referrer are equal, equal
    to the answer of the fresh engine and to the top-level `engineMatchRequest` from raw inputs; without referrer
    the request is blocked. -/

private def exPx : E.ParseExt :=
  { ext := { psl := fun _ => (lit "org", true), parseAddr := fun s => if s == lit "0.0.0.0" then some ⟨true, 0, []⟩ else none,
             parsePrefix := fun _ => none, pat := fun p _ t => Bytes.hasSub t p },
    loadDNSRewrite := fun _ => none, regexpShortcut := fun _ => [] }

private def exLists : List RList :=
  [⟨1, false, lit "/banner\r\n! c\n0.0.0.0 b.org\n-ads-\n@@c.org/page$document\nc.org##.ad\n##.gen\n", false⟩,
   ⟨-2, true, lit "##x\n/ad$domain=c.org\n-ads-", true⟩]

private def exIO : IO := ⟨4096, fun _ => 3⟩

private def exView : QAns → Option Bytes × Option Bytes × List Bytes × List Bytes
  | .result m => (m.basicRule.map (·.text), m.documentRule.map (·.text), [], [])
  | .rules a => (none, none, (netRulesOf a.1).map (·.text), (hostRulesOf a.2).map (·.text))
  | .cosmetic c => (none, none, c.1, c.2)

example :
    let env := envNet exIO exPx exLists (PatModel.ofOracle exPx.ext.pat)
    let cx := engineCtx exPx exLists
    let url := lit "http://x.org/ad/-ads-/banner"
    let src := lit "http://c.org/page"
    let r := Compose3.requestOf exPx.ext url src 4
    let r0 := Compose3.requestOf exPx.ext url [] 4
    let h := runQHistory env cx {}
      [.matchRequest r, .cosmetic (lit "c.org") 0xFFFFFFFF#32, .web r, .matchRequest r0, .matchRequest r, .matchRequest r]
    h.2.map exView =
      [(none, some (lit "@@c.org/page$document"), [], []),
       (none, none, [lit ".gen"], [lit ".ad"]),
       (none, none, [lit "-ads-", lit "-ads-", lit "/banner", lit "/ad$domain=c.org"], []),
       (some (lit "-ads-"), none, [], []),
       (none, some (lit "@@c.org/page$document"), [], []),
       (none, some (lit "@@c.org/page$document"), [], [])] ∧
    h.2[0]? = h.2[4]? ∧ h.2[4]? = h.2[5]? ∧
    h.2[5]? = some (runQEv env cx {} (.matchRequest r)).2 ∧
    (runQEv env cx {} (.matchRequest r)).2 =
      .result (Compose3.engineMatchRequest exIO exPx exLists ⟨exLists, []⟩ [] [] url src 4) ∧
    h.1.cache.length = 5 := by
  unfold exLists
  -- the long literals as character lists (`Lit.lean`): the kernel is slow on `String.toList` of a literal
  rw [lit_ofList, lit_ofList, lit_ofList, lit_ofList, lit_ofList]
  decide +kernel

/-- Two engines over the same lists: DNS queries on the DNS engine alternate with `Engine.MatchRequest` and a
    cosmetic query on the `Engine`; the shared cache grows, every answer repeats. -/
example :
    let envN := envNet exIO exPx exLists (PatModel.ofOracle exPx.ext.pat)
    let envD := envDns exIO exPx exLists (PatModel.ofOracle exPx.ext.pat)
    let cx := engineCtx exPx exLists
    let r := Compose3.requestOf exPx.ext (lit "http://x.org/ad/-ads-/banner") (lit "http://c.org/page") 4
    let d : DReq := { hostname := lit "b.org", clientName := lit "laptop" }
    let h := runWHistory envN envD cx {}
      [.dns d, .matchRequest r, .dns { hostname := lit "b.org" }, .cosmetic (lit "c.org") 0xFFFFFFFF#32, .matchRequest r]
    h.2.map exView =
      [(none, none, [], [lit "0.0.0.0 b.org"]),
       (none, some (lit "@@c.org/page$document"), [], []),
       (none, none, [], [lit "0.0.0.0 b.org"]),
       (none, none, [lit ".gen"], [lit ".ad"]),
       (none, some (lit "@@c.org/page$document"), [], [])] ∧
    h.1.web.cache.length = 6 ∧ h.1.dns.cache = h.1.web.cache ∧ h.1.dns.pool.length = 1 ∧ h.1.web.pool.length = 0 := by
  unfold exLists
  rw [lit_ofList, lit_ofList]
  decide +kernel

/-- `c13_matchRequest_top` instantiated on these lists (its hypotheses are satisfiable), after ANY history. -/
example (before : List QEv) :
    (runMatchRequest (envNet exIO exPx exLists (PatModel.ofOracle exPx.ext.pat)) (engineCtx exPx exLists)
        (runQHistory (envNet exIO exPx exLists (PatModel.ofOracle exPx.ext.pat)) (engineCtx exPx exLists) {} before).1
        (Compose3.requestOf exPx.ext (lit "http://x.org/ad/-ads-/banner") (lit "http://c.org/page") 4)).2 =
      Compose3.engineMatchRequest exIO exPx exLists ⟨exLists, []⟩ [] []
        (lit "http://x.org/ad/-ads-/banner") (lit "http://c.org/page") 4 :=
  c13_matchRequest_top exIO exPx exLists _ rfl ⟨exLists, []⟩ rfl [] [] before _ _ 4

end UF.C13
