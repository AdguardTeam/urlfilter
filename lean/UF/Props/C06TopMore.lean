import UF.Compose3.NetMatch
import UF.Compose3.Lines
import UF.Props.C06Top
import UF.Proofs.Lit
/-
  C06 AT THE TOP LEVEL, continued: `NetworkEngine.Match`; the basic rule and the document rule of
  `Engine.MatchRequest` are WINNERS (candidates of the reference sets that no candidate outranks); and the verdict
  class depends on the bytes only through the SET of lines of the lists (list ids are stored in the parsed rule and
  read by nothing that decides acceptance, matching, effectiveness or priority).
-/
namespace UF.C06
open UF UF.B UF.Storage UF.Compose UF.Compose3 Bytes

/-- C06 FOR `NetworkEngine.Match`, from raw inputs: the class of the returned rule is the documented precedence
    over the lines of the lists that individually match the request (no referrer: nothing is suppressed). -/
theorem c06_top_netmatch (io : IO) (px : E.ParseExt) (lists : List RList) (hok : StorageOK lists)
    (st : RuleStorage) (hnew : newRuleStorage lists = some st) (history : List (BitVec 64)) (r : Request) :
    classOf (networkEngineMatch io px lists st history r) = classWeb (matchingLines px lists r) [] := by
  rw [networkEngineMatch_eq, webClass_of_noReplace _ _ (netMatchAll_noReplace io px lists hok st hnew history r)]
  exact classWeb_agree (netMatchAll_agree io px lists hok st hnew history r) (listsAgree_refl [])

/-- … the early `return nil, false` for no matching rule is not a special case … -/
theorem c06_top_netmatch_eq (io : IO) (px : E.ParseExt) (lists : List RList) (st : RuleStorage)
    (history : List (BitVec 64)) (r : Request) :
    networkEngineMatch io px lists st history r =
      getBasicResult (newMatchingResult (netMatchAll io px lists st history r) []) :=
  networkEngineMatch_eq io px lists st history r

/-- … and the returned rule is a line of the lists that matches, is effective and not special-purpose, and is
    outranked by no such line. -/
theorem c06_top_netmatch_winner (io : IO) (px : E.ParseExt) (lists : List RList) (hok : StorageOK lists)
    (st : RuleStorage) (hnew : newRuleStorage lists = some st) (history : List (BitVec 64)) (r : Request)
    (b : NetRule) (h : networkEngineMatch io px lists st history r = some b) :
    b ∈ matchingLines px lists r ∧ webCandidate (matchingLines px lists r) [] b = true ∧
      ∀ c ∈ matchingLines px lists r, webCandidate (matchingLines px lists r) [] c = true →
        isHigherPriority c b = false :=
  (networkEngineMatch_winner io px lists hok st hnew history r).of_some b h

/-- `NetworkEngine.Match` returns nothing iff no line is a candidate. -/
theorem c06_top_netmatch_none (io : IO) (px : E.ParseExt) (lists : List RList) (hok : StorageOK lists)
    (st : RuleStorage) (hnew : newRuleStorage lists = some st) (history : List (BitVec 64)) (r : Request)
    (h : networkEngineMatch io px lists st history r = none) :
    ∀ c ∈ matchingLines px lists r, webCandidate (matchingLines px lists r) [] c = false :=
  (networkEngineMatch_winner io px lists hok st hnew history r).of_none h

/-- The basic rule of `Engine.MatchRequest` is A WINNER: a web candidate (effective, not special-purpose, not
    suppressed by the referrer's `$urlblock` / `$genericblock`) among the matching lines that no web candidate
    outranks (C01 + C06 + C07 composed). -/
theorem c06_top_winner_maximal (io : IO) (px : E.ParseExt) (lists : List RList) (hok : StorageOK lists)
    (st : RuleStorage) (hnew : newRuleStorage lists = some st) (history history' : List (BitVec 64))
    (url sourceURL : Bytes) (reqType : Nat) (b : NetRule)
    (h : (engineMatchRequest io px lists st history history' url sourceURL reqType).basicRule = some b) :
    b ∈ matchingLines px lists (requestOf px.ext url sourceURL reqType) ∧
    webCandidate (matchingLines px lists (requestOf px.ext url sourceURL reqType))
      (sourceMatchingLines px lists (requestOf px.ext url sourceURL reqType)) b = true ∧
    ∀ c ∈ matchingLines px lists (requestOf px.ext url sourceURL reqType),
      webCandidate (matchingLines px lists (requestOf px.ext url sourceURL reqType))
        (sourceMatchingLines px lists (requestOf px.ext url sourceURL reqType)) c = true →
      isHigherPriority c b = false :=
  (engineMatch_basic_winner io px lists hok st hnew history history' (requestOf px.ext url sourceURL reqType)).of_some b h

/-- There is no basic rule iff no matching line is a web candidate. -/
theorem c06_top_no_winner (io : IO) (px : E.ParseExt) (lists : List RList) (hok : StorageOK lists)
    (st : RuleStorage) (hnew : newRuleStorage lists = some st) (history history' : List (BitVec 64))
    (url sourceURL : Bytes) (reqType : Nat)
    (h : (engineMatchRequest io px lists st history history' url sourceURL reqType).basicRule = none) :
    ∀ c ∈ matchingLines px lists (requestOf px.ext url sourceURL reqType),
      webCandidate (matchingLines px lists (requestOf px.ext url sourceURL reqType))
        (sourceMatchingLines px lists (requestOf px.ext url sourceURL reqType)) c = false :=
  (engineMatch_basic_winner io px lists hok st hnew history history' (requestOf px.ext url sourceURL reqType)).of_none h

/-- The DOCUMENT RULE of the result (what `GetBasicResult` falls back to) is one of the SOURCE-MATCHING LINES:
    a line of the lists that matches the referrer document request, an exception carrying `$urlblock` or
    `$genericblock`, effective among the source-matching lines (no `$badfilter`, not negated, no `$dnsrewrite`),
    and outranked by no other such line. -/
theorem c06_top_document (io : IO) (px : E.ParseExt) (lists : List RList) (hok : StorageOK lists)
    (st : RuleStorage) (hnew : newRuleStorage lists = some st) (history history' : List (BitVec 64))
    (url sourceURL : Bytes) (reqType : Nat) (d : NetRule)
    (h : (engineMatchRequest io px lists st history history' url sourceURL reqType).documentRule = some d) :
    d ∈ sourceMatchingLines px lists (requestOf px.ext url sourceURL reqType) ∧
    d.whitelist = true ∧
    (d.isEnabled Facts.OptionUrlblock = true ∨ d.isEnabled Facts.OptionGenericblock = true) ∧
    effectiveIn (sourceMatchingLines px lists (requestOf px.ext url sourceURL reqType)) d = true ∧
    ∀ c ∈ sourceMatchingLines px lists (requestOf px.ext url sourceURL reqType),
      effectiveIn (sourceMatchingLines px lists (requestOf px.ext url sourceURL reqType)) c = true →
      isDocumentWhitelistRule c = true → isHigherPriority c d = false := by
  obtain ⟨h1, h2, h3⟩ :=
    (engineMatch_document_winner io px lists hok st hnew history history' (requestOf px.ext url sourceURL reqType)).of_some d h
  unfold docCandidate at h2
  simp only [Bool.and_eq_true] at h2
  have hd := h2.2
  unfold isDocumentWhitelistRule at hd
  simp only [Bool.and_eq_true, Bool.or_eq_true] at hd
  refine ⟨h1, hd.1, hd.2, h2.1, fun c hc he hdc => h3 c hc ?_⟩
  unfold docCandidate
  rw [he, hdc]; rfl

/-- … and without a source URL there is no document rule. -/
theorem c06_top_document_nosrc (io : IO) (px : E.ParseExt) (lists : List RList) (hok : StorageOK lists)
    (st : RuleStorage) (hnew : newRuleStorage lists = some st) (history history' : List (BitVec 64))
    (url : Bytes) (reqType : Nat) :
    (engineMatchRequest io px lists st history history' url [] reqType).documentRule = none := by
  cases h : (engineMatchRequest io px lists st history history' url [] reqType).documentRule with
  | none => rfl
  | some d =>
    have := (c06_top_document io px lists hok st hnew history history' url [] reqType d h).1
    unfold sourceMatchingLines at this
    have hs : (requestOf px.ext url [] reqType).sourceURL = [] := by
      rw [(requestOf_fields px.ext url [] reqType).2.2.1]; rfl
    rw [hs] at this
    simp at this

/-! ### order of the lines, and how they are split over lists, from the bytes -/

/-- ORDER FROM BYTES, general form: two storages whose lists have the same SET of lines (pieces between
    newlines) give the same verdict class for every URL, source URL and type — any order of the lines inside the
    lists, any distribution over any number of lists, any list ids / flags / backings / chunkings / cache
    histories, duplicates included. -/
theorem c06_top_lines_set (io io' : IO) (px : E.ParseExt) (lists lists' : List RList)
    (hok : StorageOK lists) (hok' : StorageOK lists')
    (st st' : RuleStorage) (hnew : newRuleStorage lists = some st) (hnew' : newRuleStorage lists' = some st')
    (h1 h2 h1' h2' : List (BitVec 64)) (url sourceURL : Bytes) (reqType : Nat)
    (h : ∀ p, p ∈ allLines lists ↔ p ∈ allLines lists') :
    classOf (getBasicResult (engineMatchRequest io px lists st h1 h2 url sourceURL reqType)) =
      classOf (getBasicResult (engineMatchRequest io' px lists' st' h1' h2' url sourceURL reqType)) := by
  apply c06_top_texts io io' px lists lists' hok hok' st st' hnew hnew'
  intro t
  exact ⟨netTexts_of_lines px lists lists' (fun p => (h p).1) t, netTexts_of_lines px lists' lists (fun p => (h p).2) t⟩

/-- (a) PERMUTING THE LINES WITHIN ONE LIST: the content of one list is replaced by any content whose lines are a
    permutation of its lines. -/
theorem c06_top_perm_lines (io : IO) (px : E.ParseExt) (pre post : List RList) (l : RList) (content' : Bytes)
    (hperm : (splitLines content').Perm (splitLines l.content))
    (hok : StorageOK (pre ++ l :: post)) (hok' : StorageOK (pre ++ { l with content := content' } :: post))
    (st st' : RuleStorage) (hnew : newRuleStorage (pre ++ l :: post) = some st)
    (hnew' : newRuleStorage (pre ++ { l with content := content' } :: post) = some st')
    (h1 h2 h1' h2' : List (BitVec 64)) (url sourceURL : Bytes) (reqType : Nat) :
    classOf (getBasicResult (engineMatchRequest io px (pre ++ l :: post) st h1 h2 url sourceURL reqType)) =
      classOf (getBasicResult (engineMatchRequest io px (pre ++ { l with content := content' } :: post) st' h1' h2'
        url sourceURL reqType)) := by
  apply c06_top_lines_set io io px _ _ hok hok' st st' hnew hnew'
  intro p
  unfold allLines
  simp only [List.flatMap_append, List.flatMap_cons, List.mem_append]
  rw [hperm.mem_iff]

/-- (b) RE-SPLITTING: the same multiset of lines distributed over a different number of lists (with whatever ids). -/
theorem c06_top_resplit (io io' : IO) (px : E.ParseExt) (lists lists' : List RList)
    (hperm : (allLines lists).Perm (allLines lists'))
    (hok : StorageOK lists) (hok' : StorageOK lists')
    (st st' : RuleStorage) (hnew : newRuleStorage lists = some st) (hnew' : newRuleStorage lists' = some st')
    (h1 h2 h1' h2' : List (BitVec 64)) (url sourceURL : Bytes) (reqType : Nat) :
    classOf (getBasicResult (engineMatchRequest io px lists st h1 h2 url sourceURL reqType)) =
      classOf (getBasicResult (engineMatchRequest io' px lists' st' h1' h2' url sourceURL reqType)) :=
  c06_top_lines_set io io' px lists lists' hok hok' st st' hnew hnew' h1 h2 h1' h2' url sourceURL reqType
    (fun _ => hperm.mem_iff)

/-- (a) + (b) FROM THE BYTES: the contents are given as groups of LF-free lines joined with LF (`joinLines`), one
    group per list; any regrouping of any permutation of all the lines — into any number of lists with any ids —
    gives the same verdict class. -/
theorem c06_top_regroup (io io' : IO) (px : E.ParseExt) (lists lists' : List RList) (gs gs' : List (List Bytes))
    (hc : lists.map (·.content) = gs.map joinLines) (hc' : lists'.map (·.content) = gs'.map joinLines)
    (hg : ∀ g ∈ gs, g ≠ [] ∧ ∀ l ∈ g, (10 : UInt8) ∉ l) (hg' : ∀ g ∈ gs', g ≠ [] ∧ ∀ l ∈ g, (10 : UInt8) ∉ l)
    (hperm : gs.flatten.Perm gs'.flatten)
    (hok : StorageOK lists) (hok' : StorageOK lists')
    (st st' : RuleStorage) (hnew : newRuleStorage lists = some st) (hnew' : newRuleStorage lists' = some st')
    (h1 h2 h1' h2' : List (BitVec 64)) (url sourceURL : Bytes) (reqType : Nat) :
    classOf (getBasicResult (engineMatchRequest io px lists st h1 h2 url sourceURL reqType)) =
      classOf (getBasicResult (engineMatchRequest io' px lists' st' h1' h2' url sourceURL reqType)) := by
  have key : ∀ (L : List RList) (G : List (List Bytes)), L.map (·.content) = G.map joinLines →
      (∀ g ∈ G, g ≠ [] ∧ ∀ l ∈ g, (10 : UInt8) ∉ l) → allLines L = G.flatten := by
    intro L G hLG hG
    have e1 : allLines L = (L.map (·.content)).flatMap splitLines := by
      unfold allLines; rw [List.flatMap_map]
    rw [e1, hLG, List.flatMap_map]
    clear e1 hLG
    induction G with
    | nil => rfl
    | cons g G ih =>
      rw [List.flatMap_cons, List.flatten_cons, ih (fun x hx => hG x (List.mem_cons_of_mem _ hx)),
        splitLines_joinLines g (hG g List.mem_cons_self).1 (hG g List.mem_cons_self).2]
  apply c06_top_resplit io io' px lists lists' _ hok hok' st st' hnew hnew'
  rw [key lists gs hc hg, key lists' gs' hc' hg']
  exact hperm

/-! ### Non-vacuity -/

private def exPx : E.ParseExt :=
  { ext := { psl := fun _ => (lit "org", true), parseAddr := fun _ => none,
             parsePrefix := fun _ => none, pat := I2.modelPatD },
    loadDNSRewrite := fun _ => none, regexpShortcut := fun _ => [] }

/-- Two lists … -/
private def exLists : List RList :=
  [⟨1, false, lit "||ads.org^\n! c\n/banner$domain=site.org", false⟩,
   ⟨7, false, lit "@@||site.org^$genericblock\n@@||ads.org/ok^", false⟩]

/-- … and the same lines, permuted, in ONE list with another id (`c06_top_regroup` with
    `gs = [[l1, l2, l3], [l4, l5]]`, `gs' = [[l5, l3, l1, l4, l2]]`). -/
private def exLists' : List RList :=
  [⟨3, false, lit "@@||ads.org/ok^\n/banner$domain=site.org\n||ads.org^\n@@||site.org^$genericblock\n! c", true⟩]

example : StorageOK exLists ∧ StorageOK exLists' := by
  unfold exLists exLists'
  rw [lit_ofList, lit_ofList, lit_ofList]
  exact ⟨⟨by decide +kernel, by decide +kernel, by decide +kernel⟩,
    ⟨by decide +kernel, by decide +kernel, by decide +kernel⟩⟩

example :
    exLists.map (·.content) = [[lit "||ads.org^", lit "! c", lit "/banner$domain=site.org"],
      [lit "@@||site.org^$genericblock", lit "@@||ads.org/ok^"]].map joinLines ∧
    exLists'.map (·.content) = [[lit "@@||ads.org/ok^", lit "/banner$domain=site.org", lit "||ads.org^",
      lit "@@||site.org^$genericblock", lit "! c"]].map joinLines := by
  unfold exLists exLists'
  rw [lit_ofList, lit_ofList, lit_ofList, lit_ofList, lit_ofList, lit_ofList, lit_ofList, lit_ofList]
  decide +kernel

/-- The verdicts computed on both storages agree (block / allow by the exception / allow by the referrer's
    `$genericblock` exception, whose document rule is the source-matching line `@@||site.org^$genericblock`), and
    `NetworkEngine.Match` returns the blocking rule for the first and the exception for the second request. -/
example :
    let e := fun (ls : List RList) (u s : String) =>
      engineMatchRequest ⟨4096, fun _ => 1⟩ exPx ls ⟨ls, []⟩ [] [] (lit u) (lit s) 4
    classOf (getBasicResult (e exLists "http://ads.org/x" "")) = .block ∧
    classOf (getBasicResult (e exLists' "http://ads.org/x" "")) = .block ∧
    classOf (getBasicResult (e exLists "http://ads.org/ok/" "")) = .allow ∧
    classOf (getBasicResult (e exLists' "http://ads.org/ok/" "")) = .allow ∧
    classOf (getBasicResult (e exLists "http://ads.org/x" "http://site.org/")) = .allow ∧
    classOf (getBasicResult (e exLists' "http://ads.org/x" "http://site.org/")) = .allow ∧
    (e exLists "http://ads.org/x" "http://site.org/").documentRule.map (·.text) =
      some (lit "@@||site.org^$genericblock") ∧
    (e exLists "http://ads.org/x" "").documentRule = none := by
  dsimp only
  unfold exLists exLists'
  rw [lit_ofList, lit_ofList, lit_ofList, lit_ofList, lit_ofList, lit_ofList, lit_ofList, lit_ofList]
  decide +kernel

example :
    let m := fun (u : String) =>
      networkEngineMatch ⟨4096, fun _ => 1⟩ exPx exLists ⟨exLists, []⟩ []
        (requestOf exPx.ext (lit u) [] 4)
    (m "http://ads.org/x").map (·.text) = some (lit "||ads.org^") ∧
    (m "http://ads.org/ok/").map (·.text) = some (lit "@@||ads.org/ok^") ∧
    m "http://other.org/" = none := by
  dsimp only
  unfold exLists
  rw [lit_ofList, lit_ofList, lit_ofList, lit_ofList, lit_ofList, lit_ofList, lit_ofList]
  decide +kernel

end UF.C06
