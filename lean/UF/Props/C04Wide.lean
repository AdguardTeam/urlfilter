import UF.Compose5.TextRef
import UF.Compose5.Perm
import UF.Props.C04Text
/-
  C04 at text level, wider grammar (UF/Compose5/GrammarW.lean): the theorems of Props/C04Text.lean for
    * quoted client names `$client='Kids-PC'`, `$client="Frank's phone"|~'Mary\'s laptop'`: the meaning of a quoted
      value is the name itself (quotes removed, `\'` → `'`), whatever it contains except `,` `|` `\` `$`;
    * patterns beginning with `/` that are not regex rules (`/banner.gif$image`): `patOKW` + `slashOK`;
    * `~extension`: it TOGGLES the extension bit (rules/network.go: "Depends on options order, this is not good"),
      so for it the order of the modifiers matters (`c04_wide_notExtension_order`) and `$~extension` on its own
      switches the option ON (`c04_wide_notExtension_alone`).

  Domain (hypotheses, executable as `patOKW`, `slashOK`, `modsOKW`): pattern non-empty, first byte not `@`, no `$`,
  no backslash, the text after `@@` not both starting and ending with `/`; modifiers as in C04Text (`$client`
  counted over both spellings); quoted names non-empty and free of `,` `|` `\` `$`.
  Still outside: escaped commas / pipes in names, the empty pattern, `$dnsrewrite`, `/regex/` rules.
-/
namespace UF.C04
open UF Bytes UF.I2 UF.L

/-- The wider grammar EXTENDS the one of C04Text: on modifiers of the old grammar rendering and meaning coincide. -/
theorem c04_wide_extends (wl : Bool) (pat : Bytes) (ms : List Mod) :
    renderW wl pat (ms.map .base) = render wl pat ms ∧ ModSpec.ofModsW (ms.map .base) = ModSpec.ofMods ms :=
  ⟨renderW_base wl pat ms, ofModsW_base ms⟩

/-- ALL FAMILIES, wider grammar: the parsed record in terms of the meaning of the modifiers. -/
theorem c04_wide_grammar (px : E.ParseExt) (wl : Bool) (pat : Bytes) (ms : List ModW) (id : Int) (r : NetRule)
    (hp : patOKW pat = true) (hs : slashOK pat ms = true) (hm : modsOKW ms = true)
    (h : E.parseNetRule px (renderW wl pat ms) id = .ok r) :
    ParsedAs px.ext wl (ModSpec.ofModsW ms) r :=
  parsedAs_of_parseW hp hs hm h

/-- `$client` with quoted names: the stored client sets are those of the NAMES (and addresses, subnets) the values
    denote — quotes and escapes are spelling. -/
theorem c04_wide_grammar_client (px : E.ParseExt) (wl : Bool) (pat : Bytes) (pre post : List ModW)
    (vs : List (Bool × CVal)) (id : Int) (r : NetRule)
    (hp : patOKW pat = true) (hs : slashOK pat (pre ++ .clientQ vs :: post) = true)
    (hm : modsOKW (pre ++ .clientQ vs :: post) = true)
    (h : E.parseNetRule px (renderW wl pat (pre ++ .clientQ vs :: post)) id = .ok r) :
    (∀ name ip, specClientIn r.permClients name ip =
      (ModSpec.ofModsW (pre ++ .clientQ vs :: post)).permClients.any (clientValMatches px.ext name ip)) ∧
    (∀ name ip, specClientIn r.restrClients name ip =
      (ModSpec.ofModsW (pre ++ .clientQ vs :: post)).restrClients.any (clientValMatches px.ext name ip)) ∧
    (∀ v ∈ vs, v.1 = false → v.2.value ∈ (ModSpec.ofModsW (pre ++ .clientQ vs :: post)).permClients) ∧
    (∀ v ∈ vs, v.1 = true → v.2.value ∈ (ModSpec.ofModsW (pre ++ .clientQ vs :: post)).restrClients) := by
  have hpa := parsedAs_of_parseW hp hs hm h
  refine ⟨fun name ip => ?_, fun name ip => ?_, fun v hv hneg => ?_, fun v hv hneg => ?_⟩
  · rw [hpa.permClients, specClientIn_clientsOf]
  · rw [hpa.restrClients, specClientIn_clientsOf]
  · show v.2.value ∈ (narrow (pre ++ .clientQ vs :: post)).flatMap (fun m => posVals m.clientVals)
    refine List.mem_flatMap.2 ⟨.client (vs.map (fun v => (v.1, v.2.value))), ?_, ?_⟩
    · exact List.mem_filterMap.2 ⟨.clientQ vs, by simp, rfl⟩
    · show v.2.value ∈ posVals (vs.map (fun v => (v.1, v.2.value)))
      rw [posVals_map]
      exact List.mem_map.2 ⟨v.2, List.mem_map.2 ⟨v, List.mem_filter.2 ⟨hv, by simp [hneg]⟩, rfl⟩, rfl⟩
  · show v.2.value ∈ (narrow (pre ++ .clientQ vs :: post)).flatMap (fun m => negVals m.clientVals)
    refine List.mem_flatMap.2 ⟨.client (vs.map (fun v => (v.1, v.2.value))), ?_, ?_⟩
    · exact List.mem_filterMap.2 ⟨.clientQ vs, by simp, rfl⟩
    · show v.2.value ∈ negVals (vs.map (fun v => (v.1, v.2.value)))
      rw [negVals_map]
      exact List.mem_map.2 ⟨v.2, List.mem_map.2 ⟨v, List.mem_filter.2 ⟨hv, by simp [hneg]⟩, rfl⟩, rfl⟩

/-- The pattern and the split of the text, wider grammar — in particular for patterns beginning with `/`. -/
theorem c04_wide_grammar_pattern (px : E.ParseExt) (wl : Bool) (pat : Bytes) (ms : List ModW) (id : Int) (r : NetRule)
    (hp : patOKW pat = true) (hs : slashOK pat ms = true) (hm : modsOKW ms = true)
    (h : E.parseNetRule px (renderW wl pat ms) id = .ok r) :
    E.parseRuleText (renderW wl pat ms) = .ok (pat, optsTextW ms, wl) ∧ r.pattern = MaskSpec.normalize pat := by
  have h1 := parseRuleText_renderW (wl := wl) hp hs (modsOKW_vals hm)
  obtain ⟨pat', opts, wl', hprt, hpat, _, _⟩ := parseNetRule_pattern h
  rw [h1] at hprt
  cases hprt
  exact ⟨h1, hpat⟩

/-- C04 FROM STRUCTURED MODIFIERS TO `Match`, WIDER GRAMMAR: for every pattern of the wider domain (patterns
    beginning with `/` included), every list of wide modifiers (quoted client names, `~extension` included) in any
    order, and every request of the domain, whatever `NewNetworkRule` accepts for the rendered text matches the
    request iff `specMatchText` says so on the meaning `ModSpec.ofModsW ms`. -/
theorem c04_wide_text_ref (px : E.ParseExt) (wl : Bool) (pat : Bytes) (ms : List ModW) (id : Int) (r : NetRule)
    (q : Request) (hp : patOKW pat = true) (hs : slashOK pat ms = true) (hm : modsOKW ms = true)
    (h : E.parseNetRule px (renderW wl pat ms) id = .ok r) (hq : q.InDomain)
    (hd : MaskDomain r.pattern (specTarget r q))
    (hlower : q.urlLower = toLower q.url)
    (hhost : q.isHostnameRequest = true → hasSub q.url q.hostname = true) :
    r.matches (withModelPat px.ext) q = specMatchText px.ext pat (ModSpec.ofModsW ms) q := by
  rw [c04_full_end_to_end px _ id r q h hq hd hlower hhost]
  exact noShortcut_eq_textW hp hs hm h q hq.oneType

/-- VALUE ORDER, SPELLING AND DUPLICATES never matter, wider grammar: two wide modifier lists whose meanings agree
    up to `ModSpec.sameMeaning` (decidable: same flags, same value SETS) — e.g. `$client='tv'|10.0.0.1` and
    `$client=10.0.0.1|"tv"` — rendered with the same pattern, give rules that match the same requests. -/
theorem c04_wide_text_ref_sameMeaning (px : E.ParseExt) (wl : Bool) (pat : Bytes) (ms ms' : List ModW) (id id' : Int)
    (r r' : NetRule) (q : Request) (hp : patOKW pat = true)
    (hs : slashOK pat ms = true) (hs' : slashOK pat ms' = true)
    (hm : modsOKW ms = true) (hm' : modsOKW ms' = true)
    (hsame : (ModSpec.ofModsW ms).sameMeaning (ModSpec.ofModsW ms') = true)
    (h : E.parseNetRule px (renderW wl pat ms) id = .ok r)
    (h' : E.parseNetRule px (renderW wl pat ms') id' = .ok r') (hq : q.InDomain)
    (hd : MaskDomain r.pattern (specTarget r q))
    (hlower : q.urlLower = toLower q.url)
    (hhost : q.isHostnameRequest = true → hasSub q.url q.hostname = true) :
    r.matches (withModelPat px.ext) q = r'.matches (withModelPat px.ext) q := by
  have hpat := (c04_wide_grammar_pattern px wl pat ms id r hp hs hm h).2
  have hpat' := (c04_wide_grammar_pattern px wl pat ms' id' r' hp hs' hm' h').2
  have hd' : MaskDomain r'.pattern (specTarget r' q) := by
    rw [specTarget_pattern r' q, hpat', ← hpat, ← specTarget_pattern r q]
    exact hd
  rw [c04_wide_text_ref px wl pat ms id r q hp hs hm h hq hd hlower hhost,
    c04_wide_text_ref px wl pat ms' id' r' q hp hs' hm' h' hq hd' hlower hhost]
  exact specMatchText_sameMeaning px.ext pat hsame q

/-! ### Non-vacuity -/

private def exPx : E.ParseExt :=
  { ext := { psl := fun _ => (lit "com", true), parseAddr := fun _ => none,
             parsePrefix := fun _ => none, pat := fun _ _ _ => true },
    loadDNSRewrite := fun _ => none, regexpShortcut := fun _ => [] }

/-- the property's own example `'Kids-PC'`, a double-quoted name with an apostrophe and a blank, a negated
    single-quoted name with an ESCAPED apostrophe, and a bare name -/
private def exClients : ModW :=
  .clientQ [(false, .quoted false (lit "Kids-PC")), (false, .quoted true (lit "Frank's phone")),
            (true, .quoted false (lit "Mary's laptop")), (false, .plain (lit "tv"))]

private def exMods : List ModW := [.base (.ctype false .image), exClients, .base (.thirdParty false)]

/-- The rendering is the text a filter author writes (a pattern beginning with `/`, quoted names); it is in the
    domain; the parser model accepts it. -/
example : renderW false (lit "/banner.gif") exMods =
    lit "/banner.gif$image,client='Kids-PC'|\"Frank's phone\"|~'Mary\\'s laptop'|tv,third-party" := by
  rw [lit_ofList, lit_ofList]; decide +kernel
example : patOKW (lit "/banner.gif") = true ∧ patOK (lit "/banner.gif") = false ∧
    slashOK (lit "/banner.gif") exMods = true ∧ modsOKW exMods = true := by decide +kernel
example : (E.parseNetRule exPx (renderW false (lit "/banner.gif") exMods) 1).toOption.isSome = true := by
  decide +kernel

/-- The meaning: image, third-party, three permitted client names and one excluded — the NAMES, without quotes
    and escapes. -/
example : ModSpec.ofModsW exMods =
    { thirdParty := true, permTypes := [.image],
      permClients := [lit "Kids-PC", lit "Frank's phone", lit "tv"], restrClients := [lit "Mary's laptop"] } := by
  decide +kernel

/-- The parser model stores exactly those names (sorted), and the reference decides requests by client name. -/
example :
    (E.parseNetRule exPx (renderW false (lit "/banner.gif") exMods) 1).toOption.map
        (fun r => (r.pattern, r.permClients.map (·.hosts), r.restrClients.map (·.hosts))) =
      some (lit "/banner.gif", some [lit "Frank's phone", lit "Kids-PC", lit "tv"], some [lit "Mary's laptop"]) ∧
    specModsText exPx.ext (ModSpec.ofModsW exMods)
      { reqType := Facts.TypeImage, thirdParty := true, clientName := lit "Frank's phone" } = true ∧
    specModsText exPx.ext (ModSpec.ofModsW exMods)
      { reqType := Facts.TypeImage, thirdParty := true, clientName := lit "Mary's laptop" } = false ∧
    specModsText exPx.ext (ModSpec.ofModsW exMods)
      { reqType := Facts.TypeImage, thirdParty := true, clientName := lit "'Kids-PC'" } = false := by
  decide +kernel

/-- `sameMeaning` across spellings and orders of `$client` values. -/
example : (ModSpec.ofModsW [.clientQ [(false, .quoted false (lit "tv")), (false, .plain (lit "10.0.0.1"))]]).sameMeaning
    (ModSpec.ofModsW [.clientQ [(false, .plain (lit "10.0.0.1")), (false, .quoted true (lit "tv"))]]) = true := by
  decide +kernel

/-- `slashOK` is needed: `/banner/$image` would be fine (it does not END with `/`), `/banner$client=x/` is read as a
    regex rule without options. -/
example : slashOK (lit "/banner") [.clientQ [(false, .plain (lit "x/"))]] = false ∧
    (E.parseRuleText (lit "/banner$client=x/")).toOption = some (lit "/banner$client=x/", [], false) := by
  decide +kernel

private def exQ (t : Nat) : Request :=
  { url := lit "http://example.org/", urlLower := lit "http://example.org/", hostname := lit "example.org",
    sourceHostname := lit "a.com", reqType := t, thirdParty := true }

/-- `~extension`: THE ORDER OF THE MODIFIERS MATTERS.  `@@||example.org^$extension,~extension` has the extension
    bit off and matches a script request; `@@||example.org^$~extension,extension` has it on, is therefore a
    document-only rule and does not — in the parser + matcher model and in the reference alike (and in Go). -/
theorem c04_wide_notExtension_order :
    let ms : List ModW := [.base (.opt .extension), .notExtension]
    let ms' : List ModW := [.notExtension, .base (.opt .extension)]
    ms.Perm ms' ∧ modsOKW ms = true ∧ modsOKW ms' = true ∧
    (E.parseNetRule exPx (renderW true (lit "||example.org^") ms) 1).toOption.map
        (fun r => r.matches exPx.ext (exQ Facts.TypeScript)) = some true ∧
    (E.parseNetRule exPx (renderW true (lit "||example.org^") ms') 1).toOption.map
        (fun r => r.matches exPx.ext (exQ Facts.TypeScript)) = some false ∧
    specModsText exPx.ext (ModSpec.ofModsW ms) (exQ Facts.TypeScript) = true ∧
    specModsText exPx.ext (ModSpec.ofModsW ms') (exQ Facts.TypeScript) = false := by
  decide +kernel

/-- `$~extension` on its own ENABLES the option (0 xor bit = bit): the blocking rule `||example.org^$~extension`
    is a document-only rule — it does not match a script request and does match a document request. -/
theorem c04_wide_notExtension_alone :
    (ModSpec.ofModsW [.notExtension]).docOnly = true ∧
    (E.parseNetRule exPx (renderW false (lit "||example.org^") [.notExtension]) 1).toOption.map
        (fun r => (r.matches exPx.ext (exQ Facts.TypeScript), r.matches exPx.ext (exQ Facts.TypeDocument))) =
      some (false, true) := by
  decide +kernel

end UF.C04
