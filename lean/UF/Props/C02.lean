import UF.Proofs.EngineDns
import UF.Props.C01
/-
  C02 — the DNS engine's answer equals the reference resolution over all rules.

  `L` is the list of ALL rules of the storage (network, host, cosmetic) in storage order with their
  storage indexes.  `basic` is `GetDNSBasicRule` (C06–C08): the theorem holds
  for every function that decides alike, up to the class of the winner, on candidate lists carrying
  the same set of rule texts (`BasicRespectsTexts`).  As in C01 the theorem holds for every pair of
  hash functions (host-name hash collisions included) and every window length.
-/
namespace UF.C02
open UF UF.B

/-- The mask idiom `((e & H) | (e ^ H)) == H` of `IsHostLevelNetworkRule` says: no `$domain`, not both
    permitted and restricted content types, no disabled option, and every enabled option bit is a
    bit of `important | badfilter`. -/
theorem isHostLevel_iff (r : NetRule) :
    isHostLevel r = true ↔
      r.permDomains = [] ∧ r.restrDomains = [] ∧ ¬(r.permTypes ≠ 0 ∧ r.restrTypes ≠ 0) ∧ r.disabled = 0 ∧
      (∀ i, r.enabled.testBit i = true → (Facts.OptionImportant ||| Facts.OptionBadfilter).testBit i = true) := by
  have hH : Facts.OptionImportant ||| Facts.OptionBadfilter = Facts.OptionHostLevelRulesOnly := by decide
  rw [hH]; exact isHostLevel_iff' r

/-- The executable reference predicate is the implementation's classification. -/
theorem isHostLevel_eq_dnsApplicable (r : NetRule) : isHostLevel r = dnsApplicable r :=
  (dnsApplicable_eq r).symm

/-- C02: componentwise agreement with the reference scan, for every hash pair. -/
theorem c02 (hf : HashFns) (k : Nat) (hcoh : hf.Coherent k)
    (retrieve : Idx → Option Rule) (ext : Ext) (basic : List NetRule → Option NetRule)
    (L : List (Rule × Idx)) (q : Request)
    (hlen : L.length < maxInt32) (hret : RetrievalOK retrieve L)
    (hparse : TextDeterminesRule (hostLevelNet L))
    (hbasic : BasicRespectsTexts basic (netRulesOf (L.map (·.1)))) :
    DnsResult.Equiv ((DnsEngine.build hf k L).matchRequest hf k retrieve ext basic q)
      (specDns ext basic (L.map (·.1)) q) := by
  unfold DnsEngine.matchRequest specDns
  by_cases hq : q.hostname.isEmpty = true
  · simp only [hq, if_true]
    exact ⟨fun _ => Iff.rfl, rfl, fun _ => Iff.rfl, fun _ => Iff.rfl, rfl⟩
  · simp only [hq, Bool.false_eq_true, if_false]
    rw [dns_build_net]
    -- the network part is C01 on the host-level rules
    have hlen' : (hostLevelNet L).length < maxInt32 := Nat.lt_of_le_of_lt (hostLevelNet_length L) hlen
    have hret' := retrievalOK_hostLevelNet hret
    have htexts : ∀ t,
        t ∈ ((Engine.build hf k (hostLevelNet L)).matchAll hf k (retrieveNet retrieve) ext q).map (·.text) ↔
        t ∈ ((netRulesOf (L.map (·.1))).filter (fun r => dnsApplicable r && r.matches ext q)).map (·.text) := by
      intro t
      rw [C01.c01 hf k hcoh (retrieveNet retrieve) ext (hostLevelNet L) q hlen' hret'
        (domainsWF_hostLevelNet L) hparse t]
      simp only [List.mem_map, mem_specMatchAll_hostLevelNet]
    refine DnsResult.equiv_of htexts (hbasic _ _ ?_ (fun r hr => (List.mem_filter.1 hr).1) htexts)
      (mem_matchLookupTable hf k retrieve L hret q.hostname)
    intro r hr
    obtain ⟨p, hp, rfl⟩ := List.mem_map.1
      (C01.c01_sound hf k (retrieveNet retrieve) ext (hostLevelNet L) q hlen' hret' r hr).1
    exact hostLevelNet_sub hp

/-- C02 for the code as it is (djb2, generated `shortcutLength`). -/
theorem c02_djb2 (retrieve : Idx → Option Rule) (ext : Ext) (basic : List NetRule → Option NetRule)
    (L : List (Rule × Idx)) (q : Request)
    (hlen : L.length < maxInt32) (hret : RetrievalOK retrieve L)
    (hparse : TextDeterminesRule (hostLevelNet L))
    (hbasic : BasicRespectsTexts basic (netRulesOf (L.map (·.1)))) :
    DnsResult.Equiv ((DnsEngine.build djb2 Facts.shortcutLength L).matchRequest djb2 Facts.shortcutLength retrieve ext basic q)
      (specDns ext basic (L.map (·.1)) q) :=
  c02 djb2 Facts.shortcutLength (djb2_coherent _ (by decide)) retrieve ext basic L q hlen hret hparse hbasic

/-- `matched` is true iff a basic rule or a host entry was found. -/
theorem c02_matched_iff (hf : HashFns) (k : Nat) (retrieve : Idx → Option Rule) (ext : Ext)
    (basic : List NetRule → Option NetRule) (d : DnsEngine) (q : Request) :
    (d.matchRequest hf k retrieve ext basic q).matched = true ↔
      (d.matchRequest hf k retrieve ext basic q).networkRule.isSome = true ∨
      (d.matchRequest hf k retrieve ext basic q).v4 ≠ [] ∨ (d.matchRequest hf k retrieve ext basic q).v6 ≠ [] := by
  unfold DnsEngine.matchRequest
  by_cases hq : q.hostname.isEmpty = true
  · simp [hq]
  · simp only [hq, Bool.false_eq_true, if_false]
    cases hb : basic (d.net.matchAll hf k (retrieveNet retrieve) ext q) with
    | some r => simp
    | none =>
      simp only
      by_cases hrr : (d.matchLookupTable hf retrieve q.hostname).isEmpty = true
      · simp [hrr]
      · simp only [hrr, Bool.false_eq_true, if_false, true_iff, Option.isSome_none, false_or]
        cases hl : d.matchLookupTable hf retrieve q.hostname with
        | nil => rw [hl] at hrr; simp at hrr
        | cons h t =>
          by_cases h4 : h.ip.is4 = true
          · left; simp [h4]
          · right; simp [h4]

/-- An empty host name yields the empty result, not matched. -/
theorem c02_empty_hostname (hf : HashFns) (k : Nat) (retrieve : Idx → Option Rule) (ext : Ext)
    (basic : List NetRule → Option NetRule) (d : DnsEngine) (q : Request) (hq : q.hostname = []) :
    (d.matchRequest hf k retrieve ext basic q).matched = false ∧
    (d.matchRequest hf k retrieve ext basic q).networkRules = [] ∧
    (d.matchRequest hf k retrieve ext basic q).v4 = [] ∧ (d.matchRequest hf k retrieve ext basic q).v6 = [] := by
  simp [DnsEngine.matchRequest, hq]

/-! Non-vacuity: a `basic` that satisfies `BasicRespectsTexts` for every rule set (no winner at
    all, or "some exception among the candidates" decided on texts) and a concrete rule list. -/
example (S : List NetRule) : BasicRespectsTexts (fun _ => none) S := by
  intro l l' _ _ _; rfl

example :
    let r1 : NetRule := { text := lit "||example.org^", pattern := lit "||example.org^", shortcut := lit "example.org" }
    let h1 : HostRule := { text := lit "0.0.0.0 example.org", hostnames := [lit "example.org"] }
    let L : List (Rule × Idx) := [(.net r1, 0), (.host h1, 15)]
    let retrieve : Idx → Option Rule := fun i => (L.find? (·.2 == i)).map (·.1)
    L.length < maxInt32 ∧ RetrievalOK retrieve L ∧ TextDeterminesRule (hostLevelNet L) ∧ isHostLevel r1 = true := by
  unfold RetrievalOK TextDeterminesRule
  decide +kernel

end UF.C02
