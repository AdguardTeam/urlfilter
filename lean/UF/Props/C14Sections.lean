import UF.Model.LockSections
import UF.Gen.Facts
/-
  C14 — the fact obligations that pin what the `c14_*` theorems ASSUME about the code.  Props/C14.lean holds
  the access-level obligation up to the enclosing function and a go/ast writer scan of three packages.  Here the
  same assumptions are compared section by section, and field by field, with facts that `harness facts`
  recomputes with go/types over EVERY package of the module on every run:

  * `Facts.p4Sections`  one row per critical section with the ORDERED accesses to guarded state inside it
                        (module functions called inside the section are inlined);
  * `Facts.p4Accesses`  every access to a guarded field through ANY expression of the struct's type
                        (receiver, local, parameter, free function, closure) with the locks held on that object;
  * `Facts.p4Writers`   every write of a field of the struct types the model treats as immutable, in every
                        package (`rules` included), with q = on a query path, c = constructor-only;
  * `Facts.p4GlobalWriters` the same for package-level variables.

  None of the obligations names a function except through `unlockedActions` (the five deliberate unlocked
  accesses), so extracting a critical section or a parse step into a helper does not disturb them.
  All of them are FACTS ABOUT THE SOURCE TEXT, not about executions: the Go memory model is outside.
-/
namespace UF.C14
open UF UF.Prog

/-- FACT pinning the atomic steps `.put` and `.prep` of `Prog.stepG` (assumed by `c14_sc`, `c14_sc_state`,
    `c14_regex_read_outside_lock`, `c14_engine*`, and by C13/C19 through the same machine): in EVERY critical
    section of the module, every access to guarded state is under the right side of the right mutex, and every
    section that WRITES `RuleStorage.cache` has looked the cache up earlier in the SAME section (check-then-act:
    the miss test and the insert of `RuleStorage.RetrieveRule` are one step -- splitting them is defect D15
    again), every section that writes `NetworkRule.regex`/`invalid` has read both earlier in the same section
    (`preparePattern`: "already compiled? already invalid?" and the store are one step -- `CellInv`). -/
theorem c14_fact_sections_check_then_act : Facts.p4Sections.all sectionOK = true := by decide +kernel

/-- FACT: every critical section the model's actions `get`, `put`, `read`, `prep` stand for still exists, with
    its lock, its check and its act (so the obligation above is not satisfied by deleting the sections). -/
theorem c14_fact_model_sections_exist :
    modelSections.all (fun m => hasSection Facts.p4Sections m) = true := by decide +kernel

/-- FACT pinning the atomic step `.read` (`Seek` and `readLine` on ONE shared file position are one action;
    `c14_granularity_matters` is what happens otherwise): exactly one critical section of the module uses the
    file or the buffer of a `FileRuleList`. -/
theorem c14_fact_file_read_one_section : (Facts.p4Sections.filter touchesFile).length = 1 := by decide +kernel

/-- FACT pinning the action table as a whole (every shared-state access of a query is one of the model's actions):
    every access to `RuleStorage.cache`, `FileRuleList.File/buffer`, `NetworkRule.regex/invalid` ANYWHERE in the
    module -- methods, free functions, closures, through receivers, locals or parameters -- is under the mutex
    that guards it (writes and file uses: exclusive side), or is one of the five `unlockedActions`. -/
theorem c14_fact_accesses_locked :
    Facts.p4Accesses.all (fun r =>
      unlockedActions.contains (r.1, r.2.1, r.2.2.1) || accessLocked r.2.1 r.2.2.1 r.2.2.2) = true := by decide +kernel

/-- FACT pinning the immutability of `Env` (`step` never changes `env`; `truth idx` is a value; `pre`, `compile`,
    `accepts`, `cands`, `hcands`, `basic`, `wants`, `resident` are functions of it): NO function of ANY package of
    the module that is reachable from a query entry point -- an exported function or method that is not a
    constructor of a frozen type and not the construction-time API `AddRule`/`TryAdd`; calls resolved with
    go/types, interface calls by method name, calls of function values by signature; constructors are not entered --
    assigns to, appends to, increments, deletes from, clears or takes the address of a field of an engine, a lookup
    table, the storage, a rule list or a RULE OBJECT (`NetworkRule`, `HostRule`, `CosmeticRule`, `DNSRewrite`, …),
    nor calls `AddRule`/`TryAdd`.  (Composite literals build fresh objects and are exempt.) -/
theorem c14_fact_no_query_writes_all :
    Facts.p4Writers.all (fun r =>
      r.2.2.1 == "lit" || r.2.2.2.1 == "-" || postConstructionWriters.contains (r.1, r.2.1)) = true := by decide +kernel

/-- FACT: every such writer is a constructor of a frozen type (`New*`/`new*` returning one, or `rules.Rule`) or a
    function all of whose call sites in the module lie in constructor-only functions (the option loaders of
    `NewNetworkRule`, `clients.add`, `addRule`/`AddRule`/`TryAdd`; `init`).  (Composite literals exempt as above.) -/
theorem c14_fact_writers_constructor_only_all :
    Facts.p4Writers.all (fun r =>
      r.2.2.1 == "lit" || r.2.2.2.2 == "c" || postConstructionWriters.contains (r.1, r.2.1)) = true := by decide +kernel

/-- FACT pinning `Prog.State` as ALL the shared mutable state (cache, cells, pool, closed lists): no function on
    a query path (same call graph) assigns to, or writes through, a PACKAGE-LEVEL variable of the module (a
    memo table beside the engines would be shared state the machine does not have -- seeded change C14-8). -/
theorem c14_fact_no_query_global_writes :
    Facts.p4GlobalWriters.all (fun r => r.2.2.1 == "-") = true := by decide +kernel

/-- FACT: the extraction is not vacuous: the scan covered the packages, found every guarded field and every
    frozen struct type, and each main type has a constructor-only writer. -/
theorem c14_fact_extraction_complete :
    (scannedPackages.all Facts.p4Packages.contains && guardedFields.all Facts.p4GuardedFound.contains &&
      frozenTypesAll.all Facts.p4FrozenTypes.contains &&
      ctorWrittenTypesAll.all Facts.p4CtorWrittenTypes.contains) = true := by decide +kernel

/-! ### The obligations are not vacuous: what three mutations extract to -/

/-- (a) the cache-put section of `RetrieveRule` split into `Lock{check}Unlock; yield; Lock{write}Unlock`:
    the second section writes the cache without having checked it. -/
example :
    sectionOK ("filterlist.RuleStorage.RetrieveRule", "Lock(RuleStorage.cacheMu)", [("RuleStorage.cache", "r")]) = true ∧
    sectionOK ("filterlist.RuleStorage.RetrieveRule", "Lock(RuleStorage.cacheMu)", [("RuleStorage.cache", "w")]) = false := by
  decide +kernel

/-- the same for `preparePattern` (seeded change C14-6: test under the lock, compile outside, store under the lock) -/
example :
    sectionOK ("rules.NetworkRule.preparePattern", "Lock(NetworkRule.Mutex)",
      [("NetworkRule.invalid", "w"), ("NetworkRule.regex", "w")]) = false := by decide +kernel

/-- a read lock around `Seek`+`Read` (seeded change C14-1) is not a proper lock for the file -/
example :
    sectionOK ("filterlist.FileRuleList.RetrieveRule", "RLock(FileRuleList.RWMutex)",
      [("FileRuleList.File", "r"), ("FileRuleList.File", "r"), ("FileRuleList.buffer", "r")]) = false := by decide +kernel

/-- (b) a free function reading `st.cache` with no lock is not an action of the model. -/
example :
    (unlockedActions.contains ("filterlist.peekCache", "RuleStorage.cache", "r") ||
      accessLocked "RuleStorage.cache" "r" []) = false := by decide +kernel

/-- …while a helper that reads the cache under the read lock, or is only ever called with the lock held, is fine. -/
example :
    accessLocked "RuleStorage.cache" "r" ["RLock(RuleStorage.cacheMu)"] = true ∧
    accessLocked "RuleStorage.cache" "w" ["Lock(RuleStorage.cacheMu)/caller"] = true ∧
    accessLocked "RuleStorage.cache" "w" ["RLock(RuleStorage.cacheMu)"] = false := by decide +kernel

end UF.C14
