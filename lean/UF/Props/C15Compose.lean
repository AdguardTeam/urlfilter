import UF.Compose.NetRules
import UF.Props.C15
import UF.Proofs.Lit
/-
  C15 composed: the cosmetic engine from the bytes of the lists.  The rule list of `c15` is what the storage
  scan yields with the real parser model, and its hypothesis `CosDomainsWF` is proved from the model of
  `loadDomains` and `IsDomainName`.
-/
namespace UF.C15
open UF UF.B UF.Storage UF.Compose

/-- `NewCosmeticRule`: every permitted domain passed `IsDomainName` or ends in `.*`; hence it is not
    empty and does not end in a dot. -/
theorem c15_parser_domains (trim : Bytes → Bytes) (t : Bytes) (id : Int) (c : CosRule)
    (h : E.newCosmeticRule trim t id = .ok c) : ∀ d ∈ c.permDomains, d ≠ [] ∧ d.getLast? ≠ some (ch '.') :=
  newCosmeticRule_good h

/-- Hypothesis `CosDomainsWF` of `c15`, discharged for the cosmetic rules of a storage. -/
theorem c15_storage_domainsWF (px : E.ParseExt) (lists : List RList) :
    CosDomainsWF (storageCosRules px lists) := by
  intro c hc d hd
  obtain ⟨⟨r, k⟩, hm, rfl⟩ := List.mem_map.1 ((mem_cosRulesOf _ c).1 hc)
  obtain ⟨l, _, idx, line, _, hn, _, _⟩ := storageRules_line hm
  exact (newCosmeticRule_good (newRule_cos hn) d hd).1

/-- The list the cosmetic engine is built from is, in order, the list of cosmetic rules obtained by
    splitting the contents at newlines and parsing every piece (lists with `IgnoreCosmetic` contribute none). -/
theorem c15_storage_rules (px : E.ParseExt) (lists : List RList) :
    storageCosRules px lists = cosRulesOf (specRules px lists) := by
  unfold storageCosRules; rw [storageRules_eq_spec]

/-- C15 END TO END: for all list contents, ids, hostnames, flag combinations and public-suffix oracles, the
    generic and specific selector lists of the engine built from the scanned lists have exactly the
    members of the reference lists over the rules parsed line by line. -/
theorem c15_storage (px : E.ParseExt) (lists : List RList) (host : Bytes)
    (includeCSS includeJS includeGenericCSS : Bool) :
    (∀ c, c ∈ ((CosTable.build (storageCosRules px lists)).matchHost px.ext host includeCSS includeJS includeGenericCSS).1 ↔
          c ∈ (specCosmetic px.ext (cosRulesOf (specRules px lists)) host includeCSS includeJS includeGenericCSS).1) ∧
    (∀ c, c ∈ ((CosTable.build (storageCosRules px lists)).matchHost px.ext host includeCSS includeJS includeGenericCSS).2 ↔
          c ∈ (specCosmetic px.ext (cosRulesOf (specRules px lists)) host includeCSS includeJS includeGenericCSS).2) := by
  rw [← c15_storage_rules]
  exact c15 px.ext (storageCosRules px lists) host includeCSS includeJS includeGenericCSS
    (c15_storage_domainsWF px lists)

/-- A cosmetic rule of the reference, spelled out. -/
theorem c15_storage_lines (px : E.ParseExt) (lists : List RList) (c : CosRule) :
    c ∈ storageCosRules px lists ↔ ∃ l ∈ lists, l.ignoreCosmetic = false ∧ ∃ piece ∈ splitLines l.content,
      E.newRule (realRx px) piece l.id = .ok (some (.cos c)) := by
  rw [c15_storage_rules, mem_cosRulesOf, mem_specRules]
  constructor
  · rintro ⟨l, hl, piece, hp, hn, hc⟩
    exact ⟨l, hl, by simpa [isCos] using hc, piece, hp, hn⟩
  · rintro ⟨l, hl, hi, piece, hp, hn⟩
    exact ⟨l, hl, piece, hp, hn, by simp [isCos, hi]⟩

/-! ### Non-vacuity -/

private def exPx : E.ParseExt :=
  { ext := { psl := fun _ => (lit "org", true), parseAddr := fun _ => none,
             parsePrefix := fun _ => none, pat := fun _ _ _ => true },
    loadDNSRewrite := fun _ => none, regexpShortcut := fun _ => [] }

private def exLists : List RList :=
  [⟨1, false, lit "e.org,~x.e.org##.banner\r\n##.ad\n! c\n||a^\nexample.*#@#.ad\n.,##.bad", false⟩,
   ⟨2, true, lit "##.ignored\n", false⟩]

example : (storageCosRules exPx exLists).map (fun c => (c.text, c.permDomains, c.restrDomains, c.whitelist)) =
    [(lit "e.org,~x.e.org##.banner", [lit "e.org"], [lit "x.e.org"], false), (lit "##.ad", [], [], false),
     (lit "example.*#@#.ad", [lit "example.*"], [], true)] := by
  unfold exLists
  rw [lit_ofList, lit_ofList, lit_ofList, lit_ofList, lit_ofList]
  decide +kernel

end UF.C15
