import UF.Proofs.HostRuleDispatch
import UF.Proofs.Lit
/-
  C18 — hosts-file lines yield exactly the listed names with the given address.

  Model: UF/Model/HostRule.lean (`splitNextByWhitespace`, `newHostRule`, `hostRuleMatches`,
  `isCommentLine`, `findCosmeticRuleMarker`, `newRuleKind`) mirrors rules/host.go, rules/rule.go
  and rules/cosmetic.go after the D11 and D16 repairs.  Reference: UF/Spec/HostLine.lean (the
  blank-separated tokens of the text before the comment sign; the line grammar as text builders).
  `netip.ParseAddr` is an arbitrary oracle, `filterutil.IsDomainName` an arbitrary predicate.
-/
namespace UF.H
open Bytes

/-- Iterating `splitNextByWhitespace` (the loop of `NewHostRule`) over a string that does not
    start with a blank yields exactly its blank-separated non-empty tokens. -/
theorem split_tokens (s : Bytes) (hs : ∀ c t, s = c :: t → isBlank c = false) :
    hostNamesLoop s.length s [] = .ok (blankTokens s) :=
  hostNamesLoop_fuel s hs

/-- One step: the first token and the rest, for a string with a non-blank byte at its start. -/
theorem split_first (s : Bytes) (hne : s ≠ []) (hs : ∀ c t, s = c :: t → isBlank c = false) :
    ∃ tok rest, splitNextByWhitespace s = .ok (tok, rest) ∧ blankTokens s = tok :: blankTokens rest ∧
      rest.length < s.length :=
  ⟨splitTok s, splitRest s, splitNextByWhitespace_eq s, blankTokens_split s hne hs, splitRest_length_lt hne⟩

/-- `NewHostRule` agrees with the token reference on EVERY line (inside or outside the grammar). -/
theorem c18_model_eq_spec (ext : Ext) (dn : Bytes → Bool) (text : Bytes) (listID : Int) :
    newHostRule ext dn text listID =
      match specHostLine ext dn text with
      | some (names, a) => .ok { text := text, listID := listID, hostnames := names, ip := a }
      | none => .error .reject :=
  newHostRule_eq_spec ext dn text listID

/-- `NewHostRule` never panics (all slices of `splitNextByWhitespace` and of the comment strip are
    in range; the names loop terminates within its fuel). -/
theorem c18_total (ext : Ext) (dn : Bytes → Bool) (text : Bytes) (listID : Int) :
    newHostRule ext dn text listID ≠ .error .panic := by
  rw [newHostRule_eq_spec]
  unfold specHostResult
  split <;> simp

/-- `IP (sp|tab)+ name ((sp|tab)+ name)* ws* ['#' any]` yields exactly the listed names with the
    parsed address. -/
theorem c18_ip (ext : Ext) (dn : Bytes → Bool) (ip : Bytes) (wn : List (Bytes × Bytes)) (trail cmt : Bytes)
    (a : Addr) (listID : Int)
    (hip : isHostToken ip = true) (hwn : goodPairs wn = true) (hne : wn ≠ [])
    (ht : allBlank trail = true) (hc : isCommentTail cmt = true)
    (ha : ext.parseAddr ip = some a) :
    newHostRule ext dn (hostLineIP ip wn trail cmt) listID =
      .ok { text := hostLineIP ip wn trail cmt, listID := listID, hostnames := wn.map (·.2), ip := a } := by
  rw [newHostRule_eq_spec, specHostResult, specHostLine, hostLineBody_hostLineIP ip wn trail cmt hip hwn ht hc,
    blankTokens_linePrefix ip wn trail hip hwn ht]
  cases wn with
  | nil => exact absurd rfl hne
  | cons p r => simp [ha]

/-- `name ws* ['#' any]` yields that name with the unspecified IPv4 address. -/
theorem c18_bare (ext : Ext) (dn : Bytes → Bool) (name trail cmt : Bytes) (listID : Int)
    (hn : isHostToken name = true) (hdn : dn name = true)
    (ht : allBlank trail = true) (hc : isCommentTail cmt = true) :
    newHostRule ext dn (hostLineBare name trail cmt) listID =
      .ok { text := hostLineBare name trail cmt, listID := listID, hostnames := [name],
            ip := { is4 := true, val := 0 } } := by
  rw [newHostRule_eq_spec, specHostResult, specHostLine, hostLineBare_eq,
    hostLineBody_hostLineIP name [] trail cmt hn rfl ht hc, blankTokens_linePrefix name [] trail hn rfl ht]
  simp [hdn, addrV4Unspecified]

/-- Text after the comment sign never changes the result: a line with a comment parses exactly
    as the text before the '#' does (only the stored rule text differs). -/
theorem c18_comment_inert (ext : Ext) (dn : Bytes → Bool) (pre c : Bytes) (listID : Int)
    (hne : pre ≠ []) (hf : hashFree pre = true) :
    newHostRule ext dn (pre ++ ch '#' :: c) listID =
      (newHostRule ext dn pre listID).map (fun r => { r with text := pre ++ ch '#' :: c }) := by
  rw [newHostRule_eq_spec, newHostRule_eq_spec]
  unfold specHostResult specHostLine
  rw [hostLineBody_comment pre c hne hf, hostLineBody_plain pre hf]
  split <;> rfl

/-- Any two comments give the same names and address. -/
theorem c18_comment_inert' (ext : Ext) (dn : Bytes → Bool) (pre c₁ c₂ : Bytes) (listID : Int)
    (hne : pre ≠ []) (hf : hashFree pre = true) :
    (newHostRule ext dn (pre ++ ch '#' :: c₁) listID).map (fun r => (r.hostnames, r.ip)) =
    (newHostRule ext dn (pre ++ ch '#' :: c₂) listID).map (fun r => (r.hostnames, r.ip)) := by
  rw [c18_comment_inert ext dn pre c₁ listID hne hf, c18_comment_inert ext dn pre c₂ listID hne hf]
  cases newHostRule ext dn pre listID <;> rfl

/-- A host rule matches a queried name iff it is one of its names. -/
theorem host_match_iff (r : HostRule) (h : Bytes) : hostRuleMatches r h = true ↔ h ∈ r.hostnames := by
  rw [hostRuleMatches, Bool.or_eq_true, List.any_eq_true]
  constructor
  · rintro (h1 | ⟨x, hx, hxe⟩)
    · rw [Bool.and_eq_true] at h1
      exact List.mem_of_mem_head? (beq_iff_eq.1 h1.2)
    · exact beq_iff_eq.1 hxe ▸ hx
  · exact fun hm => .inr ⟨h, hm, beq_self_eq_true h⟩

/-- A syntactic sufficient condition for EVERY line (not only those of the grammar): a line that
    does not start with '!' or '#', has no '$' before its comment sign, and whose comment sign does not
    begin a cosmetic marker directly after a non-blank, is taken by `NewRule` neither for a comment nor
    for a cosmetic rule -- whatever the comment contains (`$$`, `$@$`, ` ##`, … included; this is the
    repair of D16). -/
theorem c18_not_comment_not_cosmetic (line : Bytes) (h : hostLineOutside line = false) :
    isCommentLine line = false ∧ isCosmeticLine line = false := by
  unfold hostLineOutside at h
  simp only [Bool.or_eq_false_iff] at h
  obtain ⟨⟨⟨hbang, hhash⟩, hbody⟩, hmark⟩ := h
  refine ⟨isCommentLine_false_of_head line hbang hhash, ?_⟩
  rw [isCosmeticLine_eq, roundHits_dollar _ _ hhash hbody, Bool.or_false, roundHits]
  -- the '#' round is the last test of `hostLineOutside`, but for the `inHostsComment` exemption
  cases hi : indexByte line (ch '#') with
  | none => rfl
  | some i =>
    rw [hi] at hmark
    simp only [indexByte_pos hi hhash, decide_true, Bool.true_and] at hmark ⊢
    rw [Bool.and_right_comm, hmark, Bool.false_and]

/-- The carve-out is EXACTLY the one the property states.  For every line `IP names… trail cmt` of
    the grammar (names and address without '$', the address not starting with '!'): `NewRule` takes the
    line for a comment or for cosmetic syntax iff the comment sign directly follows a name and begins
    a cosmetic marker ("a double '#' only after a blank, otherwise the line is element-hiding
    syntax").  Nothing else in the comment matters. -/
theorem c18_carveOut_grammar (ip : Bytes) (wn : List (Bytes × Bytes)) (trail cmt : Bytes)
    (hip : isHostToken ip = true) (hwn : goodPairs wn = true) (hne : wn ≠ [])
    (ht : allBlank trail = true) (hc : isCommentTail cmt = true)
    (hipd : isPlainToken ip = true) (hwnd : dollarFreePairs wn = true) :
    hostLineCarveOut (hostLineIP ip wn trail cmt) = commentIsMarker trail cmt :=
  carveOut_hostLineIP ip wn trail cmt hip hwn ht hc hipd hwnd

/-- The same for `name trail cmt`. -/
theorem c18_carveOut_grammar_bare (name trail cmt : Bytes)
    (hn : isHostToken name = true) (ht : allBlank trail = true) (hc : isCommentTail cmt = true)
    (hnd : isPlainToken name = true) :
    hostLineCarveOut (hostLineBare name trail cmt) = commentIsMarker trail cmt :=
  hostLineBare_eq name trail cmt ▸ carveOut_hostLineIP name [] trail cmt hn rfl ht hc hnd rfl

/-- A line of the `IP names…` grammar that `NewRule` (model of `isComment` / `isCosmetic`) does not
    take for a comment or a cosmetic rule is dispatched to the hosts syntax and yields the listed
    names with the parsed address.  (Tokens are arbitrary here; `c18_dispatch` below discharges the
    hypothesis `hout` from the grammar.) -/
theorem c18_dispatch_of_carveOut (ext : Ext) (dn : Bytes → Bool) (ip : Bytes) (wn : List (Bytes × Bytes))
    (trail cmt : Bytes) (a : Addr) (listID : Int)
    (hip : isHostToken ip = true) (hwn : goodPairs wn = true) (hne : wn ≠ [])
    (ht : allBlank trail = true) (hc : isCommentTail cmt = true)
    (ha : ext.parseAddr ip = some a)
    (hout : hostLineCarveOut (hostLineIP ip wn trail cmt) = false) :
    newRuleKind ext dn (hostLineIP ip wn trail cmt) listID =
      .host { text := hostLineIP ip wn trail cmt, listID := listID, hostnames := wn.map (·.2), ip := a } := by
  exact newRuleKind_host (hostLineIP_isEmpty ip wn trail cmt hip) hout
    (c18_ip ext dn ip wn trail cmt a listID hip hwn hne ht hc ha)

/-- The same for a bare domain name. -/
theorem c18_dispatch_bare_of_carveOut (ext : Ext) (dn : Bytes → Bool) (name trail cmt : Bytes) (listID : Int)
    (hn : isHostToken name = true) (hdn : dn name = true)
    (ht : allBlank trail = true) (hc : isCommentTail cmt = true)
    (hout : hostLineCarveOut (hostLineBare name trail cmt) = false) :
    newRuleKind ext dn (hostLineBare name trail cmt) listID =
      .host { text := hostLineBare name trail cmt, listID := listID, hostnames := [name],
              ip := { is4 := true, val := 0 } } := by
  exact newRuleKind_host (hostLineBare_eq name trail cmt ▸ hostLineIP_isEmpty name [] trail cmt hn) hout
    (c18_bare ext dn name trail cmt listID hn hdn ht hc)

/-- **C18, dispatch.**  EVERY line `IP (sp|tab)+ name ((sp|tab)+ name)* ws* ['#' any]` of the
    property's grammar (address and names without '$', the address not starting with '!') whose
    comment does not begin with a cosmetic marker directly after a name is dispatched by `NewRule`
    to the hosts syntax and yields exactly the listed names with the parsed address -- whatever the
    comment contains (`x$$y`, `x$@$y`, ` ##`, `#@#` after a blank, …). -/
theorem c18_dispatch (ext : Ext) (dn : Bytes → Bool) (ip : Bytes) (wn : List (Bytes × Bytes)) (trail cmt : Bytes)
    (a : Addr) (listID : Int)
    (hip : isHostToken ip = true) (hwn : goodPairs wn = true) (hne : wn ≠ [])
    (ht : allBlank trail = true) (hc : isCommentTail cmt = true)
    (ha : ext.parseAddr ip = some a)
    (hipd : isPlainToken ip = true) (hwnd : dollarFreePairs wn = true)
    (hout : commentIsMarker trail cmt = false) :
    newRuleKind ext dn (hostLineIP ip wn trail cmt) listID =
      .host { text := hostLineIP ip wn trail cmt, listID := listID, hostnames := wn.map (·.2), ip := a } :=
  c18_dispatch_of_carveOut ext dn ip wn trail cmt a listID hip hwn hne ht hc ha
    (by rw [carveOut_hostLineIP ip wn trail cmt hip hwn ht hc hipd hwnd, hout])

/-- The same for a bare domain name `name ws* ['#' any]`. -/
theorem c18_dispatch_bare (ext : Ext) (dn : Bytes → Bool) (name trail cmt : Bytes) (listID : Int)
    (hn : isHostToken name = true) (hdn : dn name = true)
    (ht : allBlank trail = true) (hc : isCommentTail cmt = true)
    (hnd : isPlainToken name = true)
    (hout : commentIsMarker trail cmt = false) :
    newRuleKind ext dn (hostLineBare name trail cmt) listID =
      .host { text := hostLineBare name trail cmt, listID := listID, hostnames := [name],
              ip := { is4 := true, val := 0 } } :=
  c18_dispatch_bare_of_carveOut ext dn name trail cmt listID hn hdn ht hc
    (by rw [c18_carveOut_grammar_bare name trail cmt hn ht hc hnd, hout])

/-- Conversely the carve-out is real: when the comment sign directly follows a name and begins a
    cosmetic marker, `NewRule` hands the line to `NewCosmeticRule`. -/
theorem c18_marker_is_cosmetic (ext : Ext) (dn : Bytes → Bool) (ip : Bytes) (wn : List (Bytes × Bytes))
    (trail cmt : Bytes) (listID : Int)
    (hip : isHostToken ip = true) (hwn : goodPairs wn = true) (hne : wn ≠ [])
    (ht : allBlank trail = true) (hc : isCommentTail cmt = true)
    (hipd : isPlainToken ip = true) (hwnd : dollarFreePairs wn = true)
    (hin : commentIsMarker trail cmt = true) :
    newRuleKind ext dn (hostLineIP ip wn trail cmt) listID = .cosmetic := by
  rw [newRuleKind, hostLineIP_isEmpty ip wn trail cmt hip, isCommentLine_hostLineIP ip wn trail cmt hip hipd,
    isCosmeticLine_hostLineIP ip wn trail cmt hip hwn ht hc hipd hwnd, hin]
  rfl

/-- The reference answer per query (`specHostAnswer`), spelled out: a host rule naming the queried host counts
    for the IPv4 or the IPv6 group according to `IP.Is4()` (an IPv4-mapped IPv6 address is not `Is4`), as the
    DNS engine files it. -/
theorem c18_groups (names : List Bytes) (a : Addr) (q : Bytes) :
    specHostAnswer names a q =
      (if q ∈ names then (a.is4, !a.is4) else (false, false)) := by
  unfold specHostAnswer
  by_cases h : q ∈ names <;> simp [h]

/-- Generated-fact obligation: the run-time order of the cosmetic markers' first characters. -/
theorem c18_marker_first_chars : Facts.H.cosmeticMarkerFirstChars = [ch '#', ch '$'] := markerFirstChars_eq

/-! Non-vacuity -/

/-- The two D11 replays, on the model of the repaired code. -/
example : (newHostRule c18Ext (fun _ => true) (lit "0.0.0.0 example.org#note") 1).toOption.map (·.hostnames) =
    some [lit "example.org"] := by
  rw [lit_ofList, lit_ofList]
  decide +kernel
example : newRuleKind c18Ext (fun _ => true) (lit "0.0.0.0 example.org\t## note") 1 =
    .host { text := lit "0.0.0.0 example.org\t## note", listID := 1, hostnames := [lit "example.org"],
            ip := { is4 := true, val := 0 } } := by
  rw [lit_ofList, lit_ofList]
  decide +kernel
/-- The model distinguishes the repaired code from the pinned tree: the old comment strip yields
    the name `example.or` on the D11 replay. -/
example : (newHostRuleOld c18Ext (fun _ => true) (lit "0.0.0.0 example.org#note") 1).toOption.map (·.hostnames) =
    some [lit "example.or"] := by
  rw [lit_ofList, lit_ofList]
  decide +kernel
/-- The hypotheses of `c18_dispatch` are satisfiable (two names, tab run, a `##` comment after a blank
    that contains `$$`). -/
example : isHostToken (lit "::ffff:1.2.3.4") = true ∧
    goodPairs [(lit " \t", lit "a.example"), (lit "\t", lit "b.example")] = true ∧
    allBlank (lit " ") = true ∧ isCommentTail (lit "## phishing $$ x") = true ∧
    isPlainToken (lit "::ffff:1.2.3.4") = true ∧
    dollarFreePairs [(lit " \t", lit "a.example"), (lit "\t", lit "b.example")] = true ∧
    commentIsMarker (lit " ") (lit "## phishing $$ x") = false ∧
    hostLineCarveOut (hostLineIP (lit "::ffff:1.2.3.4") [(lit " \t", lit "a.example"), (lit "\t", lit "b.example")]
      (lit " ") (lit "## phishing $$ x")) = false := by
  rw [lit_ofList, lit_ofList, lit_ofList, lit_ofList, lit_ofList, lit_ofList, lit_ofList]
  decide +kernel

/-- **The D16 replay** `0.0.0.0 example.org # costs$$5`: the hypotheses of `c18_dispatch` hold for it
    (ip `0.0.0.0`, one name, trail ` `, comment `# costs$$5`) … -/
example : isHostToken (lit "0.0.0.0") = true ∧ goodPairs [(lit " ", lit "example.org")] = true ∧
    allBlank (lit " ") = true ∧ isCommentTail (lit "# costs$$5") = true ∧
    isPlainToken (lit "0.0.0.0") = true ∧ dollarFreePairs [(lit " ", lit "example.org")] = true ∧
    commentIsMarker (lit " ") (lit "# costs$$5") = false ∧
    hostLineIP (lit "0.0.0.0") [(lit " ", lit "example.org")] (lit " ") (lit "# costs$$5") =
      lit "0.0.0.0 example.org # costs$$5" := by
  rw [lit_ofList, lit_ofList, lit_ofList, lit_ofList, lit_ofList]
  decide +kernel
/-- … the model of the repaired code yields the host rule … -/
example : newRuleKind c18Ext (fun _ => true) (lit "0.0.0.0 example.org # costs$$5") 1 =
    .host { text := lit "0.0.0.0 example.org # costs$$5", listID := 1, hostnames := [lit "example.org"],
            ip := { is4 := true, val := 0 } } := by
  rw [lit_ofList, lit_ofList]
  decide +kernel
/-- … and the OLD marker search (before d2e67f2) took the line for a cosmetic rule: the model
    distinguishes the repaired code from the defective one. -/
example : (findCosmeticRuleMarkerOld (lit "0.0.0.0 example.org # costs$$5")).isSome = true ∧
    findCosmeticRuleMarker (lit "0.0.0.0 example.org # costs$$5") = none := by
  rw [lit_ofList]
  decide +kernel
/-- Further comments the old carve-out excluded and that are host rules: `$@$` inside a word, `$$`
    after a blank, a `#@#` / `#?#` after a blank, a comment without a preceding blank. -/
example : [lit "0.0.0.0 example.org # a$@$b", lit "0.0.0.0 example.org # costs $$5",
      lit "0.0.0.0 example.org #@#.x", lit "0.0.0.0 example.org\t#?#sel", lit "0.0.0.0 example.org# x$$y",
      lit "example.org #$$"].all
    (fun l => !hostLineCarveOut l && !hostLineOutside l) = true := by
  rw [lit_ofList, lit_ofList, lit_ofList, lit_ofList, lit_ofList, lit_ofList]
  decide +kernel
/-- The carve-out is real: a `##` directly after a name is element-hiding syntax. -/
example : isCosmeticLine (lit "0.0.0.0 example.org##.banner") = true := by
  rw [lit_ofList]
  decide +kernel
example : hostLineCarveOut (lit "0.0.0.0 example.org##.banner") = true := by
  rw [lit_ofList]
  decide +kernel
example : commentIsMarker [] (lit "##.banner") = true ∧ commentIsMarker (lit " ") (lit "##.banner") = false ∧
    commentIsMarker [] (lit "#note") = false := by decide +kernel
/-- `hostLineOutside` is only a sufficient test: a name that begins with `$$` after a blank is a host
    name for the code (the blank exemption), though outside the grammar of the property. -/
example : hostLineOutside (lit "0.0.0.0 $$x") = true ∧ hostLineCarveOut (lit "0.0.0.0 $$x") = false := by decide +kernel

end UF.H
