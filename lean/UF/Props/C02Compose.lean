import UF.Compose.Basic
import UF.Props.C02
import UF.Proofs.Lit
/-
  C02 composed: `BasicRespectsTexts` is proved for the model `getDNSBasicRule`, and the rule list is what
  the storage scan yields from the bytes of the lists with the real parser model (hosts-file lines
  included), for which the hypotheses of `c02` (retrieval, text determination, size) are proved.  So
  `c02_storage` states C02 from bytes with only the oracles in `px` as parameters.
-/
namespace UF.C02
open UF UF.B UF.Storage UF.Compose

/-- `BasicRespectsTexts` holds for the modelled `GetDNSBasicRule` on every rule set in which the text
    determines the rule up to the list id. -/
theorem c02_basic (S : List NetRule)
    (hS : ∀ r ∈ S, ∀ r' ∈ S, r.text = r'.text → r' = { r with listID := r'.listID }) :
    BasicRespectsTexts getDNSBasicRule S :=
  fun _ _ hl hl' ht => getDNSBasicRule_agree (listsAgree_of_texts hS hl hl' ht)

/-- On candidate lists that agree up to list ids, order and multiplicities, `GetDNSBasicRule` selects a
    rule of the same class (exception? important?) or none on both. -/
theorem c02_basic_agree (l l' : List NetRule)
    (h1 : ∀ r ∈ l, ∃ r' ∈ l', { r with listID := 0 } = { r' with listID := 0 })
    (h2 : ∀ r' ∈ l', ∃ r ∈ l, { r with listID := 0 } = { r' with listID := 0 }) :
    (getDNSBasicRule l).map netCls = (getDNSBasicRule l').map netCls :=
  getDNSBasicRule_agree ⟨h1, h2⟩

/-- C02 with `basic := getDNSBasicRule` and no hypothesis about it; the one hypothesis
    on the rule list that is left besides retrieval and size: rules are parsed from their text. -/
theorem c02_full (hf : HashFns) (k : Nat) (hcoh : hf.Coherent k)
    (retrieve : Idx → Option Rule) (ext : Ext) (L : List (Rule × Idx)) (q : Request)
    (hlen : L.length < maxInt32) (hret : RetrievalOK retrieve L)
    (hparse : ∀ r ∈ netRulesOf (L.map (·.1)), ∀ r' ∈ netRulesOf (L.map (·.1)),
      r.text = r'.text → r' = { r with listID := r'.listID }) :
    DnsResult.Equiv ((DnsEngine.build hf k L).matchRequest hf k retrieve ext getDNSBasicRule q)
      (specDns ext getDNSBasicRule (L.map (·.1)) q) :=
  c02 hf k hcoh retrieve ext getDNSBasicRule L q hlen hret
    (textDetermines_of_textDet hparse fun _ => hostLevelNet_sub) (c02_basic _ hparse)

/-- The hypotheses of `c02`, discharged for the rules of a storage. -/
theorem c02_storage_hyps (io : IO) (px : E.ParseExt) (lists : List RList) (hok : StorageOK lists)
    (st : RuleStorage) (hnew : newRuleStorage lists = some st) (history : List (BitVec 64)) :
    (storageRulesI px lists).length < maxInt32 ∧
    RetrievalOK (retrieveAt io px (reach io px st history)) (storageRulesI px lists) ∧
    TextDeterminesRule (hostLevelNet (storageRulesI px lists)) ∧
    BasicRespectsTexts getDNSBasicRule (netRulesOf ((storageRulesI px lists).map (·.1))) :=
  ⟨Nat.lt_of_le_of_lt (storageRulesI_length_le px lists) hok.size,
   retrievalOK_rules io px lists hok.listsOK st hnew history,
   textDetermines_of_textDet (storage_textDet px lists) fun _ => hostLevelNet_sub,
   c02_basic _ (storage_textDet px lists)⟩

/-- C02 from bytes, every hash pair and window length. -/
theorem c02_storage_hash (hf : HashFns) (k : Nat) (hcoh : hf.Coherent k)
    (io : IO) (px : E.ParseExt) (lists : List RList) (hok : StorageOK lists)
    (st : RuleStorage) (hnew : newRuleStorage lists = some st) (history : List (BitVec 64)) (q : Request) :
    DnsResult.Equiv
      ((DnsEngine.build hf k (storageRulesI px lists)).matchRequest hf k
        (retrieveAt io px (reach io px st history)) px.ext getDNSBasicRule q)
      (specDns px.ext getDNSBasicRule (specRules px lists) q) := by
  obtain ⟨h1, h2, h3, h4⟩ := c02_storage_hyps io px lists hok st hnew history
  rw [← storageRulesI_fst]
  exact c02 hf k hcoh _ px.ext getDNSBasicRule (storageRulesI px lists) q h1 h2 h3 h4

/-- C02 END TO END for the code as it is (djb2, generated `shortcutLength`, the modelled `GetDNSBasicRule`):
    for all list contents (adblock rules, hosts-file lines, comments, CRLF …), ids, backings, cache
    histories and DNS requests, the answer of `DNSEngine.MatchRequest` agrees componentwise with the
    reference computed by parsing the lists line by line and scanning all rules. -/
theorem c02_storage (io : IO) (px : E.ParseExt) (lists : List RList) (hok : StorageOK lists)
    (st : RuleStorage) (hnew : newRuleStorage lists = some st) (history : List (BitVec 64)) (q : Request) :
    DnsResult.Equiv
      ((DnsEngine.build djb2 Facts.shortcutLength (storageRulesI px lists)).matchRequest djb2 Facts.shortcutLength
        (retrieveAt io px (reach io px st history)) px.ext getDNSBasicRule q)
      (specDns px.ext getDNSBasicRule (specRules px lists) q) :=
  c02_storage_hash djb2 Facts.shortcutLength (djb2_coherent _ (by decide)) io px lists hok st hnew history q

/-- The class (exception? important?) of the composed answer's `NetworkRule` is that of `GetDNSBasicRule` run
    over the applicable, matching rules of the reference.  (That this is the documented precedence is C06,
    applied in `c02_top_class`.) -/
theorem c02_storage_class (io : IO) (px : E.ParseExt) (lists : List RList) (hok : StorageOK lists)
    (st : RuleStorage) (hnew : newRuleStorage lists = some st) (history : List (BitVec 64)) (q : Request)
    (hq : q.hostname.isEmpty = false) :
    (((DnsEngine.build djb2 Facts.shortcutLength (storageRulesI px lists)).matchRequest djb2 Facts.shortcutLength
        (retrieveAt io px (reach io px st history)) px.ext getDNSBasicRule q).networkRule.map netCls) =
      (getDNSBasicRule ((netRulesOf (specRules px lists)).filter
        fun r => dnsApplicable r && r.matches px.ext q)).map netCls := by
  have h := (c02_storage io px lists hok st hnew history q).2.1
  rw [h]
  unfold specDns
  simp only [hq, Bool.false_eq_true, if_false]
  cases hb : getDNSBasicRule ((netRulesOf (specRules px lists)).filter
      fun r => dnsApplicable r && r.matches px.ext q) with
  | some r => rfl
  | none => rfl

/-! ### Non-vacuity: a storage with an adblock rule, its exception in another list and a hosts line. -/

private def exPx : E.ParseExt :=
  { ext := { psl := fun _ => (lit "org", true), parseAddr := fun s => if s == lit "0.0.0.0" then some ⟨true, 0, []⟩ else none,
             parsePrefix := fun _ => none, pat := fun _ _ _ => true },
    loadDNSRewrite := fun _ => none, regexpShortcut := fun _ => [] }

private def exLists : List RList :=
  [⟨1, false, lit "||b.org^\r\n! c\n0.0.0.0 b.org\n", false⟩, ⟨7, false, lit "@@||b.org^$important\n##x", true⟩]

example : StorageOK exLists :=
  ⟨by decide +kernel, by decide +kernel, by unfold exLists; rw [lit_ofList, lit_ofList]; decide +kernel⟩

example : (specRules exPx exLists).map (fun r => (kindOf r, r.text, r.listID)) =
    [(.network, lit "||b.org^", 1), (.host, lit "0.0.0.0 b.org", 1), (.network, lit "@@||b.org^$important", 7),
     (.cosmetic, lit "##x", 7)] := by
  unfold exLists
  rw [lit_ofList, lit_ofList, lit_ofList, lit_ofList, lit_ofList, lit_ofList]
  decide +kernel

private def exQ (h : Bytes) : Request :=
  { url := h, urlLower := h, hostname := h, isHostnameRequest := true, reqType := Facts.TypeDocument }

/-- Both sides of `c02_storage` computed on the instance: for `b.org` the important exception of list 7 wins
    over the blocking rule and the hosts line of list 1. -/
example :
    let res := (DnsEngine.build djb2 Facts.shortcutLength (storageRulesI exPx exLists)).matchRequest djb2
      Facts.shortcutLength (retrieveAt ⟨4096, fun _ => 1⟩ exPx ⟨exLists, []⟩) exPx.ext getDNSBasicRule (exQ (lit "b.org"))
    let ref := specDns exPx.ext getDNSBasicRule (specRules exPx exLists) (exQ (lit "b.org"))
    res.networkRules.map (·.text) = [lit "||b.org^", lit "@@||b.org^$important"] ∧
    res.networkRule.map (·.text) = some (lit "@@||b.org^$important") ∧ res.v4 = [] ∧ res.matched = true ∧
    ref.networkRules.map (·.text) = [lit "||b.org^", lit "@@||b.org^$important"] ∧
    ref.networkRule.map (·.text) = some (lit "@@||b.org^$important") ∧ ref.v4 = [] ∧ ref.matched = true := by
  unfold exLists
  rw [lit_ofList, lit_ofList, lit_ofList, lit_ofList, lit_ofList]
  decide +kernel

end UF.C02
