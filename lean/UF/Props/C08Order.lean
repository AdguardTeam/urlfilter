import UF.Compose5.C08Order
import UF.Compose5.C08Clients
import UF.Compose2.Pat
import UF.Proofs.Lit
/-
  C08, the VALUE-ORDER inconsistency of the twin relation.

  The property text says a badfilter rule disables the rules "identical to it apart from the badfilter modifier
  (same exception flag, pattern and modifier values)".  The code compares the list-valued modifiers as SEQUENCES
  (`slices.Equal`, `clients.Equal`), and the parser sorts only some of them:

      $ctag, $client       sorted at parse time    ⇒  `$ctag=y|x,badfilter`  DISABLES  `$ctag=x|y`
      $domain, $denyallow,
      $dnstype             written order kept      ⇒  `$domain=b.com|a.com,badfilter` does NOT disable `$domain=a.com|b.com`

  (C04 says the order of the values never matters for MATCHING; for the twin relation it does, for three of the
  five list-valued modifiers.)  This file DOCUMENTS the behaviour of the code — model and Go agree (family
  `l.c08order`) — it does not decide which of the two is intended.

  The theorems speak about `loadOption` (the `switch` of `NetworkRule.loadOption`) applied to the modifier VALUE
  TEXT `v1|v2|…`, starting from two states `r0`, `r0$badfilter` of the rule under construction that are twins.
-/
namespace UF.C08
open UF UF.E UF.L Bytes

/-- `$ctag`: the values written in ANY order give the same sorted lists, so the near-twin with permuted values
    is a twin: it is negated. -/
theorem c08_order_ctag_negated (px : ParseExt) (r0 r b : NetRule) (l l' : List Bytes) (hperm : l.Perm l')
    (hne : l ≠ []) (hs : sepFree (ch '|') l) (h0 : r0.badfilter = false)
    (hr : loadOption px r0 (lit "ctag") (joinSep l [ch '|']) = .ok r)
    (hb : loadOption px r0.withBadfilter (lit "ctag") (joinSep l' [ch '|']) = .ok b) :
    negatesBadfilter b r = true := by
  rw [loadOption_ctag] at hr hb
  rw [← loadCTags_perm hperm hne hs] at hb
  obtain ⟨⟨p, rs⟩, e, hr⟩ := bind_ok_elim hr
  obtain ⟨⟨p', rs'⟩, e', hb⟩ := bind_ok_elim hb
  rw [e] at e'
  cases e'
  cases pure_ok_elim hr
  cases pure_ok_elim hb
  exact c08_twin_negates _ _ h0 rfl

/-- `$client`: host names AND addresses / subnets are sorted at parse time (`clients.finalize`), so the near-twin
    with permuted values is negated.  Values: non-empty, without `|` and backslash (quotes allowed).  `hz`: the
    subnets of the parsed rule carry no IPv6 zone — `comparePrefix` ties are then identical prefixes; true of
    everything the real `netip` returns here (`IsProbablyIP` admits no `%`, `ParsePrefix` rejects zones), and
    vacuous for host names. -/
theorem c08_order_client_negated (px : ParseExt) (r0 r b : NetRule) (l l' : List Bytes) (hperm : l.Perm l')
    (hne : l ≠ []) (hc : ∀ x ∈ l, x ≠ [] ∧ CleanItem (ch '|') (ch '\\') x) (h0 : r0.badfilter = false)
    (hr : loadOption px r0 (lit "client") (joinSep l [ch '|']) = .ok r)
    (hb : loadOption px r0.withBadfilter (lit "client") (joinSep l' [ch '|']) = .ok b)
    (hz : ∀ c, (r.permClients = some c ∨ r.restrClients = some c) → ∀ p ∈ c.nets, p.addr.zone = []) :
    negatesBadfilter b r = true := by
  rw [loadOption_client] at hr hb
  obtain ⟨⟨p, rs⟩, e, hr⟩ := bind_ok_elim hr
  obtain ⟨⟨p', rs'⟩, e', hb⟩ := bind_ok_elim hb
  cases pure_ok_elim hr
  cases pure_ok_elim hb
  obtain ⟨q1, q2, ⟨a1, rfl⟩, ⟨a2, rfl⟩, ⟨b1, rfl⟩, ⟨b2, rfl⟩⟩ := loadClients_perm px.ext hperm hne hc e e'
  have e1 := finalize_eq_of_permEquiv q1 (fun c hc => hz c (.inl hc))
  have e2 := finalize_eq_of_permEquiv q2 (fun c hc => hz c (.inr hc))
  rw [← e1, ← e2]
  exact c08_twin_negates _ _ h0 rfl

/-- `$domain`: the written order is kept, so ANY two different value lists — two different arrangements of the
    same values included — give rules that are not twins: not negated.  (`PlainDomains`: non-empty list of
    non-empty plain values `loadDomains` accepts, without `|`.) -/
theorem c08_order_domain_not_negated (px : ParseExt) (r0 : NetRule) (l l' : List Bytes)
    (hl : PlainDomains l) (hl' : PlainDomains l') (hne : l ≠ l') :
    ∃ r b, loadOption px r0 (lit "domain") (joinSep l [ch '|']) = .ok r ∧
      loadOption px r0.withBadfilter (lit "domain") (joinSep l' [ch '|']) = .ok b ∧
      r.permDomains = l ∧ b.permDomains = l' ∧ negatesBadfilter b r = false := by
  refine ⟨{ r0 with permDomains := l, restrDomains := [] },
    { r0.withBadfilter with permDomains := l', restrDomains := [] },
    by rw [loadOption_domain, loadDomains_plain l hl]; rfl,
    by rw [loadOption_domain, loadDomains_plain l' hl']; rfl, rfl, rfl, ?_⟩
  apply Bool.eq_false_iff.2
  intro h
  exact hne ((negates_fields _ _).1 h).2.2.2.1.symm

/-- `$denyallow`: the same. -/
theorem c08_order_denyallow_not_negated (px : ParseExt) (r0 : NetRule) (l l' : List Bytes)
    (hl : PlainDomains l) (hl' : PlainDomains l') (hne : l ≠ l') :
    ∃ r b, loadOption px r0 (lit "denyallow") (joinSep l [ch '|']) = .ok r ∧
      loadOption px r0.withBadfilter (lit "denyallow") (joinSep l' [ch '|']) = .ok b ∧
      r.denyallow = l ∧ b.denyallow = l' ∧ negatesBadfilter b r = false := by
  have key : ∀ (r : NetRule) (m : List Bytes), PlainDomains m →
      loadOption px r (lit "denyallow") (joinSep m [ch '|']) = .ok { r with denyallow := m } := by
    intro r m hm
    rw [loadOption_denyallow, loadDomains_plain m hm]
    have hlen : (m.length == 0) = false := by
      cases m with
      | nil => exact absurd rfl hm.1
      | cons => rfl
    simp only [bind, Except.bind, List.length_nil, Nat.lt_irrefl, decide_false, hlen, Bool.or_self,
      Bool.false_eq_true, if_false]
    rfl
  refine ⟨{ r0 with denyallow := l }, { r0.withBadfilter with denyallow := l' }, key r0 l hl,
    key _ l' hl', rfl, rfl, ?_⟩
  apply Bool.eq_false_iff.2
  intro h
  exact hne ((negates_fields _ _).1 h).2.2.2.2.2.1.symm

/-- `$dnstype`: the same, for the lists of record type NUMBERS (two spellings of one type are the same value).
    (`PlainTypes l f`: non-empty list of non-empty plain names, `strToRRType s = f s`.) -/
theorem c08_order_dnstype_not_negated (px : ParseExt) (r0 : NetRule) (l l' : List Bytes) (f : Bytes → Nat)
    (hl : PlainTypes l f) (hl' : PlainTypes l' f) (hne : l.map f ≠ l'.map f) :
    ∃ r b, loadOption px r0 (lit "dnstype") (joinSep l [ch '|']) = .ok r ∧
      loadOption px r0.withBadfilter (lit "dnstype") (joinSep l' [ch '|']) = .ok b ∧
      r.permDns = l.map f ∧ b.permDns = l'.map f ∧ negatesBadfilter b r = false := by
  refine ⟨{ r0 with permDns := l.map f, restrDns := [] },
    { r0.withBadfilter with permDns := l'.map f, restrDns := [] },
    by rw [loadOption_dnstype, loadDNSTypes_plain l f hl]; rfl,
    by rw [loadOption_dnstype, loadDNSTypes_plain l' f hl']; rfl, rfl, rfl, ?_⟩
  apply Bool.eq_false_iff.2
  intro h
  exact hne ((negates_fields _ _).1 h).2.2.2.2.2.2.1.symm

/-! ### the texts of the table above through the model parser -/

private def exPx : ParseExt :=
  { ext := { psl := fun _ => (lit "com", true), parseAddr := fun _ => none,
             parsePrefix := fun _ => none, pat := I2.modelPatD },
    loadDNSRewrite := fun _ => none, regexpShortcut := fun _ => [] }

/-- `||e.com^$domain=a.com|b.com` is NOT negated by `||e.com^$domain=b.com|a.com,badfilter` (it is by the
    same order). -/
example :
    negatesText exPx (lit "||e.com^$domain=b.com|a.com,badfilter") (lit "||e.com^$domain=a.com|b.com") = some false ∧
    negatesText exPx (lit "||e.com^$domain=a.com|b.com,badfilter") (lit "||e.com^$domain=a.com|b.com") = some true := by
  rw [lit_ofList, lit_ofList, lit_ofList]
  decide +kernel

/-- `||e.com^$ctag=x|y` IS negated by `||e.com^$ctag=y|x,badfilter`. -/
example :
    negatesText exPx (lit "||e.com^$ctag=y|x,badfilter") (lit "||e.com^$ctag=x|y") = some true ∧
    negatesText exPx (lit "||e.com^$ctag=x|y,badfilter") (lit "||e.com^$ctag=x|y") = some true := by
  rw [lit_ofList, lit_ofList, lit_ofList]
  decide +kernel

example :
    negatesText exPx (lit "||e.com^$denyallow=b.com|a.com,badfilter") (lit "||e.com^$denyallow=a.com|b.com") = some false ∧
    negatesText exPx (lit "||e.com^$dnstype=AAAA|A,badfilter") (lit "||e.com^$dnstype=A|AAAA") = some false ∧
    negatesText exPx (lit "||e.com^$dnstype=a|AAAA,badfilter") (lit "||e.com^$dnstype=A|aaaa") = some true ∧
    negatesText exPx (lit "||e.com^$client=phone|'Kids-PC'|laptop,badfilter") (lit "||e.com^$client=laptop|phone|'Kids-PC'") =
      some true := by
  rw [lit_ofList, lit_ofList, lit_ofList, lit_ofList, lit_ofList, lit_ofList, lit_ofList, lit_ofList]
  decide +kernel

/-- The hypotheses of the theorems are satisfiable. -/
example : PlainDomains [lit "a.com", lit "b.com"] ∧ PlainDomains [lit "b.com", lit "a.com"] ∧
    [lit "a.com", lit "b.com"] ≠ [lit "b.com", lit "a.com"] ∧
    [lit "a.com", lit "b.com"].Perm [lit "b.com", lit "a.com"] :=
  ⟨plainDomains_of_B _ (by decide +kernel), plainDomains_of_B _ (by decide +kernel), by decide, List.Perm.swap _ _ _⟩

end UF.C08
