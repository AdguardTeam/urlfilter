import UF.Proofs.ProgPersist
import UF.Proofs.ProgPersistConc
import UF.Proofs.ProgDegradedRun
import UF.Compose4.EnvOfStorage
import UF.Props.C19
import UF.Proofs.Lit
/-
  C19 COMPOSED: "for i ≥ k no panic, result(qi) ⊆ oracle(qi), and rules retrieved before k are
  still returned" as ONE statement over the state machine `UF.Prog`, generically and on the engines built from
  the BYTES of the lists (`envDns`, `envNet`).

  Sequential form (`c19_composed`, `c19_composed_engine`, `c19_composed_net`): a history of queries and `close`
  events is split anywhere as `h1 ++ h2`;
    (i)   every query of the history finishes (no crash, no hang);
    (ii)  every answer is a SUB-SEQUENCE of the fault-free answer (network rules: of `pureAnswer` = `MatchAll`;
          host rules: of what the hosts table holds for the name, `pureHosts` = `matchLookupTable` -- the
          fault-free ANSWER may hold no host rule at all because it stops at a deciding network rule which the
          degraded run cannot read, DESIGN §8.5);
    (iii) every cache entry `(idx, r)` present after `h1` -- in particular before the `close` events of `h2` --
          is still there after `h2` (the entry itself: `cachePut` keeps an existing object, D15), and `r` is
          returned by EVERY query of `h2` of which `idx` is a candidate and which `r` matches (i.e. by every
          later query for which the fault-free run returns it through that index).
  `c19_degraded_exact` says more than (ii): the degraded answer is EXACTLY the fault-free answer of the engine
  with the unavailable indexes (not cached, list closed) struck out.

  ORDER.  Sequentially the degraded answer is a sub-sequence because closed lists and the cache are the same at
  every occurrence of an index in the work list of one query (`ruleIn` keeps the first occurrence; all
  occurrences of an unavailable index are skipped together).  CONCURRENTLY that is false:
  `c19_concurrent_order_witness` is a schedule in which another thread's `cachePut` lands between two
  occurrences of an index in a closed list, so the rule is collected at its SECOND occurrence and the answer
  `[8, 7]` is not a sub-sequence of the fault-free `[7, 8]`.  The concurrent statement (`c19_composed_concurrent`)
  therefore keeps membership for (ii); (i) and (iii) hold as in the sequential form.
-/
namespace UF.C19
open UF UF.B UF.Prog UF.Storage UF.Compose UF.Compose4

/-- The cache ENTRY persists (`c19_cache_persists` keeps the key only): across any history
    of queries and `close` events, and across any schedule of concurrent threads and `close` events. -/
theorem c19_cache_entry_persists {R Re : Type} (env : Env R Re) (s : State R Re) (idx : Int) (r : R)
    (hl : cacheLookup s.cache idx = some r) :
    (∀ h : List HEv, cacheLookup (runHistoryT env s h).1.cache idx = some r) ∧
    (∀ (ts : List (Thread R)) (sched : List Ev), cacheLookup (Config.run env ⟨s, ts⟩ sched).state.cache idx = some r) :=
  ⟨fun h => runHistoryT_lookup env h s hl, fun ts sched => run_lookup env sched ⟨s, ts⟩ hl⟩

/-- The degraded answer, EXACTLY: a query run alone in any fault state (any lists closed, any cache, any
    lazy-compile cells) answers what the fault-free engine answers when the indexes that are neither cached nor
    in an open list are struck out of it; for the network rules: the entries of the fault-free first stage whose
    index is available, in their order. -/
theorem c19_degraded_exact {R Re : Type} (env : Env R Re) (s : State R Re) (q : Query) (hs : SInv env s) :
    (runQuery env s q).2.answer = pureAnswer (env.restrict (avail env s)) q ∧
    (q.trivial = false →
      (runQuery env s q).2.answer.1 = nets ((pure1 env (env.reqOf q)).filter (keep (avail env s)))) :=
  ⟨runQuery_degraded q hs, runQuery_nets_exact q hs⟩

/-- C19 COMPOSED, sequential, any environment: see the header. -/
theorem c19_composed {R Re : Type} (env : Env R Re) (s : State R Re) (hs : SInv env s) (h1 h2 : List HEv) :
    -- the run of `h1 ++ h2` is the run of `h1` followed by the run of `h2` from the state `h1` left
    (runHistoryT env s (h1 ++ h2)).2 = (runHistoryT env s h1).2 ++ (runHistoryT env (runHistoryT env s h1).1 h2).2 ∧
    (runHistoryT env s (h1 ++ h2)).2.map (·.q) = queriesOf (h1 ++ h2) ∧
    -- (i), (ii)
    (∀ t ∈ (runHistoryT env s (h1 ++ h2)).2,
      t.pc = .done ∧ t.answer.1.Sublist (pureAnswer env t.q).1 ∧
        t.answer.2.Sublist (pureHosts env (env.reqOf t.q))) ∧
    -- (iii)
    (∀ idx r, cacheLookup (runHistoryT env s h1).1.cache idx = some r →
      cacheLookup (runHistoryT env s (h1 ++ h2)).1.cache idx = some r ∧
      ∀ t ∈ (runHistoryT env (runHistoryT env s h1).1 h2).2,
        (t.q.trivial = false → ∀ b : Bool, (b, idx) ∈ env.cands (env.reqOf t.q) →
          env.wants (if b then .sc else .dom) r = true → env.mtch r (env.reqOf t.q) = true → r ∈ t.answer.1) ∧
        (∀ d : DReq, t.q = .dns d → d.hostname.isEmpty = false → idx ∈ env.hcands (env.reqOf t.q) →
          env.wants .host r = true → env.pre r (env.reqOf t.q) = true → env.basic t.answer.1 = false →
          r ∈ t.answer.2)) := by
  have hs1 := runHistoryT_sinv env h1 s hs
  refine ⟨by rw [runHistoryT_append], c19_history_queries env _ s, ?_, ?_⟩
  · intro t ht
    exact ⟨c19_nopanic_history env _ s hs t ht, history_sublist _ s hs t ht⟩
  · intro idx r hl
    refine ⟨by rw [runHistoryT_append]; exact runHistoryT_lookup env h2 _ hl, ?_⟩
    intro t ht
    exact ⟨history_cached h2 hs1 hl t ht, history_cached_host h2 hs1 hl t ht⟩

/-- C19 COMPOSED, concurrent, any environment: any number of threads, EVERY schedule `sched1 ++ sched2` of their
    atomic actions and `close` events:
    (i) no thread is ever crashed; (ii) every rule a finished thread returns is in the fault-free answer (network
    rules) / in what the hosts table holds for the name (host rules) -- membership, see
    `c19_concurrent_order_witness`; (iii) a cache entry `(idx, r)` present after `sched1` is still there after
    `sched2`, and every thread that had not started after `sched1` returns `r` when it finishes, if `idx` is a
    network-table candidate of its query and `r` matches. -/
theorem c19_composed_concurrent {R Re : Type} (env : Env R Re) (s : State R Re) (hs : SInv env s)
    (qs : List Query) (sched1 sched2 : List Ev) :
    (∀ t ∈ (Config.run env ⟨s, qs.map Thread.init⟩ (sched1 ++ sched2)).threads,
      t.pc ≠ .crash ∧
      (t.pc = .done → (∀ r ∈ t.answer.1, r ∈ (pureAnswer env t.q).1) ∧
        (∀ r ∈ t.answer.2, r ∈ pureHosts env (env.reqOf t.q)))) ∧
    (∀ idx r, cacheLookup (Config.run env ⟨s, qs.map Thread.init⟩ sched1).state.cache idx = some r →
      cacheLookup (Config.run env ⟨s, qs.map Thread.init⟩ (sched1 ++ sched2)).state.cache idx = some r ∧
      ∀ (i : Nat) (t1 t2 : Thread R),
        (Config.run env ⟨s, qs.map Thread.init⟩ sched1).threads[i]? = some t1 → t1.pc = .start →
        (Config.run env ⟨s, qs.map Thread.init⟩ (sched1 ++ sched2)).threads[i]? = some t2 → t2.pc = .done →
        t2.q = t1.q ∧
        (t1.q.trivial = false → ∀ b : Bool, (b, idx) ∈ env.cands (env.reqOf t1.q) →
          env.wants (if b then .sc else .dom) r = true → env.mtch r (env.reqOf t1.q) = true → r ∈ t2.answer.1)) := by
  refine ⟨?_, ?_⟩
  · intro t ht
    exact ⟨c19_nopanic env s qs _ hs t ht, c19_subset env s qs _ hs t ht⟩
  · intro idx r hl
    rw [run_append]
    refine ⟨run_lookup env sched2 _ hl, ?_⟩
    intro i t1 t2 h1 hst h2 hd
    have hq := congrArg (·[i]?) (run_threads_q env sched2 (Config.run env ⟨s, qs.map Thread.init⟩ sched1))
    simp only [List.getElem?_map, h1, h2, Option.map_some, Option.some.injEq] at hq
    refine ⟨hq, ?_⟩
    intro hq b hc hw hm
    refine run_cached sched2 i t1.q (run_init_sound s qs sched1 hs) hl ?_ hq hc hw hm t2 h2 hd
    intro t ht
    rw [h1] at ht; cases ht
    exact ⟨rfl, fun hne => absurd hst hne⟩

/-- ORDER FAILS UNDER CONCURRENCY.  Index 10 (list 1) sits in two shortcut buckets of the request, index 20
    (list 2) between them.  Thread 0 reads index 10, then list 1 is closed, thread 1 misses the cache and fails to
    read index 10 at its first occurrence, thread 0 stores the rule, thread 1 reads index 20 and then finds
    index 10 in the cache at its SECOND occurrence: it answers `[8, 7]`, the fault-free answer is `[7, 8]` --
    same rules, not a sub-sequence. -/
theorem c19_concurrent_order_witness :
    let env : Env Nat Nat :=
      { truth := fun i => if i == 10 then some 7 else if i == 20 then some 8 else none,
        listOf := fun i => if i == 10 then 1 else 2, etld1 := id,
        cands := fun _ => [(true, 10), (true, 20), (true, 10)], hcands := fun _ => [], basic := fun _ => false,
        wants := fun _ _ => true, pre := fun _ _ => true, compile := fun _ => .any,
        accepts := fun _ _ _ => true, resident := [] }
    let q : Query := .web { hostname := lit "a" }
    let sched : List Ev := [.run 0, .run 0, .run 0, .close 1, .run 1, .run 1, .run 1, .run 1, .run 0] ++
      List.replicate 11 (.run 1)
    ((Config.run env ⟨{}, [Thread.init q, Thread.init q]⟩ sched).threads.map
        (fun t => (t.pc.isDone, t.answer.1))) = [(false, []), (true, [8, 7])] ∧
      (pureAnswer env q).1 = [7, 8] ∧ ¬ [8, 7].Sublist [7, 8] := by decide +kernel

/-! ### on the engines built from the bytes of the lists -/

/-- C19 COMPOSED FOR THE DNS ENGINE BUILT FROM THE BYTES OF THE LISTS (DNS queries through the request pool and the
    two stages of `MatchRequest`; `web` queries = `MatchAll` of its network engine): for every history
    `h1 ++ h2` of queries and `close` events on the cold engine,
    (i) every query finishes; (ii) the network rules of every answer are a sub-sequence of what the engine
    model answers fault-free (retrieving through the storage model in any reachable cache state), the host rules
    a sub-sequence of `matchLookupTable` of the name; (iii) a rule cached after `h1` is still cached after `h2` and
    is returned by every non-trivial query of `h2`: a network rule `n` whenever its index is in a shortcuts-table
    bucket of a window of the URL or a domains-table bucket of a suffix of the source hostname and
    `NetworkRule.Match` accepts; a host rule whenever its index is in the bucket of the name, it names the host and
    the (degraded) network rules contain no basic rule. -/
theorem c19_composed_engine {Re : Type} (io : IO) (px : E.ParseExt) (lists : List RList) (pm : PatModel Re)
    (hpat : px.ext.pat = pm.pat) (st : RuleStorage) (hnew : newRuleStorage lists = some st)
    (history : List (BitVec 64)) (h1 h2 : List HEv) :
    let env := envDns io px lists pm
    let d := DnsEngine.build djb2 Facts.shortcutLength (storageRulesI px lists)
    (runHistoryT env {} (h1 ++ h2)).2 = (runHistoryT env {} h1).2 ++ (runHistoryT env (runHistoryT env {} h1).1 h2).2 ∧
    (runHistoryT env {} (h1 ++ h2)).2.map (·.q) = queriesOf (h1 ++ h2) ∧
    (∀ t ∈ (runHistoryT env {} (h1 ++ h2)).2,
      t.pc = .done ∧ t.answer.1.Sublist (dnsAnswer io px lists st history t.q).1 ∧
        t.answer.2.Sublist ((d.matchLookupTable djb2 (retrieveAt io px (reach io px st history))
          (env.reqOf t.q).hostname).map Rule.host)) ∧
    (∀ idx r, cacheLookup (runHistoryT env {} h1).1.cache idx = some r →
      cacheLookup (runHistoryT env {} (h1 ++ h2)).1.cache idx = some r ∧
      ∀ t ∈ (runHistoryT env (runHistoryT env {} h1).1 h2).2, t.q.trivial = false →
        (∀ n : NetRule, r = .net n →
          (idx ∈ scCands djb2 Facts.shortcutLength d.net.sc (env.reqOf t.q).urlLower ∨
            idx ∈ domCands djb2 d.net.dom (env.reqOf t.q).sourceHostname) →
          n.matches px.ext (env.reqOf t.q) = true → r ∈ t.answer.1) ∧
        (∀ hr : HostRule, r = .host hr → (∃ dq, t.q = .dns dq) →
          idx ∈ hget [] d.hosts (djb2.h (env.reqOf t.q).hostname) →
          hostRuleMatches hr (env.reqOf t.q).hostname = true →
          getDNSBasicRule (netRulesOf t.answer.1) = none → r ∈ t.answer.2)) := by
  intro env d
  obtain ⟨c1, c2, c3, c4⟩ := c19_composed env {} (sinv_init _) h1 h2
  refine ⟨c1, c2, ?_, ?_⟩
  · intro t ht
    obtain ⟨e1, e2, e3⟩ := c3 t ht
    refine ⟨e1, ?_, ?_⟩
    · rw [← pureAnswer_envDns io px lists pm hpat st hnew history]; exact e2
    · have : pureHosts env (env.reqOf t.q) =
          (d.matchLookupTable djb2 (truthOf io px lists) (env.reqOf t.q).hostname).map Rule.host := pureHosts_eq ..
      rw [retrieveAt_reach io px lists st hnew history, ← this]; exact e3
  · intro idx r hl
    refine ⟨(c4 idx r hl).1, ?_⟩
    intro t ht hq
    obtain ⟨f1, f2⟩ := (c4 idx r hl).2 t ht
    refine ⟨?_, ?_⟩
    · intro n hn hc hm
      subst hn
      obtain ⟨b, g1, g2, g3⟩ := envOf_net_candidate djb2 Facts.shortcutLength (truthOf io px lists) listOfIdx
        (Compose3.etld1Of px.ext) px.ext pm getDNSBasicRule d hpat hc hm
      exact f1 hq b g1 g2 g3
    · intro hr hh hdq hc hm hb
      subst hh
      obtain ⟨dq, hdq⟩ := hdq
      have hne : dq.hostname.isEmpty = false := by rw [hdq] at hq; simpa [Query.trivial] using hq
      have hbasic : env.basic t.answer.1 = (getDNSBasicRule (netRulesOf t.answer.1)).isSome := envOf_basic ..
      exact f2 dq hdq hne hc rfl hm (by rw [hbasic, hb]; rfl)

/-- The same for the network engine of the lists (`NewNetworkEngine`, `MatchAll` queries): sub-sequence of the
    fault-free `Engine.matchAll` answer; cached network rules are still served. -/
theorem c19_composed_net {Re : Type} (io : IO) (px : E.ParseExt) (lists : List RList) (pm : PatModel Re)
    (hpat : px.ext.pat = pm.pat) (st : RuleStorage) (hnew : newRuleStorage lists = some st)
    (history : List (BitVec 64)) (h1 h2 : List HEv) :
    let env := envNet io px lists pm
    let e := Engine.build djb2 Facts.shortcutLength (storageNetRules px lists)
    (runHistoryT env {} (h1 ++ h2)).2 = (runHistoryT env {} h1).2 ++ (runHistoryT env (runHistoryT env {} h1).1 h2).2 ∧
    (runHistoryT env {} (h1 ++ h2)).2.map (·.q) = queriesOf (h1 ++ h2) ∧
    (∀ t ∈ (runHistoryT env {} (h1 ++ h2)).2,
      t.pc = .done ∧ t.answer.1.Sublist (netAnswer io px lists st history t.q).1) ∧
    (∀ idx (n : NetRule), cacheLookup (runHistoryT env {} h1).1.cache idx = some (.net n) →
      cacheLookup (runHistoryT env {} (h1 ++ h2)).1.cache idx = some (.net n) ∧
      ∀ t ∈ (runHistoryT env (runHistoryT env {} h1).1 h2).2, ∀ w : Request, t.q = .web w →
        (idx ∈ scCands djb2 Facts.shortcutLength e.sc w.urlLower ∨ idx ∈ domCands djb2 e.dom w.sourceHostname) →
        n.matches px.ext w = true → Rule.net n ∈ t.answer.1) := by
  intro env e
  obtain ⟨c1, c2, c3, c4⟩ := c19_composed env {} (sinv_init _) h1 h2
  refine ⟨c1, c2, ?_, ?_⟩
  · intro t ht
    obtain ⟨e1, e2, _⟩ := c3 t ht
    exact ⟨e1, by rw [← pureAnswer_envNet io px lists pm hpat st hnew history]; exact e2⟩
  · intro idx n hl
    refine ⟨(c4 idx _ hl).1, ?_⟩
    intro t ht w hw hc hm
    obtain ⟨f1, _⟩ := (c4 idx _ hl).2 t ht
    rw [hw] at f1
    obtain ⟨b, g1, g2, g3⟩ := envOf_net_candidate djb2 Facts.shortcutLength (truthOf io px lists) listOfIdx
      (Compose3.etld1Of px.ext) px.ext pm getDNSBasicRule ⟨e, []⟩ hpat hc hm
    exact f1 rfl b g1 g2 g3

/-! ### Non-vacuity, from list BYTES: two file-backed lists; the first query retrieves `/banner` (list 1)
    (and, as a non-matching candidate of the domains table, `/ad$domain=c.org` of list -2); list 1 is
    closed; the second query would fault-free return four rules.  `-ads-` of list 1 was never retrieved and is
    lost, `/banner` of list 1 is served from the cache, the rules of list -2 are still read: the degraded answer
    is a strict sub-sequence of the fault-free one, and the entry cached before the fault is still in the cache. -/

private def exPx : E.ParseExt :=
  { ext := { psl := fun _ => (lit "org", true), parseAddr := fun s => if s == lit "0.0.0.0" then some ⟨true, 0, []⟩ else none,
             parsePrefix := fun _ => none, pat := fun p _ t => Bytes.hasSub t p },
    loadDNSRewrite := fun _ => none, regexpShortcut := fun _ => [] }

private def exLists : List RList :=
  [⟨1, false, lit "/banner\r\n! c\n0.0.0.0 b.org\n-ads-\n", true⟩,
   ⟨-2, true, lit "##x\n/ad$domain=c.org\n-ads-", true⟩]

private def exQ1 : Request :=
  { url := lit "http://x.org/banner", urlLower := lit "http://x.org/banner", hostname := lit "x.org",
    sourceURL := lit "http://c.org/", sourceHostname := lit "c.org", reqType := 4, thirdParty := true }

private def exQ : Request :=
  { url := lit "http://x.org/ad/-ads-/banner", urlLower := lit "http://x.org/ad/-ads-/banner", hostname := lit "x.org",
    sourceURL := lit "http://c.org/", sourceHostname := lit "c.org", reqType := 4, thirdParty := true }

example :
    let env := envNet ⟨4096, fun _ => 3⟩ exPx exLists (PatModel.ofOracle exPx.ext.pat)
    let texts := fun (rs : List Rule) => (netRulesOf rs).map (fun r => (r.text, r.listID))
    let h := runHistory env {} [.query (.web exQ1), .close 1, .query (.web exQ)]
    h.2.map (fun a => texts a.1) =
        [[(lit "/banner", 1)],
         [(lit "-ads-", -2), (lit "/banner", 1), (lit "/ad$domain=c.org", -2)]] ∧
      texts (pureAnswer env (.web exQ)).1 =
        [(lit "-ads-", 1), (lit "-ads-", -2), (lit "/banner", 1), (lit "/ad$domain=c.org", -2)] ∧
      texts ((runHistory env {} [.query (.web exQ1)]).1.cache.map (·.2)) =
        [(lit "/ad$domain=c.org", -2), (lit "/banner", 1)] ∧
      texts (h.1.cache.map (·.2)) = [(lit "-ads-", -2), (lit "/ad$domain=c.org", -2), (lit "/banner", 1)] ∧
      h.1.closed = [1] := by
  unfold exLists exQ exQ1
  -- the long literals as character lists (`Lit.lean`): the kernel is slow on `String.toList` of a literal
  rw [lit_ofList, lit_ofList, lit_ofList, lit_ofList]
  decide +kernel

/-- `c19_composed_net` instantiated on these lists (its hypotheses are satisfiable: the storage is built, every
    pattern oracle is a pattern model), for the split `[query] ++ [close 1, query]`. -/
example :
    ∀ t ∈ (runHistoryT (envNet ⟨4096, fun _ => 3⟩ exPx exLists (PatModel.ofOracle exPx.ext.pat)) {}
        ([.query (.web exQ1)] ++ [.close 1, .query (.web exQ)])).2,
      t.pc = .done ∧ t.answer.1.Sublist (netAnswer ⟨4096, fun _ => 3⟩ exPx exLists ⟨exLists, []⟩ [] t.q).1 :=
  (c19_composed_net ⟨4096, fun _ => 3⟩ exPx exLists (PatModel.ofOracle exPx.ext.pat) rfl ⟨exLists, []⟩ rfl []
    [.query (.web exQ1)] [.close 1, .query (.web exQ)]).2.2.1

end UF.C19
