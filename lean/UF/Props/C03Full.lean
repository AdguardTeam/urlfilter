import UF.Compose2.Pat
import UF.Props.C03
/-
  C03 inside the composed model: the pattern oracle of `NetworkRule.Match`, instantiated by `modelPat`
  (`compiledAccepts` for mask patterns, `regexPat` for `/regex/` patterns), answers the DOCUMENTED MASK
  LANGUAGE on every mask pattern — and the two models of `preparePattern` agree where both apply.
-/
namespace UF.C03
open UF Bytes UF.I2

/-- On its domain (ASCII pattern that is not a `/regex/`, ASCII target without a line feed) the
    pattern oracle of the composed model is total and answers the documented language of the stored
    pattern. -/
theorem c03_full (p u : Bytes) (mc : Bool) (h : MaskDomain p u) :
    modelPat p mc u = some (MaskSpec.maskAccepts (MaskSpec.tokenize p) mc u) :=
  modelPat_mask mc h

/-- For the pattern as WRITTEN in the rule (`example.org/*` form included): `NewNetworkRule` stores
    `normalize p` and the oracle answers `ruleAccepts p`. -/
theorem c03_full_written (p u : Bytes) (mc : Bool) (h : MaskDomain (MaskSpec.normalize p) u) :
    Mask.rewriteSlashStar p = some (MaskSpec.normalize p) ∧
    modelPat (MaskSpec.normalize p) mc u = some (MaskSpec.ruleAccepts p mc u) :=
  modelPat_written mc h

/-- Whenever the oracle answers on a pattern that is not a `/regex/`, the answer is the documented
    language — no domain hypothesis: outside the domain it does not answer. -/
theorem c03_full_some (p u : Bytes) (mc b : Bool) (hre : UF.isRegexPattern p = false)
    (h : modelPat p mc u = some b) : b = MaskSpec.maskAccepts (MaskSpec.tokenize p) mc u :=
  modelPat_mask_some hre h

/-- `preparePattern` + `MatchString` is modelled twice, independently (`regexPat` through
    `searchFast`, `compiledAccepts` through the `isRegexPattern` branch of `patternToRegexp`, the `.*`
    short-cut and `search`): on its whole domain `modelPat` is the single function `compiledAccepts`.
    (Both go through `parseRE`, i.e. through Go's tree `goTree` for `$match-case` `/regex/`
    patterns; mask expressions are untouched by it, `c03_mask_goTree`, Props/C03Quirk.lean.) -/
theorem c03_models_agree (p u : Bytes) (mc b : Bool) (h : modelPat p mc u = some b) :
    Mask.compiledAccepts p mc u = b :=
  modelPat_some_compiled h

/-! ### Non-vacuity -/

example : MaskDomain (lit "||ex.org^") (lit "https://Sub.ex.org/x") :=
  { notRegex := by decide +kernel, patAscii := by decide +kernel, tgtAscii := by decide +kernel, noLF := by unfold Mask.NoNL; decide +kernel }
example : modelPat (lit "||ex.org^") false (lit "https://Sub.ex.org/x") = some true := by decide +kernel
example : modelPat (lit "||ex.org^") true (lit "https://Sub.eX.org/x") = some false := by decide +kernel
example : modelPat (lit "||ex.org^") false (lit "https://ex.org/\n") = none := by decide +kernel
example : modelPat (lit "/ex\\.org/") false (lit "http://EX.org/") = some true := by decide +kernel

end UF.C03
