import UF.Compose2.MatchFull
import UF.Props.C04
import UF.Props.C03
import UF.Props.C05Full
/-
  C04 with the pattern proved: `NetworkRule.Match` evaluated entirely in the model (the pattern oracle
  `Ext.pat` instantiated by `modelPat`) equals the reference whose pattern conjunct is the documented mask
  language of the pattern (`maskAccepts`), for every mask rule; composition of `c04` with `c03`.
  Hypotheses: the rule is well formed (what the parser produces), the request is in the domain of C04, the
  pattern is ASCII and not a `/regex/`, the target (URL, or hostname for hostname requests) is ASCII
  without a line feed.
-/
namespace UF.C04
open UF Bytes UF.I2

/-- C04, pattern included: for mask rules `Match` over the composed model is the full reference —
    no oracle for the pattern on either side. -/
theorem c04_full (ext : Ext) (r : NetRule) (q : Request) (hwf : r.WellFormed) (hq : q.InDomain)
    (hd : MaskDomain r.pattern (specTarget r q)) :
    r.matches { ext with pat := fun p mc u => (modelPat p mc u).getD false } q = specMatchFull ext r q := by
  have h := c04 (withModelPat ext) r q hwf hq
  rw [specMatch_withModelPat ext r q hd] at h
  exact h

/-- The pattern conjunct alone: on the mask domain the model's `matchPattern` is the documented mask
    language applied to the reference's target. -/
theorem c04_full_pattern (ext : Ext) (r : NetRule) (q : Request)
    (hd : MaskDomain r.pattern (specTarget r q)) :
    matchPattern (withModelPat ext) r q = specPatternMask r q := by
  rw [matchPattern_withModelPat, ← specTarget_eq, modelPatD_mask _ hd]
  rfl

/-- End to end from the rule TEXT: whatever `NewNetworkRule` accepts as a mask rule matches a request
    iff the full reference computed from the parsed values and the mask language of its pattern does. -/
theorem c04_full_text (px : E.ParseExt) (t : Bytes) (id : Int) (r : NetRule) (q : Request)
    (h : E.parseNetRule px t id = .ok r) (hq : q.InDomain)
    (hd : MaskDomain r.pattern (specTarget r q)) :
    r.matches (withModelPat px.ext) q = specMatchFull px.ext r q :=
  c04_full px.ext r q (E.parseNetRule_wellFormed h) hq hd

/-- `c04` with the pattern oracle instantiated by `modelPat`, for ANY pattern (no hypothesis says it is a
    `/regex/`): the modifiers are the reference's, the pattern conjunct is still `modelPat` inside `specMatch`.
    That for `/regex/` rules this conjunct is the search of the parsed expression is `c04_regex_some`
    (Props/C04Text.lean). -/
theorem c04_full_regex (ext : Ext) (r : NetRule) (q : Request) (hwf : r.WellFormed) (hq : q.InDomain) :
    r.matches (withModelPat ext) q = specMatch (withModelPat ext) r q :=
  c04 (withModelPat ext) r q hwf hq

/-- The pattern of a parsed rule is the normalised pattern of the text, so the pattern conjunct of
    the reference is `ruleAccepts` of the pattern AS WRITTEN in the rule (`example.org/*` included). -/
theorem c04_full_written (px : E.ParseExt) (t : Bytes) (id : Int) (r : NetRule) (q : Request)
    (h : E.parseNetRule px t id = .ok r) :
    ∃ pat opts wl, E.parseRuleText t = .ok (pat, opts, wl) ∧ r.whitelist = wl ∧
      specPatternMask r q = MaskSpec.ruleAccepts pat (r.isEnabled Facts.OptionMatchCase) (specTarget r q) := by
  obtain ⟨pat, opts, wl, hp, hpat, hwl, _⟩ := parseNetRule_pattern h
  exact ⟨pat, opts, wl, hp, hwl, by unfold specPatternMask MaskSpec.ruleAccepts; rw [hpat]⟩

/-- C03 + C04 + C05 + C12 composed, from the rule TEXT, with no oracle but `netip`/`publicsuffix`: a
    mask rule that `NewNetworkRule` accepts matches a well-formed request of the domain iff every
    modifier holds (set-membership reference) and the documented mask language of its pattern accepts
    the target — the shortcut pre-check has disappeared from the statement. -/
theorem c04_full_end_to_end (px : E.ParseExt) (t : Bytes) (id : Int) (r : NetRule) (q : Request)
    (h : E.parseNetRule px t id = .ok r) (hq : q.InDomain)
    (hd : MaskDomain r.pattern (specTarget r q))
    (hlower : q.urlLower = toLower q.url)
    (hhost : q.isHostnameRequest = true → hasSub q.url q.hostname = true) :
    r.matches (withModelPat px.ext) q = specMatchNoShortcut px.ext r q := by
  rw [C05.c05_text_full px t id r q h hd.notRegex hlower hhost]
  have hwf := E.parseNetRule_wellFormed h
  have hwf' : ({ r with shortcut := [] } : NetRule).WellFormed :=
    ⟨hwf.permTags, hwf.restrTags, hwf.permHosts, hwf.restrHosts⟩
  have := c04_full px.ext ({ r with shortcut := [] } : NetRule) q hwf' hq hd
  rw [show (withModelPat px.ext) = { px.ext with pat := fun p mc u => (modelPat p mc u).getD false } from rfl, this]
  exact specMatchFull_noShortcut px.ext r q

/-- The full reference does not mention the pattern oracle at all. -/
theorem c04_full_no_oracle (ext : Ext) (f : Bytes → Bool → Bytes → Bool) (r : NetRule) (q : Request) :
    specMatchFull { ext with pat := f } r q = specMatchFull ext r q := rfl

/-! ### Non-vacuity -/

private def exExt : Ext :=
  { psl := fun _ => (lit "org", true), parseAddr := fun _ => none, parsePrefix := fun _ => none,
    pat := fun _ _ _ => false }

private def exRule : NetRule :=
  { pattern := lit "||example.org^", shortcut := lit "example.org", permDomains := [lit "site.org"] }

private def exReq : Request :=
  { url := lit "https://sub.example.org/x", urlLower := lit "https://sub.example.org/x",
    hostname := lit "sub.example.org", sourceHostname := lit "www.site.org", reqType := 4 }

/-- The domain hypotheses are satisfiable by an ordinary rule and request, and both sides say `true`
    (`false` for a source host outside `$domain`). -/
example : MaskDomain exRule.pattern (specTarget exRule exReq) :=
  { notRegex := by decide +kernel, patAscii := by decide +kernel, tgtAscii := by decide +kernel,
    noLF := by unfold Mask.NoNL; decide +kernel }
example : exRule.matches (withModelPat exExt) exReq = true := by decide +kernel
example : specMatchFull exExt exRule exReq = true := by decide +kernel
example : specMatchFull exExt exRule { exReq with sourceHostname := lit "other.org" } = false := by decide +kernel
example : specMatchFull exExt exRule { exReq with url := lit "https://notexample.org/x" } = false := by decide +kernel

end UF.C04
