import UF.Spec.CosmeticOption
import UF.Proofs.Bits
import UF.Proofs.C16
/-
  C16 — exception modifiers only ever switch cosmetic options off.
-/
namespace UF.C16
open UF

/-- With no basic rule, or a non-exception basic rule, everything is enabled. -/
theorem c16_nonexception (basic : Option NetRule) (h : ∀ r, basic = some r → r.whitelist = false) :
    getCosmeticOption basic = cosAll := by
  cases basic with
  | none => rfl
  | some r => simp [getCosmeticOption, h r rfl]

/-- For EVERY option mask of an exception rule (all 2^64 of them, not only the nine named modifiers):
    the option is "all minus the union of what elemhide / generichide / jsinject disable". -/
theorem c16_bits (r : NetRule) (hw : r.whitelist = true) :
    getCosmeticOption (some r) =
      andNot cosAll
        ((if r.isEnabled Facts.OptionElemhide then cosCSS ||| cosGenericCSS else 0) |||
         (if r.isEnabled Facts.OptionGenerichide then cosGenericCSS else 0) |||
         (if r.isEnabled Facts.OptionJsinject then cosJS else 0)) := by
  simp only [getCosmeticOption, hw]
  cases r.isEnabled Facts.OptionElemhide <;> cases r.isEnabled Facts.OptionGenerichide <;>
    cases r.isEnabled Facts.OptionJsinject <;> decide

/-- The statement of the property: for every list of the nine named modifiers (any subset, any order,
    repetitions allowed) on an exception rule whose enabled options are exactly the bits those
    modifiers set, the option equals the reference "All minus the union of disabled(m)". -/
theorem c16 (r : NetRule) (mods : List CosMod) (hw : r.whitelist = true)
    (hbits : r.enabled = modsBits mods) :
    getCosmeticOption (some r) = specCosmeticOption true mods := by
  have key : ∀ k, r.enabled.testBit k = mods.any (fun m => m.bits.testBit k) := by
    intro k; rw [hbits, modsBits, testBit_foldl_or]; simp
  have he : r.isEnabled Facts.OptionElemhide = mods.any (fun m => m.bits.testBit 4) := by
    rw [← key]; exact and_two_pow_beq r.enabled 4
  have hg : r.isEnabled Facts.OptionGenerichide = mods.any (fun m => m.bits.testBit 5) := by
    rw [← key]; exact and_two_pow_beq r.enabled 5
  have hj : r.isEnabled Facts.OptionJsinject = mods.any (fun m => m.bits.testBit 7) := by
    rw [← key]; exact and_two_pow_beq r.enabled 7
  rw [c16_bits r hw, he, hg, hj]
  simp only [specCosmeticOption, if_true]
  congr 1
  clear he hg hj key hbits
  induction mods with
  | nil => decide
  | cons m ms ih =>
    simp only [List.foldl_cons, List.any_cons]
    rw [bv_foldl_or, ← ih]
    exact c16_step m _ _ _

/-- Monotonicity: enabling more option bits on an exception rule can only remove cosmetic options. -/
theorem c16_mono (r r' : NetRule) (hw : r.whitelist = true) (hw' : r'.whitelist = true)
    (hsub : ∀ opt, r.isEnabled opt = true → r'.isEnabled opt = true) :
    getCosmeticOption (some r') &&& getCosmeticOption (some r) = getCosmeticOption (some r') := by
  rw [c16_bits r hw, c16_bits r' hw']
  exact andNot_disabledBy_mono _ _ _ _ _ _ (hsub _) (hsub _) (hsub _)

/-- The three flags `Engine.GetCosmeticResult` decodes from the option of an exception rule are exactly
    "not disabled": CSS unless `elemhide`, JS unless `jsinject`, generic CSS unless `elemhide` or `generichide`. -/
theorem c16_flags (r : NetRule) (hw : r.whitelist = true) :
    decodeCosmeticFlags (getCosmeticOption (some r)) =
      (!r.isEnabled Facts.OptionElemhide,
       !r.isEnabled Facts.OptionJsinject,
       !(r.isEnabled Facts.OptionElemhide || r.isEnabled Facts.OptionGenerichide)) := by
  rw [c16_bits r hw]
  cases r.isEnabled Facts.OptionElemhide <;> cases r.isEnabled Facts.OptionGenerichide <;>
    cases r.isEnabled Facts.OptionJsinject <;> decide

/-- Non-vacuity: the rule `@@||e.org^$elemhide,generichide` (the D10 replay) satisfies the hypotheses
    of `c16` and gets JS only. -/
example :
    let r : NetRule := { whitelist := true, enabled := modsBits [.elemhide, .generichide] }
    r.whitelist = true ∧ r.enabled = modsBits [.elemhide, .generichide] ∧
      getCosmeticOption (some r) = cosJS := by decide

/-- The unrepaired code toggled the bits (XOR); on the D10 input that re-enables generic CSS. This
    `example` records that the model distinguishes the two behaviours. -/
example : (cosAll ^^^ cosCSS ^^^ cosGenericCSS ^^^ cosGenericCSS) = cosJS ||| cosGenericCSS := by decide

end UF.C16
