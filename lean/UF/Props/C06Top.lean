import UF.Compose3.Request
import UF.Props.C06
import UF.Proofs.Lit
/-
  C06 AT THE TOP LEVEL: the verdict of `Engine.MatchRequest` (`engineMatchRequest`, UF/Compose3/WebTop.lean) from RAW
  inputs — the BYTES of the filter lists, the URL string, the source-URL string and the request type.  Composed:
  C01 from bytes, "text determines the rule up to the list id", C06, and UF/Compose3/Agree.lean.
  Parameters left: the oracles in `px`; `io` (chunking of file reads) and the two cache histories are universally
  quantified.  Domain: `StorageOK lists` (distinct list ids in int32, fewer than `MaxInt32` bytes in total).
-/
namespace UF.C06
open UF UF.B UF.Storage UF.Compose UF.Compose3

/-- C06 for an already built request (any `rules.Request` value, e.g. one with client data). -/
theorem c06_top_request (io : IO) (px : E.ParseExt) (lists : List RList) (hok : StorageOK lists)
    (st : RuleStorage) (hnew : newRuleStorage lists = some st) (history history' : List (BitVec 64))
    (r : Request) :
    classOf (getBasicResult (engineMatch io px lists st history history' r)) =
      classWeb (matchingLines px lists r) (sourceMatchingLines px lists r) := by
  rw [engineMatch, webClass_of_noReplace _ _ (netMatchAll_noReplace io px lists hok st hnew history r)]
  exact classWeb_agree (netMatchAll_agree io px lists hok st hnew history r)
    (sourceRules_agree io px lists hok st hnew history' r)

/-- C06 FROM RAW INPUTS: for all list contents, ids, backings, cache histories, URL strings, source-URL
    strings and request types, the verdict class of `NewEngine(storage).MatchRequest(NewRequest(url, src, t))`
    is the documented precedence (`classWeb`: important exception > important block > exception > block,
    blocking rules suppressed by a referrer-level `$urlblock` / generic ones by `$genericblock`, only
    effective non-special rules count) computed over
      { network rules parsed from the lines of the lists that individually match the request } and
      { … that match the referrer document request } (empty without a source URL). -/
theorem c06_top (io : IO) (px : E.ParseExt) (lists : List RList) (hok : StorageOK lists)
    (st : RuleStorage) (hnew : newRuleStorage lists = some st) (history history' : List (BitVec 64))
    (url sourceURL : Bytes) (reqType : Nat) :
    classOf (getBasicResult (engineMatchRequest io px lists st history history' url sourceURL reqType)) =
      classWeb (matchingLines px lists (requestOf px.ext url sourceURL reqType))
        (sourceMatchingLines px lists (requestOf px.ext url sourceURL reqType)) :=
  c06_top_request io px lists hok st hnew history history' _

/-- The reference sets spelled out: a rule is among the matching lines iff some piece between two newlines
    of some list parses (`NewRule`) to it as a network rule and it matches. -/
theorem c06_top_lines (px : E.ParseExt) (lists : List RList) (q : Request) (r : NetRule) :
    r ∈ matchingLines px lists q ↔
      (∃ l ∈ lists, ∃ piece ∈ splitLines l.content, E.newRule (realRx px) piece l.id = .ok (some (.net r))) ∧
        r.matches px.ext q = true := by
  unfold matchingLines specMatchAll
  rw [List.mem_filter, mem_netRulesOf, mem_specRules]
  constructor
  · rintro ⟨⟨l, hl, piece, hp, hn, _⟩, hm⟩; exact ⟨⟨l, hl, piece, hp, hn⟩, hm⟩
  · rintro ⟨⟨l, hl, piece, hp, hn⟩, hm⟩; exact ⟨⟨l, hl, piece, hp, hn, by simp [isCos]⟩, hm⟩

/-- The request the reference sets are computed for: `NewRequest` never fails, caps both URLs at 4096 bytes
    and lower-cases; the referrer request is the capped source URL as a `document` request without source. -/
theorem c06_top_requests (ext : Ext) (url sourceURL : Bytes) (reqType : Nat) :
    H.newRequest ext url sourceURL reqType = .ok (requestOf ext url sourceURL reqType) ∧
    (requestOf ext url sourceURL reqType).url = url.take Facts.maxURLLength ∧
    (requestOf ext url sourceURL reqType).sourceURL = sourceURL.take Facts.maxURLLength ∧
    (requestOf ext url sourceURL reqType).reqType = reqType ∧
    H.newRequest ext (requestOf ext url sourceURL reqType).sourceURL [] Facts.TypeDocument =
      .ok (sourceRequestOf ext (requestOf ext url sourceURL reqType)) ∧
    (sourceRequestOf ext (requestOf ext url sourceURL reqType)).url = sourceURL.take Facts.maxURLLength ∧
    (sourceRequestOf ext (requestOf ext url sourceURL reqType)).hostname =
      (requestOf ext url sourceURL reqType).sourceHostname := by
  obtain ⟨f1, _, f3, f4, _⟩ := requestOf_fields ext url sourceURL reqType
  obtain ⟨g1, g2, _⟩ := sourceRequestOf_fields ext url sourceURL reqType
  exact ⟨requestOf_eq _ _ _ _, f1, f3, f4, requestOf_eq _ _ _ _, by rw [g1, f3], g2⟩

/-- The rule `GetBasicResult` returns as the BASIC rule is one of the matching lines (never a rule that
    does not match, never a rule that is not in the lists), it is neither a `$badfilter` nor a `$dnsrewrite`
    rule and not special-purpose.  (That no `$badfilter` twin disables it, and that nothing outranks it:
    `c06_top_winner_maximal`, Props/C06TopMore.lean.) -/
theorem c06_top_winner (io : IO) (px : E.ParseExt) (lists : List RList) (hok : StorageOK lists)
    (st : RuleStorage) (hnew : newRuleStorage lists = some st) (history history' : List (BitVec 64))
    (url sourceURL : Bytes) (reqType : Nat) (b : NetRule)
    (h : (engineMatchRequest io px lists st history history' url sourceURL reqType).basicRule = some b) :
    b ∈ matchingLines px lists (requestOf px.ext url sourceURL reqType) ∧
      b.badfilter = false ∧ b.rewrite = none ∧ isSpecial b = false := by
  refine ⟨netMatchAll_mem_lines io px lists hok st hnew history _ b (basicRule_mem _ _ b h).1, ?_⟩
  obtain ⟨_, h2, _, h4, h5⟩ := c06_basic_effective _ _ b h
  exact ⟨h2, h4, h5⟩

/-- Order, splits, ids, duplicates, noise: two storages whose accepted network rules carry the same SET OF
    TEXTS give the same verdict class for every URL, source URL and type — whatever the order of the lists
    and of the lines, however the lines are split across lists, whatever the list ids, multiplicities,
    comments, rejected lines and line ends ("in any order", from bytes). -/
theorem c06_top_texts (io io' : IO) (px : E.ParseExt) (lists lists' : List RList)
    (hok : StorageOK lists) (hok' : StorageOK lists')
    (st st' : RuleStorage) (hnew : newRuleStorage lists = some st) (hnew' : newRuleStorage lists' = some st')
    (h1 h2 h1' h2' : List (BitVec 64)) (url sourceURL : Bytes) (reqType : Nat)
    (h : ∀ t, t ∈ (netRulesOf (specRules px lists)).map (·.text) ↔ t ∈ (netRulesOf (specRules px lists')).map (·.text)) :
    classOf (getBasicResult (engineMatchRequest io px lists st h1 h2 url sourceURL reqType)) =
      classOf (getBasicResult (engineMatchRequest io' px lists' st' h1' h2' url sourceURL reqType)) := by
  rw [c06_top io px lists hok st hnew, c06_top io' px lists' hok' st' hnew']
  have key : ∀ q, ListsAgree (matchingLines px lists q) (matchingLines px lists' q) := by
    intro q
    have sub : ∀ (A B : List RList),
        (∀ t, t ∈ (netRulesOf (specRules px A)).map (·.text) → t ∈ (netRulesOf (specRules px B)).map (·.text)) →
        ∀ r ∈ matchingLines px A q, ∃ r' ∈ matchingLines px B q, SameButID r r' := by
      intro A B hAB r hr
      obtain ⟨hrA, hm⟩ := List.mem_filter.1 hr
      obtain ⟨r', hr', ht⟩ := List.mem_map.1 (hAB r.text (List.mem_map.2 ⟨r, hrA, rfl⟩))
      have hs : SameButID r r' :=
        sameButID_of_eq (parse_same_text (allNet_parse (lists := A) hrA) (allNet_parse (lists := B) hr') ht.symm)
      refine ⟨r', List.mem_filter.2 ⟨hr', ?_⟩, hs⟩
      rw [← congr_noID (fun x => x.matches px.ext q) (fun _ => rfl) hs]
      exact hm
    refine ⟨sub lists lists' (fun t => (h t).1), fun r' hr' => ?_⟩
    obtain ⟨r, hr, hs⟩ := sub lists' lists (fun t => (h t).2) r' hr'
    exact ⟨r, hr, hs.symm⟩
  apply classWeb_agree (key _)
  unfold sourceMatchingLines
  split
  · exact key _
  · exact listsAgree_refl []

/-- In particular: any permutation of the lists. -/
theorem c06_top_perm (io : IO) (px : E.ParseExt) (lists lists' : List RList) (hperm : lists.Perm lists')
    (hok : StorageOK lists) (hok' : StorageOK lists')
    (st st' : RuleStorage) (hnew : newRuleStorage lists = some st) (hnew' : newRuleStorage lists' = some st')
    (h1 h2 h1' h2' : List (BitVec 64)) (url sourceURL : Bytes) (reqType : Nat) :
    classOf (getBasicResult (engineMatchRequest io px lists st h1 h2 url sourceURL reqType)) =
      classOf (getBasicResult (engineMatchRequest io px lists' st' h1' h2' url sourceURL reqType)) := by
  apply c06_top_texts io io px lists lists' hok hok' st st' hnew hnew'
  intro t
  simp only [List.mem_map, mem_netRulesOf, mem_specRules]
  constructor
  · rintro ⟨r, ⟨l, hl, rest⟩, rfl⟩; exact ⟨r, ⟨l, hperm.mem_iff.1 hl, rest⟩, rfl⟩
  · rintro ⟨r, ⟨l, hl, rest⟩, rfl⟩; exact ⟨r, ⟨l, hperm.mem_iff.2 hl, rest⟩, rfl⟩

/-- C06 from raw inputs with NOTHING about `Match` left to an oracle: the pattern oracle is the proved model
    (`modelPatD`), and on the mask domain (every pattern of the lists is an ASCII non-`/regex/` pattern; the
    two capped URLs are ASCII without line feed; the type is one content type; no hostname starts with a
    dot) the matching lines are the rules satisfying the DECLARATIVE reference `specMatchNoShortcut`: every
    modifier as a set-membership statement and the documented mask language of the pattern as written. -/
theorem c06_top_full (io : IO) (px : E.ParseExt) (lists : List RList) (hok : StorageOK lists)
    (st : RuleStorage) (hnew : newRuleStorage lists = some st) (history history' : List (BitVec 64))
    (url sourceURL : Bytes) (reqType : Nat)
    (hpat : px.ext.pat = I2.modelPatD)
    (ht : ∃ k, reqType = 2 ^ k)
    (hh : (requestOf px.ext url sourceURL reqType).hostname.head? ≠ some (ch '.'))
    (hs : (requestOf px.ext url sourceURL reqType).sourceHostname.head? ≠ some (ch '.'))
    (hd : ∀ r ∈ netRulesOf (specRules px lists),
      I2.MaskDomain r.pattern (url.take Facts.maxURLLength) ∧
      I2.MaskDomain r.pattern (sourceURL.take Facts.maxURLLength)) :
    classOf (getBasicResult (engineMatchRequest io px lists st history history' url sourceURL reqType)) =
      classWeb
        ((netRulesOf (specRules px lists)).filter fun r =>
          I2.specMatchNoShortcut px.ext r (requestOf px.ext url sourceURL reqType))
        (if sourceURL.take Facts.maxURLLength != [] then
          (netRulesOf (specRules px lists)).filter fun r =>
            I2.specMatchNoShortcut px.ext r (sourceRequestOf px.ext (requestOf px.ext url sourceURL reqType))
         else []) := by
  rw [c06_top io px lists hok st hnew]
  obtain ⟨f1, f2, f3, _, f5, _⟩ := requestOf_fields px.ext url sourceURL reqType
  obtain ⟨hq, hsq⟩ := requestOf_inDomain px.ext url sourceURL reqType ht hh hs
  have e1 := matchingLines_eq_ref px lists hpat _ hq (by rw [f2, f1]) f5
    (fun r hr => by rw [f1]; exact (hd r hr).1)
  rw [e1]
  unfold sourceMatchingLines
  rw [f3]
  split
  · obtain ⟨g1, _⟩ := sourceRequestOf_fields px.ext url sourceURL reqType
    have g := requestOf_fields px.ext (requestOf px.ext url sourceURL reqType).sourceURL [] Facts.TypeDocument
    have e2 := matchingLines_eq_ref px lists hpat
      (sourceRequestOf px.ext (requestOf px.ext url sourceURL reqType)) hsq
      (by unfold sourceRequestOf; rw [g.2.1, g.1]) (by unfold sourceRequestOf; exact g.2.2.2.2.1)
      (fun r hr => by rw [g1, f3]; exact (hd r hr).2)
    rw [e2]; rfl
  · rfl

/-! ### Non-vacuity: a storage with a blocking rule, an exception in another list, a `$domain` rule and a
    referrer-level `$genericblock` exception; the composed model is computed on it. -/

private def exPx : E.ParseExt :=
  { ext := { psl := fun _ => (lit "org", true), parseAddr := fun _ => none,
             parsePrefix := fun _ => none, pat := I2.modelPatD },
    loadDNSRewrite := fun _ => none, regexpShortcut := fun _ => [] }

private def exLists : List RList :=
  [⟨1, false, lit "||ads.org^\r\n! c\n/banner$domain=site.org\n", false⟩,
   ⟨7, false, lit "@@||site.org^$genericblock\n##x", false⟩]

example : StorageOK exLists := by
  unfold exLists
  rw [lit_ofList, lit_ofList]
  exact ⟨by decide +kernel, by decide +kernel, by decide +kernel⟩

/-- The generic rule `||ads.org^` is suppressed by the referrer's `$genericblock` exception (the verdict falls
    back to the document rule: allow); the `$domain` rule is not generic and still blocks. -/
example :
    classOf (getBasicResult (engineMatchRequest ⟨4096, fun _ => 1⟩ exPx exLists ⟨exLists, []⟩ [] []
      (lit "http://ads.org/x") (lit "http://site.org/") 4)) = .allow ∧
    classOf (getBasicResult (engineMatchRequest ⟨4096, fun _ => 1⟩ exPx exLists ⟨exLists, []⟩ [] []
      (lit "http://ads.org/x") [] 4)) = .block ∧
    classOf (getBasicResult (engineMatchRequest ⟨4096, fun _ => 1⟩ exPx exLists ⟨exLists, []⟩ [] []
      (lit "http://ads.org/banner") (lit "http://site.org/") 4)) = .block := by
  unfold exLists
  rw [lit_ofList, lit_ofList, lit_ofList, lit_ofList, lit_ofList]
  decide +kernel

end UF.C06
