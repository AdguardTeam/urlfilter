import UF.Proofs.EngineMatch
/-
  C01 — the network engine's indexed lookup is equivalent to a linear scan of all network rules.

  `L` is the list of network rules of the storage in storage order with their storage indexes
  (ANY list: this covers every split into lists, every list id and every insertion order, which
  drives the histogram).  The theorems hold for EVERY pair of hash functions `hf` (only coherence
  between `FastHash` and `FastHashBetween` on a window is used: collisions are invisible) and every
  window length `k`; `c01_djb2` instantiates them with the hash of `filterutil/hash.go` and the
  generated `shortcutLength`.  Hypotheses:
  * `RetrievalOK`  – a scanned rule is retrieved by its index (this is C11's theorem);
  * `L.length < MaxInt32` – `TryAdd` starts its minimum search at `math.MaxInt32`;
  * `DomainsWF`    – parser guarantee on `$domain` values (non-empty, no trailing dot);
  * `TextDeterminesRule` – rules are parsed from their text.
-/
namespace UF.C01
open UF UF.B

/-- Soundness: indexing never adds a rule — every reported rule is a network rule of the lists and
    matches the request. -/
theorem c01_sound (hf : HashFns) (k : Nat) (retrieve : Idx → Option NetRule) (ext : Ext)
    (L : List (NetRule × Idx)) (q : Request)
    (hlen : L.length < maxInt32) (hret : RetrievalOK retrieve L) :
    ∀ r ∈ (Engine.build hf k L).matchAll hf k retrieve ext q,
      r ∈ L.map (·.1) ∧ r.matches ext q = true := by
  intro r hr
  obtain ⟨⟨i, hi⟩, hm⟩ := matchAllG_sound hf k retrieve (fun r => r.matches ext q) q.urlLower
    q.sourceHostname L hlen hret r hr
  exact ⟨List.mem_map.2 ⟨(r, i), hi, rfl⟩, hm⟩

/-- Completeness: indexing never loses a rule — the text of every matching network rule of the
    lists is among the reported texts. -/
theorem c01_complete (hf : HashFns) (k : Nat) (hcoh : hf.Coherent k)
    (retrieve : Idx → Option NetRule) (ext : Ext) (L : List (NetRule × Idx)) (q : Request)
    (hlen : L.length < maxInt32) (hret : RetrievalOK retrieve L)
    (hwf : ∀ p ∈ L, DomainsWF p.1) (hparse : TextDeterminesRule L) :
    ∀ r ∈ L.map (·.1), r.matches ext q = true →
      r.text ∈ ((Engine.build hf k L).matchAll hf k retrieve ext q).map (·.text) := by
  intro r hr hm
  obtain ⟨p, hp, rfl⟩ := List.mem_map.1 hr
  refine matchAllG_complete hf k hcoh retrieve (fun r => r.matches ext q) q.urlLower q.sourceHostname
    L hlen hret ?_ ?_ ?_ p hp hm
  · intro p _ h; exact matches_shortcut ext p.1 q h
  · intro p hp h hpd hwild; exact matches_domain ext p.1 q (hwf p hp) h hpd hwild
  · intro p hp p' hp' ht
    show p.1.matches ext q = p'.1.matches ext q
    rw [hparse p hp p' hp' ht]; rfl

/-- C01: the reported texts are exactly the texts of the network rules that individually match. -/
theorem c01 (hf : HashFns) (k : Nat) (hcoh : hf.Coherent k)
    (retrieve : Idx → Option NetRule) (ext : Ext) (L : List (NetRule × Idx)) (q : Request)
    (hlen : L.length < maxInt32) (hret : RetrievalOK retrieve L)
    (hwf : ∀ p ∈ L, DomainsWF p.1) (hparse : TextDeterminesRule L) (t : Bytes) :
    t ∈ ((Engine.build hf k L).matchAll hf k retrieve ext q).map (·.text) ↔
      t ∈ (specMatchAll ext (L.map (·.1)) q).map (·.text) := by
  constructor
  · intro h
    obtain ⟨r, hr, rfl⟩ := List.mem_map.1 h
    obtain ⟨h1, h2⟩ := c01_sound hf k retrieve ext L q hlen hret r hr
    exact List.mem_map.2 ⟨r, List.mem_filter.2 ⟨h1, h2⟩, rfl⟩
  · intro h
    obtain ⟨r, hr, rfl⟩ := List.mem_map.1 h
    obtain ⟨h1, h2⟩ := List.mem_filter.1 hr
    exact c01_complete hf k hcoh retrieve ext L q hlen hret hwf hparse r h1 h2

/-- Any insertion order (which drives the shortcut histogram and the bucket choice) gives the same
    set of reported texts. -/
theorem c01_insertion_order (hf : HashFns) (k : Nat) (hcoh : hf.Coherent k)
    (retrieve : Idx → Option NetRule) (ext : Ext) (L L' : List (NetRule × Idx)) (q : Request)
    (hperm : L.Perm L')
    (hlen : L.length < maxInt32) (hret : RetrievalOK retrieve L)
    (hwf : ∀ p ∈ L, DomainsWF p.1) (hparse : TextDeterminesRule L) (t : Bytes) :
    t ∈ ((Engine.build hf k L).matchAll hf k retrieve ext q).map (·.text) ↔
      t ∈ ((Engine.build hf k L').matchAll hf k retrieve ext q).map (·.text) := by
  have hlen' : L'.length < maxInt32 := by rw [← hperm.length_eq]; exact hlen
  have hret' : RetrievalOK retrieve L' := fun p hp => hret p (hperm.mem_iff.2 hp)
  have hwf' : ∀ p ∈ L', DomainsWF p.1 := fun p hp => hwf p (hperm.mem_iff.2 hp)
  have hparse' : TextDeterminesRule L' :=
    fun p hp p' hp' => hparse p (hperm.mem_iff.2 hp) p' (hperm.mem_iff.2 hp')
  rw [c01 hf k hcoh retrieve ext L q hlen hret hwf hparse t,
      c01 hf k hcoh retrieve ext L' q hlen' hret' hwf' hparse' t]
  simp only [specMatchAll, List.mem_map, List.mem_filter, hperm.mem_iff]

/-- The slice expressions `s[i:i+k]` of the window loops (`0 ≤ i ≤ len-k`) never panic. -/
theorem c01_window_no_panic (k : Nat) (s : Bytes) (i : Nat) (hi : i < s.length + 1 - k) :
    Bytes.slice? s i (i + k) = some ((s.drop i).take k) := by
  have h : i ≤ i + k ∧ i + k ≤ s.length := by omega
  simp only [Bytes.slice?, h, and_self, if_true, Option.some.injEq]
  rw [List.drop_take]; simp

/-- `FastHashBetween(s, i, i+k)` is `FastHash(s[i:i+k])` for every window length `k ≥ 1`
    (for `k = 0` it is not: `FastHash "" = 0`). -/
theorem c01_hash_coherent (k : Nat) (hk : 1 ≤ k) : djb2.Coherent k := djb2_coherent k hk

/-- The window loops do not index out of range: `FastHashBetween` reads only `str[begin..end)`. -/
theorem c01_hash_no_panic (s : Bytes) (i k : Nat) (h : i + k ≤ s.length) :
    fastHashBetween? s i (i + k) = some (fastHashBetween s i (i + k)) :=
  fastHashBetween?_eq s i (i + k) h

/-- C01 for the code as it is: the djb2 hash of `filterutil/hash.go` and the generated window
    length `shortcutLength`. -/
theorem c01_djb2 (retrieve : Idx → Option NetRule) (ext : Ext) (L : List (NetRule × Idx)) (q : Request)
    (hlen : L.length < maxInt32) (hret : RetrievalOK retrieve L)
    (hwf : ∀ p ∈ L, DomainsWF p.1) (hparse : TextDeterminesRule L) (t : Bytes) :
    t ∈ ((Engine.build djb2 Facts.shortcutLength L).matchAll djb2 Facts.shortcutLength retrieve ext q).map (·.text) ↔
      t ∈ (specMatchAll ext (L.map (·.1)) q).map (·.text) :=
  c01 djb2 Facts.shortcutLength (djb2_coherent _ (by decide)) retrieve ext L q hlen hret hwf hparse t

/-- The hash pair that sends everything to one bucket is admissible: the theorems above cover the
    worst case of collisions. -/
theorem c01_constant_hash_coherent (k : Nat) : (⟨fun _ => 7, fun _ _ _ => 7⟩ : HashFns).Coherent k :=
  fun _ _ _ => rfl

/-- The model distinguishes the repaired code from the pinned tree (defect D1): with the OLD domains
    table the rule `/ad$domain=example.*` is filed under the hash of the literal `example.*`, so a
    request from `example.com` — which the rule matches — reports nothing. -/
example :
    let ext : Ext := ⟨fun _ => (lit "com", true), fun _ => none, fun _ => none, fun _ _ _ => true⟩
    let r : NetRule := { text := lit "/ad$domain=example.*", pattern := lit "/ad", shortcut := lit "/ad",
                         permDomains := [lit "example.*"] }
    let q : Request := { url := lit "http://x.com/ad", urlLower := lit "http://x.com/ad", hostname := lit "x.com",
                         sourceURL := lit "http://example.com/", sourceHostname := lit "example.com", reqType := 4,
                         thirdParty := true }
    let retrieve : Idx → Option NetRule := fun _ => some r
    r.matches ext q = true ∧
    ((DomainsTable.tryAddOld djb2 {} r 0).map fun t =>
        t.matchAllG djb2 retrieve (fun r => r.matches ext q) q.sourceHostname) = some [] ∧
    ((Engine.build djb2 Facts.shortcutLength [(r, 0)]).matchAll djb2 Facts.shortcutLength retrieve ext q).map (·.text)
      = [lit "/ad$domain=example.*"] := by
  decide +kernel

/-! Non-vacuity: the hypotheses are satisfiable by a non-trivial instance (a shortcut-table rule, a
    domains-table rule and a duplicated sequential rule in two lists). -/
example :
    let r1 : NetRule := { text := lit "/banner", pattern := lit "/banner", shortcut := lit "/banner" }
    let r2 : NetRule := { text := lit "/ad$domain=example.org", pattern := lit "/ad", shortcut := lit "/ad",
                          permDomains := [lit "example.org"] }
    let r3 : NetRule := { text := lit "ad", pattern := lit "ad", shortcut := lit "ad" }
    let r4 : NetRule := { r3 with listID := 2 }
    let L : List (NetRule × Idx) := [(r1, 0), (r2, 8), (r3, 31), (r4, 8589934592)]
    let retrieve : Idx → Option NetRule := fun i => (L.find? (·.2 == i)).map (·.1)
    L.length < maxInt32 ∧ RetrievalOK retrieve L ∧ (∀ p ∈ L, DomainsWF p.1) ∧ TextDeterminesRule L := by
  unfold RetrievalOK DomainsWF TextDeterminesRule
  decide +kernel

end UF.C01
