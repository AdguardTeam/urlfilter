import UF.Model.NewRule
import UF.Proofs.ParseTotal
import UF.Proofs.ParseWF
/-
  C12 — parsing and matching never crash; comments and rejected lines are inert.

  In the model every Go slice / index expression is a checked operation whose failure is the value
  `.error .panic`; `c12_total_*` say that this value is never produced, for ALL byte strings and all
  oracles (`netip`, `loadDNSRewrite`, `findRegexpShortcut`, `TrimSpace`, `NewHostRule` are parameters:
  their own crash-freedom is proved where they are modelled or is sampled by the `c12.crash` stream).
-/
namespace UF.C12
open UF Bytes

/-! ### Network-rule text -/

theorem c12_total_parseRuleText (t : Bytes) : E.parseRuleText t ≠ .error .panic :=
  E.parseRuleText_noPanic t

theorem c12_total_splitWithEscapeCharacter (str : Bytes) (sep esc : UInt8) (preserveAll : Bool) :
    E.splitWithEscapeCharacter str sep esc preserveAll ≠ .error .panic :=
  E.splitWithEscapeCharacter_noPanic str sep esc preserveAll

theorem c12_total_findShortcut (p : Bytes) : E.findShortcut p ≠ .error .panic :=
  E.findShortcut_noPanic p

/-- `loadDomains`, including the index expression `"xn--"[xn]` inside `IsDomainName`. -/
theorem c12_total_loadDomains (d : Bytes) (sep : UInt8) : E.loadDomains d sep ≠ .error .panic :=
  E.loadDomains_noPanic d sep

theorem c12_total_isDomainName (n : Bytes) : E.isDomainNameC n ≠ .error .panic :=
  E.isDomainNameC_noPanic n

theorem c12_total_loadDNSTypes (t : Bytes) : E.loadDNSTypes t ≠ .error .panic :=
  E.loadDNSTypes_noPanic t

theorem c12_total_loadCTags (v : Bytes) : E.loadCTags v ≠ .error .panic :=
  E.loadCTags_noPanic v

theorem c12_total_loadClients (ext : Ext) (v : Bytes) : E.loadClients ext v ≠ .error .panic :=
  E.loadClients_noPanic ext v

theorem c12_total_loadOptions (px : E.ParseExt) (r : NetRule) (options : Bytes) :
    E.loadOptions px r options ≠ .error .panic :=
  E.loadOptions_noPanic px r options

/-- `NewNetworkRule` never panics, for every text, list id and oracle. -/
theorem c12_total_parseNetRule (px : E.ParseExt) (t : Bytes) (id : Int) :
    E.parseNetRule px t id ≠ .error .panic :=
  E.parseNetRule_noPanic px t id

/-! ### Cosmetic markers, comments, `NewRule` -/

theorem c12_total_startsAtIndexWith (str : Bytes) (start : Nat) (sub : Bytes) :
    E.startsAtIndexWith str start sub ≠ .error .panic :=
  E.startsAtIndexWith_noPanic str start sub

theorem c12_total_findCosmeticRuleMarker (t : Bytes) : E.findCosmeticRuleMarker t ≠ .error .panic :=
  E.findCosmeticRuleMarker_noPanic t

theorem c12_total_isComment (l : Bytes) : E.isComment l ≠ .error .panic :=
  E.isComment_noPanic l

theorem c12_total_newCosmeticRule (trim : Bytes → Bytes) (t : Bytes) (id : Int) :
    E.newCosmeticRule trim t id ≠ .error .panic :=
  E.newCosmeticRule_noPanic trim t id

/-- `NewRule` never panics. -/
theorem c12_total_newRule (rx : E.RuleExt) (line : Bytes) (id : Int) :
    E.newRule rx line id ≠ .error .panic :=
  E.newRule_noPanic rx line id

/-! ### Matching: the two helpers of `Match` that slice / index -/

/-- `isDomainOrSubdomainOfAny` with `d[0:len(d)-1]` checked never fails and computes the function
    used by the model of `Match`. -/
theorem c12_total_isDomainOrSubdomainOfAny (ext : Ext) (domain : Bytes) (ds : List Bytes) :
    E.isDomainOrSubdomainOfAnyC ext domain ds = .ok (isDomainOrSubdomainOfAny ext domain ds) :=
  E.isDomainOrSubdomainOfAnyC_eq ext domain ds

/-- `shouldMatchHostname` with `pattern[0]`, `pattern[len-1]`, `pattern[i]` checked never fails and
    computes the function used by the model of `Match`. -/
theorem c12_total_shouldMatchHostname (r : NetRule) (q : Request) :
    E.shouldMatchHostnameC r q = .ok (shouldMatchHostname r q) :=
  E.shouldMatchHostnameC_eq r q

/-! ### What a line yields -/

/-- A line that yields a rule yields one whose text is the trimmed line and whose list id is the
    one given (`NewHostRule`, `H`'s, is assumed to keep text and id). -/
theorem c12_text (rx : E.RuleExt) (line : Bytes) (id : Int) (r : Rule)
    (hhost : ∀ t i h, rx.newHostRule t i = some h → h.text = t ∧ h.listID = i)
    (h : E.newRule rx line id = .ok (some r)) : r.text = rx.trim line ∧ r.listID = id :=
  E.newRule_text hhost h

/-- The three outcomes of the property: nothing, a rule (text = trimmed line, given id), or an error
    — never a crash. -/
theorem c12_outcomes (rx : E.RuleExt) (line : Bytes) (id : Int)
    (hhost : ∀ t i h, rx.newHostRule t i = some h → h.text = t ∧ h.listID = i) :
    E.newRule rx line id = .ok none ∨
    (∃ r, E.newRule rx line id = .ok (some r) ∧ r.text = rx.trim line ∧ r.listID = id) ∨
    E.newRule rx line id = .error .err := by
  cases h : E.newRule rx line id with
  | ok o =>
    cases o with
    | none => exact Or.inl rfl
    | some r => exact Or.inr (Or.inl ⟨r, rfl, E.newRule_text hhost h⟩)
  | error e =>
    cases e with
    | panic => exact absurd h (E.newRule_noPanic rx line id)
    | err => exact Or.inr (Or.inr rfl)

/-- A network rule produced by `NewNetworkRule` keeps its text and list id. -/
theorem c12_text_net (px : E.ParseExt) (t : Bytes) (id : Int) (r : NetRule)
    (h : E.parseNetRule px t id = .ok r) : r.text = t ∧ r.listID = id :=
  E.parseNetRule_text h

/-! ### Inert lines.  `RuleScanner.Scan` keeps exactly the lines for which `NewRule` returns a rule
    and no error; engines are built from the scanned rules only.  Hence every result of every
    engine is a function of `scanAccepted` (the sequence of accepted rules, each carrying its list
    id and text), and the statements below are the model-level content of "results(L) = results(L+N)". -/

/-- Deleting (equivalently: inserting) any set of lines that yield no rule — blank, comment or
    rejected — does not change the sequence of accepted rules. -/
theorem c12_inert_scan (rx : E.RuleExt) (id : Int) (lines : List Bytes) (keep : Bytes → Bool)
    (h : ∀ l ∈ lines, keep l = false → E.acceptedOf rx id l = none) :
    E.scanAccepted rx id (lines.filter keep) = E.scanAccepted rx id lines :=
  E.scanAccepted_filter rx id lines keep h

/-- Inserting one inert line at any position. -/
theorem c12_inert_insert (rx : E.RuleExt) (id : Int) (a b : List Bytes) (n : Bytes)
    (h : E.acceptedOf rx id n = none) :
    E.scanAccepted rx id (a ++ n :: b) = E.scanAccepted rx id (a ++ b) :=
  E.scanAccepted_insert rx id a b n h

/-- Switching to CRLF line endings (every line gets a trailing CR) changes nothing, given that
    `TrimSpace` removes a trailing CR. -/
theorem c12_inert_crlf (rx : E.RuleExt) (id : Int) (lines : List Bytes)
    (hcr : ∀ l, rx.trim (l ++ [13]) = rx.trim l) :
    E.scanAccepted rx id (lines.map (· ++ [13])) = E.scanAccepted rx id lines :=
  E.scanAccepted_crlf rx id lines hcr

/-- Any result computed from the accepted rules (engine construction + query, abstractly a function
    `results`) is unchanged by noise insertion and by CRLF endings.  NOTE: this is only a congruence of
    `filterMap` over an ARBITRARY `results` -- it mentions no engine.  The engine-level statements (from
    the bytes of the lists to `MatchAll`, the DNS result and the cosmetic selectors) are in
    Props/C12Engine.lean (`c12_engine_insert`, `c12_engine_crlf`), composed from `c01_storage`,
    `c02_storage`, `c15_storage`. -/
theorem c12_inert {α} (results : List Rule → α) (rx : E.RuleExt) (id : Int) (lines : List Bytes)
    (keep : Bytes → Bool) (h : ∀ l ∈ lines, keep l = false → E.acceptedOf rx id l = none)
    (hcr : ∀ l, rx.trim (l ++ [13]) = rx.trim l) :
    results (E.scanAccepted rx id (lines.filter keep)) = results (E.scanAccepted rx id lines) ∧
    results (E.scanAccepted rx id (lines.map (· ++ [13]))) = results (E.scanAccepted rx id lines) := by
  rw [E.scanAccepted_filter rx id lines keep h, E.scanAccepted_crlf rx id lines hcr]
  exact ⟨rfl, rfl⟩

/-- Blank lines (the trimmed line is empty) yield nothing. -/
theorem c12_blank (rx : E.RuleExt) (line : Bytes) (id : Int) (h : rx.trim line = []) :
    E.newRule rx line id = .ok none :=
  E.newRule_blank h id

/-! ### Non-vacuity -/

private def exRx : E.RuleExt :=
  { px := { ext := { psl := fun _ => ([], false), parseAddr := fun _ => none,
                     parsePrefix := fun _ => none, pat := fun _ _ _ => true },
            loadDNSRewrite := fun _ => none, regexpShortcut := fun _ => [] },
    trim := id, newHostRule := fun _ _ => none }

/-- A comment, a rejected line and an accepted line. -/
example : E.acceptedOf exRx 1 (lit "! comment") = none := by decide +kernel
example : (match E.newRule exRx (lit "||a.com^$unknown") 1 with | .error .err => true | _ => false) = true := by decide +kernel
example : (E.acceptedOf exRx 7 (lit "||a.com^$ctag=b|a")).map (fun r => (r.text, r.listID)) =
    some (lit "||a.com^$ctag=b|a", 7) := by decide +kernel
/-- The D2 shape (a one-byte pattern with a `$domain`) parses without a crash. -/
example : (E.parseNetRule exRx.px (lit "a$domain=a.com") 1).toOption.map (·.pattern) = some (lit "a") := by
  decide +kernel

end UF.C12
