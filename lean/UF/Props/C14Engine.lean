import UF.Compose4.EnvOfStorage
import UF.Props.C14
/-
  C14 ON THE ENGINE MODELS: `c14_sc` with the environment instantiated by the engine
  built from the bytes of the lists (see Props/C13Engine.lean for what the instance is).  PARTIAL BY NATURE
  exactly as Props/C14.lean: the granularity of the atomic actions is an assumption compared with the lock
  facts extracted from the source; the Go memory model is outside.
-/
namespace UF.C14
open UF UF.B UF.Prog UF.Storage UF.Compose UF.Compose4

/-- For ANY engine model and EVERY schedule: no thread crashes and every finished thread returned what the
    engine model answers statelessly. -/
theorem c14_engine_generic {Re : Type} (hf : HashFns) (k : Nat) (truth : Int → Option Rule) (listOf : Int → Int)
    (etld1 : Bytes → Bytes) (ext : Ext) (pm : PatModel Re) (basic : List NetRule → Option NetRule) (d : DnsEngine)
    (hpat : ext.pat = pm.pat) (s : State Rule Re) (hs : SInv (envOf hf k truth listOf etld1 ext pm basic d) s)
    (h0 : s.closed = []) (qs : List Query) (sched : List Nat) :
    ∀ t ∈ (Config.run (envOf hf k truth listOf etld1 ext pm basic d) ⟨s, qs.map Thread.init⟩ (sched.map Ev.run)).threads,
      t.pc ≠ .crash ∧ (t.pc = .done → t.answer = engineAnswer hf k truth etld1 ext basic d t.q) := by
  intro t ht
  obtain ⟨h1, h2⟩ := c14_sc _ s qs sched hs h0 t ht
  exact ⟨h1, fun hd => by rw [h2 hd, pureAnswer_eq hpat]⟩

/-- C14 FOR THE DNS ENGINE BUILT FROM THE BYTES OF THE LISTS: any number of concurrent queries, EVERY schedule
    of their atomic actions (cache get / list read / cache put / `preparePattern` / unlocked `regex` read / pool
    get and put) on a cold engine: no crash, and every finished query returned what the engine model
    returns sequentially, retrieving through the storage model in any reachable cache state. -/
theorem c14_engine {Re : Type} (io : IO) (px : E.ParseExt) (lists : List RList) (pm : PatModel Re)
    (hpat : px.ext.pat = pm.pat) (st : RuleStorage) (hnew : newRuleStorage lists = some st)
    (history : List (BitVec 64)) (qs : List Query) (sched : List Nat) :
    ∀ t ∈ (Config.run (envDns io px lists pm) ⟨{}, qs.map Thread.init⟩ (sched.map Ev.run)).threads,
      t.pc ≠ .crash ∧ (t.pc = .done → t.answer = dnsAnswer io px lists st history t.q) := by
  intro t ht
  obtain ⟨h1, h2⟩ := c14_sc _ {} qs sched (sinv_init _) rfl t ht
  exact ⟨h1, fun hd => by rw [h2 hd, pureAnswer_envDns io px lists pm hpat st hnew history]⟩

/-- The same for the network engine of the lists, and on a WARM engine: a second batch of concurrent queries
    `qs2` under any schedule, after a first batch `qs1` ran under any schedule. -/
theorem c14_engine_net_warm {Re : Type} (io : IO) (px : E.ParseExt) (lists : List RList) (pm : PatModel Re)
    (hpat : px.ext.pat = pm.pat) (st : RuleStorage) (hnew : newRuleStorage lists = some st)
    (history : List (BitVec 64)) (qs1 qs2 : List Query) (sched1 sched2 : List Nat) :
    ∀ t ∈ (Config.run (envNet io px lists pm)
        ⟨(Config.run (envNet io px lists pm) ⟨{}, qs1.map Thread.init⟩ (sched1.map Ev.run)).state, qs2.map Thread.init⟩
        (sched2.map Ev.run)).threads,
      t.pc ≠ .crash ∧ (t.pc = .done → t.answer = netAnswer io px lists st history t.q) := by
  intro t ht
  have hs := c14_sc_state (envNet io px lists pm) {} qs1 sched1 (sinv_init _) rfl
  have h0 : (Config.run (envNet io px lists pm) ⟨{}, qs1.map Thread.init⟩ (sched1.map Ev.run)).state.closed = [] :=
    (run_cinv_eq sched1 _ ⟨cinv_init _ _ {} qs1 (sinv_init _) (goodEq_init _), rfl⟩).2
  obtain ⟨h1, h2⟩ := c14_sc _ _ qs2 sched2 hs h0 t ht
  exact ⟨h1, fun hd => by rw [h2 hd, pureAnswer_envNet io px lists pm hpat st hnew history]⟩

end UF.C14
