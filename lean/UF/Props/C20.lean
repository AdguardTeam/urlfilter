import UF.Proofs.HtmlFind
import UF.Proofs.Lit
/-
  C20 -- proxy HTML injection inserts one tag and preserves every byte.

  Model: UF/Model/Html.lean (`filterHTML`, repaired shape of commit 9cb6043); reference:
  UF/Spec/Html.lean (`specFind`, `specFilter`, on the bytes of the body).  All theorems hold for EVERY
  window size `w`; the code's value is the generated fact `Facts.headBufferSize` (`c20_code`).
  The tag is ASCII (rendered from an ASCII template and the request hostname).
-/
namespace UF.Html

/-- Latin-1 decoding followed by encoding is the identity on all byte strings (all 256 values). -/
theorem latin1_roundtrip (b : Bytes) : latin1Encode (latin1Decode b) = some b :=
  latin1Encode_decode b

/-- The search on the transcoded text finds the reference position (first marker start among the
    first `w` BYTES OF THE BODY), reported as a byte index into the UTF-8 text. -/
theorem c20_index (w : Nat) (b : Bytes) :
    findBodyInjectionIndex w (latin1Decode b) = (specFind w b).map (fun k => (latin1Decode (b.take k)).length) :=
  findBodyInjectionIndex_decode w b

/-- C20, main statement: for every window, every body over all 256 byte values and every ASCII tag,
    `filterHTML` succeeds (no encoder error, no slice panic), the new body is the reference
    `body[:i] ++ tag ++ body[i:]` (or the body itself), the declared length is the length of the new
    body, `Content-Encoding` is removed, and the CSP headers are removed only when a tag was injected. -/
theorem c20 (w : Nat) (b tag : Bytes) (ht : Bytes.isAscii tag = true) :
    filterHTML w b tag =
      some ⟨specFilter w b tag, (specFilter w b tag).length, false, !(specFind w b).isSome⟩ :=
  filterHTML_eq w b tag ht

/-- The same for the window the code uses (generated fact). -/
theorem c20_code (b tag : Bytes) (ht : Bytes.isAscii tag = true) :
    (filterHTML Facts.headBufferSize b tag).map (·.body) = some (specFilter Facts.headBufferSize b tag) := by
  rw [c20 _ _ _ ht, Option.map_some]

/-- The reference position is the FIRST marker start inside the window: `i` is returned iff it lies
    in the first `w` bytes, the body continues with a marker there, and does so at no earlier position. -/
theorem c20_first (w : Nat) (body : Bytes) (i : Nat) :
    specFind w body = some i ↔
      (i < w ∧ i < body.length ∧ markerAt (body.drop i) = true ∧ ∀ j, j < i → markerAt (body.drop j) = false) :=
  specFind_some_iff w body i

/-- Exactly one tag is inserted and every original byte is kept in order: the output is
    `pre ++ tag ++ suf` with `pre ++ suf = body`, and its declared length is `|body| + |tag|`. -/
theorem c20_count (w : Nat) (b tag : Bytes) (ht : Bytes.isAscii tag = true) (i : Nat) (h : specFind w b = some i) :
    ∃ r, filterHTML w b tag = some r ∧ r.body = b.take i ++ tag ++ b.drop i ∧
      b.take i ++ b.drop i = b ∧ r.contentLength = b.length + tag.length ∧ r.contentEncoding = false ∧
      r.cspKept = false := by
  refine ⟨_, c20 w b tag ht, ?_⟩
  have hi := (specFind_le h).1
  simp only [specFilter, h, Option.isSome_some, Bool.not_true, List.take_append_drop, List.length_append,
    List.length_take, List.length_drop, true_and, and_true]
  omega

/-- No marker start among the first `w` bytes ⇒ the body is returned unchanged (all bytes, the same
    length), and the CSP headers stay. -/
theorem c20_unchanged (w : Nat) (b tag : Bytes) (ht : Bytes.isAscii tag = true)
    (h : ∀ j, j < w → j < b.length → markerAt (b.drop j) = false) :
    filterHTML w b tag = some ⟨b, b.length, false, true⟩ := by
  have hn := (specFind_none_iff w b).mpr h
  rw [c20 w b tag ht]
  simp [specFilter, hn]

/-! Non-vacuity and the D12 witness (window 8 instead of 16384; `decide +kernel` = evaluation by the kernel, no extra axiom):
    five high bytes, then `</HeAd>`.  The marker starts at byte 5 < 8 of the body; in the transcoded
    text it starts at byte 10. -/

example : filterHTML 8 ([0xFF, 0xE9, 0x80, 0xC3, 0xA0] ++ lit "</HeAd>x") (lit "<s>") =
    some ⟨[0xFF, 0xE9, 0x80, 0xC3, 0xA0] ++ lit "<s></HeAd>x", 16, false, false⟩ := by
  rw [lit_ofList, lit_ofList, lit_ofList]; decide +kernel

/-- the repaired search finds it (index 10 of the text), the pre-9cb6043 search does not -/
example : findBodyInjectionIndex 8 (latin1Decode ([0xFF, 0xE9, 0x80, 0xC3, 0xA0] ++ lit "</HeAd>x")) = some 10 ∧
    findOld 8 (latin1Decode ([0xFF, 0xE9, 0x80, 0xC3, 0xA0] ++ lit "</HeAd>x")) 0 = none := by
  rw [lit_ofList]; decide +kernel

/-- a marker beyond the window is not used; near-markers with high bytes are not markers -/
example : filterHTML 8 (lit "12345678<link>") (lit "<s>") = some ⟨lit "12345678<link>", 14, false, true⟩ := by
  rw [lit_ofList, lit_ofList]; decide +kernel
example : filterHTML 64 (lit "<lin" ++ [0xE2, 0x84, 0xAA] ++ lit "><" ++ [0xC5, 0xBF] ++ lit "tyle>") (lit "<s>") =
    some ⟨lit "<lin" ++ [0xE2, 0x84, 0xAA] ++ lit "><" ++ [0xC5, 0xBF] ++ lit "tyle>", 16, false, true⟩ := by
  rw [lit_ofList, lit_ofList, lit_ofList, lit_ofList]; decide +kernel

end UF.Html
