import UF.Compose5.Perm
import UF.Props.C04Text
/-
  C04, "the order in which values are written inside a modifier never matters", at text level.
  `c04_text_ref_order` (Props/C04Text.lean) assumes that the two references agree (`hsame`); here that is proved:
  the reference is invariant under `ModsPerm` with no side condition, so two texts that differ by such a
  permutation parse to rules that match the same requests.  `modsOK` is needed for one of the texts only, and it
  cannot be dropped on the parser side (`c04_perm_once_needed`: with `$domain` written twice Go keeps the last).
-/
namespace UF.C04
open UF Bytes UF.I2 UF.L

/-- The reference is invariant under permutation of modifiers and of values — no side condition. -/
theorem c04_spec_perm (ext : Ext) (pat : Bytes) (ms ms' : List Mod) (h : ModsPerm ms ms') (q : Request) :
    specMatchText ext pat (ModSpec.ofMods ms) q = specMatchText ext pat (ModSpec.ofMods ms') q :=
  specMatchText_perm ext pat h q

/-- … and, more generally, depends on the meaning only through its flags and its value SETS. -/
theorem c04_spec_sameMeaning (ext : Ext) (pat : Bytes) (s s' : ModSpec) (h : s.sameMeaning s' = true) (q : Request) :
    specMatchText ext pat s q = specMatchText ext pat s' q :=
  specMatchText_sameMeaning ext pat h q

/-- The executable check `modsPermB` is sound for the relation. -/
theorem c04_modsPermB_sound (ms ms' : List Mod) (h : modsPermB ms ms' = true) : ModsPerm ms ms' :=
  modsPermB_sound ms ms' h

/-- The grammar domain does not depend on the order of modifiers or values. -/
theorem c04_modsOK_perm (ms ms' : List Mod) (h : ModsPerm ms ms') : modsOK ms = modsOK ms' :=
  modsOK_perm h

/-- VALUE ORDER (AND MODIFIER ORDER) NEVER MATTERS, at text level, without assuming it: two modifier lists
    related by `ModsPerm`, rendered with the same pattern, give rules that match the same requests. -/
theorem c04_text_ref_perm (px : E.ParseExt) (wl : Bool) (pat : Bytes) (ms ms' : List Mod) (id id' : Int)
    (r r' : NetRule) (q : Request) (hp : patOK pat = true) (hm : modsOK ms = true) (hperm : ModsPerm ms ms')
    (h : E.parseNetRule px (render wl pat ms) id = .ok r)
    (h' : E.parseNetRule px (render wl pat ms') id' = .ok r') (hq : q.InDomain)
    (hd : MaskDomain r.pattern (specTarget r q))
    (hlower : q.urlLower = toLower q.url)
    (hhost : q.isHostnameRequest = true → hasSub q.url q.hostname = true) :
    r.matches (withModelPat px.ext) q = r'.matches (withModelPat px.ext) q := by
  have hm' : modsOK ms' = true := by rw [← modsOK_perm hperm]; exact hm
  have hpat := (c04_grammar_pattern px wl pat ms id r hp hm h).2
  have hpat' := (c04_grammar_pattern px wl pat ms' id' r' hp hm' h').2
  have hd' : MaskDomain r'.pattern (specTarget r' q) := by
    rw [specTarget_pattern r' q, hpat', ← hpat, ← specTarget_pattern r q]
    exact hd
  rw [c04_text_ref px wl pat ms id r q hp hm h hq hd hlower hhost,
    c04_text_ref px wl pat ms' id' r' q hp hm' h' hq hd' hlower hhost]
  exact specMatchText_perm px.ext pat hperm q

/-! ### Non-vacuity -/

private def exPx : E.ParseExt :=
  { ext := { psl := fun _ => (lit "com", true), parseAddr := fun _ => none,
             parsePrefix := fun _ => none, pat := fun _ _ _ => true },
    loadDNSRewrite := fun _ => none, regexpShortcut := fun _ => [] }

private def exMods : List Mod :=
  [.domain [(false, lit "a.com"), (true, lit "b.a.com"), (false, lit "c.com")], .ctype false .script, .thirdParty true,
   .ctag [(false, lit "pc"), (true, lit "kid")], .client [(false, lit "tv"), (false, lit "10.0.0.0/8")]]

/-- the same modifiers in another order, the values of `$domain`, `$ctag`, `$client` in another order -/
private def exMods' : List Mod :=
  [.client [(false, lit "10.0.0.0/8"), (false, lit "tv")], .thirdParty true,
   .domain [(false, lit "c.com"), (false, lit "a.com"), (true, lit "b.a.com")],
   .ctag [(true, lit "kid"), (false, lit "pc")], .ctype false .script]

example : render false (lit "||example.org^") exMods =
    lit "||example.org^$domain=a.com|~b.a.com|c.com,script,~first-party,ctag=pc|~kid,client=tv|10.0.0.0/8" ∧
  render false (lit "||example.org^") exMods' =
    lit "||example.org^$client=10.0.0.0/8|tv,~first-party,domain=c.com|a.com|~b.a.com,ctag=~kid|pc,script" := by
  rw [lit_ofList, lit_ofList, lit_ofList]; decide +kernel

/-- The hypotheses of `c04_text_ref_perm` hold for them: related (checked by `modsPermB`), in the grammar domain,
    both texts accepted by the parser model. -/
example : ModsPerm exMods exMods' := modsPermB_sound _ _ (by decide +kernel)
example : patOK (lit "||example.org^") = true ∧ modsOK exMods = true := by decide +kernel
example : (E.parseNetRule exPx (render false (lit "||example.org^") exMods) 1).toOption.isSome = true ∧
    (E.parseNetRule exPx (render false (lit "||example.org^") exMods') 2).toOption.isSome = true := by
  decide +kernel

/-- `sameMeaning` also identifies a value written twice with the value written once. -/
example : (ModSpec.ofMods [.domain [(false, lit "a.com"), (false, lit "a.com")]]).sameMeaning
    (ModSpec.ofMods [.domain [(false, lit "a.com")]]) = true := by decide +kernel

private def exQ : Request :=
  { url := lit "http://example.org/", urlLower := lit "http://example.org/", hostname := lit "example.org",
    sourceHostname := lit "a.com", reqType := Facts.TypeScript, thirdParty := true }

/-- "AT MOST ONCE" IS NEEDED ON THE PARSER SIDE: `$domain=a.com,domain=b.com` and `$domain=b.com,domain=a.com` are
    permutations of one another; the parser keeps the LAST `$domain`, so for a request from `a.com` the first rule
    does not match and the second does — while the reference (which reads the union) says `true` for both. -/
theorem c04_perm_once_needed :
    let ms : List Mod := [.domain [(false, lit "a.com")], .domain [(false, lit "b.com")]]
    let ms' : List Mod := [.domain [(false, lit "b.com")], .domain [(false, lit "a.com")]]
    ms.Perm ms' ∧ modsOK ms = false ∧
    (E.parseNetRule exPx (render false (lit "||example.org^") ms) 1).toOption.map (fun r => r.matches exPx.ext exQ) = some false ∧
    (E.parseNetRule exPx (render false (lit "||example.org^") ms') 1).toOption.map (fun r => r.matches exPx.ext exQ) = some true ∧
    specMatchText exPx.ext (lit "||example.org^") (ModSpec.ofMods ms) exQ =
      specMatchText exPx.ext (lit "||example.org^") (ModSpec.ofMods ms') exQ := by
  decide +kernel

end UF.C04
