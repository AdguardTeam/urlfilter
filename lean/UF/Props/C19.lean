import UF.Proofs.ProgRun
import UF.Proofs.ProgSound
import UF.Proofs.ProgCached
/-
  C19 — unreadable rule lists degrade results to a subset, never crash or lie.
  Theorems over the Prog model with the fault action `close listId` at any point of any history or
  schedule.  A closed list makes `listRead` fail (`RetrieveRule` returns an error, the helper returns
  nil).  The model has an explicit failure outcome `PC.crash`, reached when a nil pointer is
  dereferenced: the nil checks of lookup/shortcutstable.go, lookup/domainstable.go and
  dnsengine.go:matchLookupTable are BRANCHES of `step`; `stepNoNilCheck src` is the machine with the
  check of table `src` removed, and there a crash is reachable (`c19_nil_check_needed`).  That os.File
  really fails every Seek/Read after Close is an assumption (checked by the `c19fault` runs only).

  A DNS answer is the pair (network rules, host rules).  Under faults the host part is compared with
  `pureHosts` (what the hosts table holds for the name): when the network rule that would have decided
  the request is unreadable, `MatchRequest` falls through to the hosts table, so host rules can appear
  that the fault-free answer (which stops at the network rule) does not contain -- they are genuine
  matching rules, and `c19_subset` says exactly that.
-/
namespace UF.C19
open UF UF.Prog

/-- The queries of a history, in order. -/
def queriesOf : List HEv → List Query
  | [] => []
  | .query q :: rest => q :: queriesOf rest
  | .close _ :: rest => queriesOf rest

/-- No crash, concurrent form: NO schedule of actions of any number of concurrent queries and `close`
    events at arbitrary points reaches `crash`, from any state satisfying the shared invariant. -/
theorem c19_nopanic {R Re : Type} (env : Env R Re) (s : State R Re) (qs : List Query) (sched : List Ev)
    (hs : SInv env s) :
    ∀ t ∈ (Config.run env ⟨s, qs.map Thread.init⟩ sched).threads, t.pc ≠ .crash := by
  have h := run_init_sound s qs sched hs
  intro t ht
  exact (h.2 t ht).1.2.2

/-- No crash, no hang, sequential form: in ANY fault state a query run alone reaches `done` within its fuel
    bound. -/
theorem c19_nopanic_seq {R Re : Type} (env : Env R Re) (s : State R Re) (q : Query) (hs : SInv env s) :
    (runQuery env s q).2.pc = .done :=
  (runQuery_good q hs).2.2

/-- … and no history of queries and `close` events contains a query that does not finish. -/
theorem c19_nopanic_history {R Re : Type} (env : Env R Re) (h : List HEv) :
    ∀ (s : State R Re), SInv env s → ∀ t ∈ (runHistoryT env s h).2, t.pc = .done :=
  fun s hs => (runHistoryT_forall env (SInv env) _ (fun _ _ h => h)
    (fun _ q hs => ⟨(runQuery_good q hs).1, (runQuery_good q hs).2.2⟩) h s hs).2

/-- The theorem has content: in the machine with the nil check of ANY ONE of the three tables removed, a
    query after a `close` reaches `crash` (one candidate of that table in a closed list, cold cache). -/
theorem c19_nil_check_needed (src : Src) :
    let env : Env Nat Nat :=
      { truth := fun i => if i == 10 then some 7 else none, listOf := fun _ => 1, etld1 := id,
        cands := fun _ => match src with | .sc => [(true, 10)] | .dom => [(false, 10)] | .host => [],
        hcands := fun _ => [10], basic := fun _ => false,
        wants := fun _ _ => true, pre := fun _ _ => true, compile := fun _ => .any,
        accepts := fun _ _ _ => true, resident := [] }
    ∃ sched : List Ev,
      ((Config.runG (stepNoNilCheck src env) ⟨{}, [Thread.init (.dns { hostname := lit "a" })]⟩ sched).threads.map
        (·.pc.isCrash)) = [true] ∧
      ((Config.run env ⟨{}, [Thread.init (.dns { hostname := lit "a" })]⟩ sched).threads.map
        (·.pc.isCrash)) = [false] := by
  cases src
  · exact ⟨[.close 1, .run 0, .run 0, .run 0, .run 0], by decide +kernel⟩
  · exact ⟨[.close 1, .run 0, .run 0, .run 0, .run 0], by decide +kernel⟩
  · exact ⟨[.close 1, .run 0, .run 0, .run 0, .run 0, .run 0], by decide +kernel⟩

/-- Never lie, concurrent form: for EVERY schedule mixing actions of any number of concurrent queries
    with `close` events at arbitrary points, from any state satisfying the shared invariant: every network
    rule a finished query returns is in the fault-free stateless answer, every host rule is one the hosts
    table holds for the name (and matches, see `c19_truthful`). -/
theorem c19_subset {R Re : Type} (env : Env R Re) (s : State R Re) (qs : List Query) (sched : List Ev)
    (hs : SInv env s) :
    ∀ t ∈ (Config.run env ⟨s, qs.map Thread.init⟩ sched).threads, t.pc = .done →
      (∀ r ∈ t.answer.1, r ∈ (pureAnswer env t.q).1) ∧
      (∀ r ∈ t.answer.2, r ∈ pureHosts env (env.reqOf t.q)) := by
  have h := run_init_sound s qs sched hs
  intro t ht hd
  have := sound_answer (h.2 t ht).1.1 (h.2 t ht).2 hd
  exact ⟨this.1, this.2.1⟩

/-- Never lie, spelled out: every rule in the answer of a finished query -- under any schedule and any
    faults -- is a genuine rule that matches the request: the entry of the sequential table it came from, or
    what the unmodified lists hold at the storage index it was retrieved from, of the kind the table asks
    for (never a zero, stale or foreign rule), and `Match` -- evaluated on a FRESH rule object -- accepts. -/
theorem c19_truthful {R Re : Type} (env : Env R Re) (s : State R Re) (qs : List Query) (sched : List Ev)
    (hs : SInv env s) :
    ∀ t ∈ (Config.run env ⟨s, qs.map Thread.init⟩ sched).threads, t.pc = .done → ∀ e ∈ t.acc,
      match e.1 with
      | .st src idx => env.truth idx = some e.2 ∧ env.wants src e.2 = true ∧
          env.verdict src e.2 (env.reqOf t.q) = true
      | .seq k => env.resident[k]? = some e.2 ∧ env.mtch e.2 (env.reqOf t.q) = true := by
  have h := run_init_sound s qs sched hs
  intro t ht hd e he
  exact (sound_answer (h.2 t ht).1.1 (h.2 t ht).2 hd).2.2 e he

/-- The threads of a history are the runs of its queries, in order. -/
theorem c19_history_queries {R Re : Type} (env : Env R Re) (h : List HEv) :
    ∀ (s : State R Re), (runHistoryT env s h).2.map (·.q) = queriesOf h := by
  induction h with
  | nil => intro s; rfl
  | cons e rest ih =>
    intro s
    cases e with
    | query q => simp only [runHistoryT, queriesOf, List.map_cons, runQuery_q, ih]
    | close l => simp only [runHistoryT, queriesOf, ih]

/-- Never lie, sequential form: for every history with `close` events at any points (fault before
    query k for any k, several faults, any lists), answer i is contained in `pureAnswer` of query i
    (host part: in `pureHosts`). -/
theorem c19_subset_history {R Re : Type} (env : Env R Re) (h : List HEv) :
    ∀ (s : State R Re), SInv env s →
      (runHistory env s h).2.length = (queriesOf h).length ∧
      ∀ p ∈ (runHistory env s h).2.zip (queriesOf h),
        (∀ r ∈ p.1.1, r ∈ (pureAnswer env p.2).1) ∧ (∀ r ∈ p.1.2, r ∈ pureHosts env (env.reqOf p.2)) := by
  intro s hs
  have hall := (runHistoryT_forall env (SInv env)
    (fun t => (∀ r ∈ t.answer.1, r ∈ (pureAnswer env t.q).1) ∧ ∀ r ∈ t.answer.2, r ∈ pureHosts env (env.reqOf t.q))
    (fun _ _ h => h)
    (fun s q hs => ⟨(runQuery_good q hs).1,
      have ha := sound_answer (runQuery_good q hs).2.1.1 (runQuery_sound q hs) (runQuery_good q hs).2.2
      ⟨ha.1, ha.2.1⟩⟩) h s hs).2
  simp only [runHistory, ← c19_history_queries env h s, List.length_map, true_and, List.zip_map']
  intro p hp
  obtain ⟨t, ht, rfl⟩ := List.mem_map.1 hp
  exact hall t ht

/-- Rules already materialised continue to be served: if `(idx, r)` is in the cache when a query
    starts, `idx` is one of its network-table candidates, `r` is of the wanted kind and matches the request
    (as a fresh object), then `r` is in the answer -- whatever lists are closed and whatever the lazy-compile
    cells hold. -/
theorem c19_cached {R Re : Type} (env : Env R Re) (s : State R Re) (q : Query) (b : Bool) (idx : Idx) (r : R)
    (hs : SInv env s) (hq : q.trivial = false) (hin : (idx, r) ∈ s.cache)
    (hcand : (b, idx) ∈ env.cands (env.reqOf q)) (hw : env.wants (if b then .sc else .dom) r = true)
    (hm : env.mtch r (env.reqOf q) = true) : r ∈ (runQuery env s q).2.answer.1 :=
  runQuery_cached q hs hq hin hcand hw hm

/-- …and the host rules: if `(idx, r)` is in the cache when a DNS query starts, `idx` is in the hosts-table bucket
    of the name, `r` is a host rule naming it, and the (possibly degraded) network rules of the answer leave the
    decision to the hosts table (`GetDNSBasicRule` finds nothing), then `r` is among the returned host rules --
    whatever lists are closed: an unreadable entry of the bucket is SKIPPED, the scan does not stop at it. -/
theorem c19_cached_host {R Re : Type} (env : Env R Re) (s : State R Re) (d : DReq) (idx : Idx) (r : R)
    (hs : SInv env s) (hq : d.hostname.isEmpty = false) (hin : (idx, r) ∈ s.cache)
    (hcand : idx ∈ env.hcands (env.reqOf (.dns d))) (hw : env.wants .host r = true)
    (hm : env.pre r (env.reqOf (.dns d)) = true)
    (hb : env.basic (runQuery env s (.dns d)).2.answer.1 = false) :
    r ∈ (runQuery env s (.dns d)).2.answer.2 :=
  runQuery_cached_host d hs hq hin hcand hw hm hb

/-- The cache survives faults and later queries: an entry present before any suffix of a history
    (queries and `close` events) is still found afterwards; together with `c19_cached` (applied at the
    state before query i) this is "rules retrieved before k are still returned". -/
theorem c19_cache_persists {R Re : Type} (env : Env R Re) (h : List HEv) :
    ∀ (s : State R Re) (idx : Idx), (cacheLookup s.cache idx).isSome →
      (cacheLookup (runHistory env s h).1.cache idx).isSome :=
  fun s idx hl => (runHistoryT_forall env (fun s => (cacheLookup s.cache idx).isSome) (fun _ => True) (fun _ _ h => h)
    (fun s q hl => ⟨runQuery_inv env (fun s' _ => (cacheLookup s'.cache idx).isSome)
      (fun _ _ _ _ h hp => h.lookup_isSome idx hp) s q hl, trivial⟩) h s hl).1

/-- Non-vacuity: list 1 is closed after the first query; the rule of index 10 (list 1) was retrieved
    before and is still served, the rule of index 11 (same list, never retrieved) is lost, the rule of
    list 2 is still read: the degraded answer `[7, 9]` is a strict part of `[7, 8, 9]`; no crash. -/
example :
    let env : Env Nat Nat :=
      { truth := fun i => if i == 10 then some 7 else if i == 11 then some 8 else if i == 20 then some 9 else none,
        listOf := fun i => if i == 20 then 2 else 1, etld1 := id,
        cands := fun req => if req.hostname == lit "a" then [(true, 10)] else [(true, 10), (false, 11), (true, 20)],
        hcands := fun _ => [], basic := fun _ => false, wants := fun _ _ => true, pre := fun _ _ => true,
        compile := fun _ => .re 0, accepts := fun _ _ _ => true, resident := [] }
    (runHistory env {} [.query (.web { hostname := lit "a" }), .close 1, .query (.web { hostname := lit "b" })]).2 =
        [([7], []), ([7, 9], [])] ∧
    pureAnswer env (.web { hostname := lit "b" }) = ([7, 8, 9], []) := by decide +kernel

/-- Non-vacuity of the host part: the blocking network rule (index 10, list 1) is unreadable after the
    close, so `MatchRequest` falls through to the hosts table and returns the host rule 5 -- which the
    fault-free answer `([7], [])` does not contain, and `pureHosts` does. -/
example :
    let env : Env Nat Nat :=
      { truth := fun i => if i == 10 then some 7 else if i == 50 then some 5 else none,
        listOf := fun i => if i == 10 then 1 else 2, etld1 := id,
        cands := fun _ => [(true, 10)], hcands := fun _ => [50], basic := fun nrs => !nrs.isEmpty,
        wants := fun _ _ => true, pre := fun _ _ => true,
        compile := fun _ => .re 0, accepts := fun _ _ _ => true, resident := [] }
    let q : Query := .dns { hostname := lit "a" }
    (runHistory env {} [.close 1, .query q]).2 = [([], [5])] ∧ pureAnswer env q = ([7], []) ∧
      pureHosts env (env.reqOf q) = [5] := by decide +kernel

end UF.C19
