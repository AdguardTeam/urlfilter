import UF.Compose2.ParseFields
import UF.Props.C10
/-
  C10 on the complete parser: with `loadDNSRewrite` instantiated by `H.loadDNSRewrite`, every rule the
  complete model of `NewNetworkRule` / `NewRule` produces carries a `$dnsrewrite` of the published shape,
  for every rule text and every `netip` oracle.
-/
namespace UF.C10
open UF Bytes UF.I2

/-- The `DNSRewrite` of a parsed network rule is a value `loadDNSRewrite` accepted … -/
theorem c10_full_from (ext : Ext) (reShortcut : Bytes → Bytes) (t : Bytes) (id : Int) (r : NetRule)
    (rw : DnsRewrite) (h : parseNetRuleFull ext reShortcut t id = .ok r) (hrw : r.rewrite = some rw) :
    ∃ v, H.loadDNSRewrite ext v = .ok rw := by
  obtain ⟨v, hv⟩ := parseNetRule_rewriteFrom h rw hrw
  exact ⟨v, (rewriteParam_some_iff ext v rw).1 hv⟩

/-- … hence has the published shape (`c10`). -/
theorem c10_full (ext : Ext) (reShortcut : Bytes → Bytes) (t : Bytes) (id : Int) (r : NetRule)
    (rw : DnsRewrite) (h : parseNetRuleFull ext reShortcut t id = .ok r) (hrw : r.rewrite = some rw) :
    H.shapeOK rw = true := by
  obtain ⟨v, hv⟩ := c10_full_from ext reShortcut t id r rw h hrw
  exact H.c10 ext v rw hv

/-- The same for whatever `rules.NewRule` yields from a list line. -/
theorem c10_full_newRule (ext : Ext) (reShortcut : Bytes → Bytes) (line : Bytes) (id : Int) (r : NetRule)
    (rw : DnsRewrite) (h : newRuleFull ext reShortcut line id = .ok (some (.net r)))
    (hrw : r.rewrite = some rw) : H.shapeOK rw = true := by
  rcases E.newRule_ok_elim h with ⟨c, hc, _⟩ | ⟨hr, hh, _⟩ | ⟨n, hn, hp⟩
  · cases hc
  · cases hh
  · cases hn
    exact c10_full ext reShortcut _ id r rw hp hrw

/-! ### Non-vacuity -/

private def exExt : Ext :=
  { psl := fun _ => ([], false),
    parseAddr := fun s => if s == lit "1.2.3.4" then some { is4 := true, val := 16909060 } else none,
    parsePrefix := fun _ => none, pat := fun _ _ _ => false }

example : (match parseNetRuleFull exExt (fun _ => []) (lit "||example.org^$dnsrewrite=NOERROR;A;1.2.3.4") 1 with
    | .ok r => r.rewrite.map (fun rw => (rw.rcode, rw.rrType, H.shapeOK rw))
    | .error _ => none) = some (0, 1, true) := by decide +kernel

example : (match parseNetRuleFull exExt (fun _ => []) (lit "||example.org^$dnsrewrite=NOERROR;MX;65536 mail.example.org") 1 with
    | .error .err => true | _ => false) = true := by decide +kernel

end UF.C10
