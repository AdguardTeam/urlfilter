import UF.Props.C05Full
/-
  C05 / regexp model: Go's `regexp/syntax` does not compile the textbook reading of
  a case-sensitive expression in which an alternation has adjacent branches whose leading one-rune
  literals are equal up to case, one of them case-folded (`[aA]` is pushed as `(?i:A)`): round 2 of
  `parser.factor` merges them with `Regexp.Equal`, which ignores the fold flag, and keeps the node of the
  first.  `parseRE` answers with GO's tree (`goTree`, UF/Model/RegexQuirk.lean: a replay of the
  parser's factoring that rewrites the fold flags of the leaves of the written tree).

  Here: the compiled expression is the WRITTEN expression up to the fold flags of its leaves
  (`c05_compiled_written`), it is exactly the written one when the expression has no source of folded
  literals (`c05_compiled_textbook`), the literals `requiredRegexpLiterals` collects are required by the
  written expression under ANY assignment of fold flags (`c05_required_any_flags` — the reason why the
  quirk cannot make the shortcut test reject an accepted URL, in the model and in Go alike), and the
  witnesses with Go's answers (`c05_quirk_witnesses`).
-/
namespace UF.C05
open UF Bytes Re UF.I2

/-- The text a case-sensitive compile parses: `parseRE` strips a leading `(?i)`. -/
def writtenText (t : Bytes) : Bytes := if hasPrefix t ciPrefix then t.drop 4 else t

/-- Whatever `parseRE` answers is the written expression (the textbook tree `parseCore` of the text)
    up to the fold flags of its leaves (`FoldRel`: same shape; a literal keeps its bytes, a class keeps
    its ranges or is the literal `parser.push` makes of it). -/
theorem c05_compiled_written (t : Bytes) (c : Re) (h : parseRE t = some c) :
    ∃ w, parseCore (writtenText t) = some w ∧ FoldRel w c := by
  unfold parseRE at h
  unfold writtenText
  split at h <;> rename_i hci
  · obtain ⟨w, hw, rfl⟩ := Option.map_eq_some_iff.1 h
    exact ⟨w, by rw [if_pos hci, hw], FoldRel.foldCase w⟩
  · obtain ⟨w, hw, hg⟩ := Option.bind_eq_some_iff.1 h
    exact ⟨w, by rw [if_neg hci, hw], FoldRel.goTree hg⟩

/-- Without a source of case-folded literals (no class of the two cases of a letter, no alternation of
    single characters that is one) the compiled case-sensitive expression IS the written one. -/
theorem c05_compiled_textbook (t : Bytes) (w : Re) (hci : hasPrefix t ciPrefix = false)
    (hp : parseCore t = some w) (hz : w.hazard = false) : parseRE t = some w := by
  unfold parseRE
  rw [if_neg (by rw [hci]; exact Bool.false_ne_true), hp, Option.bind_some]
  exact goTree_of_not_hazard t w hz

/-- With the `(?i)` prefix (every rule without `$match-case`) the compiled expression is the written
    one with every fold flag set: the quirk cannot arise. -/
theorem c05_compiled_ci (t : Bytes) : parseRE (ciPrefix ++ t) = (parseCore t).map foldCase :=
  parseRE_ci t

/-- The formal reason why Go's quirk is harmless for C05: the literals Go's `requiredRegexpLiterals`
    collects from the text (`goReq`, with Go's own flag-blind factoring) are factors of the lower-cased
    subject of every match of the written expression under ANY assignment of fold flags to its leaves —
    in particular under the one `parser.factor` leaves behind. -/
theorem c05_required_any_flags (w c : Re) (u : Bytes) (hrel : FoldRel w c) (h : search c u = true) :
    ∀ l ∈ goReq w, hasSub (toLower u) l = true :=
  goReq_search hrel h

/-- Witnesses of the divergence, with Go's answers (`$match-case`), and the textbook answers without
    `$match-case`. -/
theorem c05_quirk_witnesses :
    modelPat (lit "/A.|[aA]/") true (lit "http://x.com/a") = some false ∧
    modelPat (lit "/[aA]b|A./") true (lit "http://h/ax") = some true ∧
    modelPat (lit "/A[^a]|[Aa]a/") true (lit "aa") = some false ∧
    modelPat (lit "/A.|[aA]/") false (lit "http://x.com/a") = some true ∧
    modelPat (lit "/[aA]b|A./") false (lit "http://h/ax") = some true := by
  refine ⟨by decide +kernel, ?_, by decide +kernel, by decide +kernel, by decide +kernel⟩
  have ht : regexRuleText (lit "/[aA]b|A./") true = lit "[aA]b|A." := by decide +kernel
  exact (modelPat_of_parse (by decide +kernel) (by decide +kernel) (ht ▸ parseRE_quirk_vector)).trans
    (by decide +kernel)

/-- … the required literals of the text-level shortcut model follow Go's tree: for the written tree of
    `A.|[aA]` (compiled as `A(?:.|(?:))`) the literal `a` is required, the heuristics' candidate `A` is
    selected, and `loadShortcut` drops the one-character shortcut (so the rule has no shortcut). -/
theorem c05_quirk_required :
    goReq (.alt (.cat (.lit [65] false) .any) (.cls false [(97, 97), (65, 65)] false)) = [lit "a"] ∧
    pickLongest (regexParts (lit "A.|[aA]")) [lit "a"] = lit "A" ∧ loadShortcut (lit "A") = [] := by
  refine ⟨?_, by decide +kernel, by decide⟩
  rw [goReq_alt, goItems_cat, goItems_lit, goItems_any,
    goBranches_nonalt _ (by intro a b h; cases h), goItems_cls]
  decide +kernel

/-! ### Non-vacuity -/

/-- `c05_compiled_written` on a witness: the written tree is `A.|[aA]`, the compiled one has the class
    replaced by the case-sensitive literal `A`. -/
example : parseCore (lit "A.|[aA]") = some (.alt (.cat (.lit [65] false) .any) (.cls false [(97, 97), (65, 65)] false)) ∧
    parseRE (lit "A.|[aA]") = some (.alt (.cat (.lit [65] false) .any) (.lit [65] false)) := by
  decide +kernel

/-- … and on `[aA]b|A.`: the case-sensitive `A` of the second branch is compiled case-folded. -/
example : parseRE (lit "[aA]b|A.") =
    some (.alt (.cat (.cls false [(97, 97), (65, 65)] false) (.lit [98] false)) (.cat (.lit [65] true) .any)) :=
  parseRE_quirk_vector

/-- `c05_compiled_textbook` applies to an ordinary `$match-case` expression. -/
example : (parseCore (lit "ads(foo|bar)[0-9]+")).map hazard = some false := by decide +kernel

/-- `c05_regex_text` on a quirk input: the accepted URL contains the shortcut `banner`, and the URL the
    textbook reading would accept (`…bannera`) is NOT accepted (as in Go). -/
example :
    modelPat (lit "/bannerA.|banner[aA]/") true (lit "http://x.com/bannerAx") = some true ∧
    hasSub (toLower (lit "http://x.com/bannerAx")) (loadShortcut (lit "banner")) = true ∧
    modelPat (lit "/bannerA.|banner[aA]/") true (lit "http://x.com/bannera") = some false := by
  decide +kernel

/-- Outside the modelled domain: a non-capturing group next to a source of folded literals. -/
example : parseRE (lit "X(?:A.)|[xX]y") = none ∧ parseRE (lit "X(?:A.)|xy") ≠ none := by decide +kernel

end UF.C05
