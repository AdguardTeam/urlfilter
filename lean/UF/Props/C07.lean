import UF.Spec.Priority
import UF.Proofs.Priority
import UF.Proofs.PriorityExamples
/-
  C07 — rule priority is a strict weak order; the winner is never outranked.
  Every theorem is about ALL rule records (any masks, any lists), not about a pool.

  `$redirect` is read by `IsHigherPriority` but cannot be set from rule text on this tree
  (`loadOption` has no case for it); the model carries the bit and the theorems cover it.
-/
namespace UF.C07
open UF

/-- The model of `IsHigherPriority` is "greater" in the lexicographic order of
    `key r = (class, $redirect, domain-specific, number of modifiers)`. -/
theorem higher_iff (a b : NetRule) : isHigherPriority a b = true ↔ (pkey a).gt (pkey b) :=
  higher_iff_key a b

/-- No rule outranks itself. -/
theorem c07_irrefl (a : NetRule) : isHigherPriority a a = false := by
  rw [higher_false_iff]; exact PKey.gt_irrefl _

/-- Two rules never outrank each other. -/
theorem c07_asymm (a b : NetRule) (h : isHigherPriority a b = true) : isHigherPriority b a = false := by
  rw [higher_false_iff]; exact PKey.gt_asymm _ _ ((higher_iff a b).mp h)

/-- The relation is transitive. -/
theorem c07_trans (a b c : NetRule) (h1 : isHigherPriority a b = true) (h2 : isHigherPriority b c = true) :
    isHigherPriority a c = true := by
  rw [higher_iff] at *; exact PKey.gt_trans _ _ _ h1 h2

/-- Ties are transitive: if neither of `a, b` outranks the other and neither of `b, c`, then
    neither of `a, c`. -/
theorem c07_incomp_trans (a b c : NetRule)
    (hab : isHigherPriority a b = false) (hba : isHigherPriority b a = false)
    (hbc : isHigherPriority b c = false) (hcb : isHigherPriority c b = false) :
    isHigherPriority a c = false ∧ isHigherPriority c a = false := by
  simp only [higher_false_iff] at *
  exact PKey.incomp_trans _ _ _ hab hba hbc hcb

/-- Ties are exactly "same key": consistent with the documented criteria. -/
theorem c07_tie_iff (a b : NetRule) :
    (isHigherPriority a b = false ∧ isHigherPriority b a = false) ↔ pkey a = pkey b := by
  rw [higher_false_iff, higher_false_iff]
  constructor
  · intro ⟨h1, h2⟩; exact PKey.incomp_eq _ _ h1 h2
  · intro h; rw [h]; exact ⟨PKey.gt_irrefl _, PKey.gt_irrefl _⟩

/-- The verdict class decides first: a rule of a higher class outranks any rule of a lower one. -/
theorem c07_class_first (a b : NetRule) (h : classRank a > classRank b) : isHigherPriority a b = true := by
  rw [higher_iff]; exact Or.inl h

/-- Within a class (and equal `$redirect`), domain-specific beats generic. -/
theorem c07_specific_over_generic (a b : NetRule) (hc : classRank a = classRank b)
    (hr : a.redirect = b.redirect) (ha : a.isGeneric = false) (hb : b.isGeneric = true) :
    isHigherPriority a b = true := by
  rw [higher_iff]; unfold PKey.gt pkey; simp [hc, hr, ha, hb]

/-! #### adding a modifier makes the rule strictly higher than the original -/

/-- Enabling ANY option bit that is not yet set (`$important`, `$third-party`, `$popup`, …, also the
    unreachable `$redirect`) makes the rule strictly higher than the original. -/
theorem c07_add_option (r : NetRule) (k : Nat) (h : r.enabled.testBit k = false) :
    isHigherPriority { r with enabled := r.enabled ||| 2 ^ k } r = true := by
  rw [higher_iff]
  -- `$important` (bit 2) and `$redirect` (bit 18) can only be switched on, the count grows
  refine PKey.gt_of_le (classRank_mono rfl (isEnabled_or_mono _ k 2))
    (ite_one_zero_mono (isEnabled_or_mono _ k 18)) (Nat.le_refl _) ?_
  show modifierCount r < modifierCount { r with enabled := r.enabled ||| 2 ^ k }
  unfold modifierCount; simp only [popCount_or_two_pow k r.enabled h]; omega

/-- Disabling an option (`$~third-party`, `$~match-case`, …) that was not yet disabled. -/
theorem c07_add_disabled_option (r : NetRule) (k : Nat) (h : r.disabled.testBit k = false) :
    isHigherPriority { r with disabled := r.disabled ||| 2 ^ k } r = true := by
  refine higher_of_count _ _ (by rfl) (by rfl) (by rfl) ?_
  unfold modifierCount; simp only [popCount_or_two_pow k r.disabled h]; omega

/-- Adding a permitted content type (`$script`, `$image`, …) not yet listed. -/
theorem c07_add_content_type (r : NetRule) (k : Nat) (h : r.permTypes.testBit k = false) :
    isHigherPriority { r with permTypes := r.permTypes ||| 2 ^ k } r = true := by
  refine higher_of_count _ _ (by rfl) (by rfl) (by rfl) ?_
  unfold modifierCount; simp only [popCount_or_two_pow k r.permTypes h]; omega

/-- Adding a restricted content type (`$~script`, …) not yet listed. -/
theorem c07_add_restricted_content_type (r : NetRule) (k : Nat) (h : r.restrTypes.testBit k = false) :
    isHigherPriority { r with restrTypes := r.restrTypes ||| 2 ^ k } r = true := by
  refine higher_of_count _ _ (by rfl) (by rfl) (by rfl) ?_
  unfold modifierCount; simp only [popCount_or_two_pow k r.restrTypes h]; omega

/-- Adding `$domain=` with a permitted domain to a rule without permitted domains (the rule becomes
    domain-specific). -/
theorem c07_add_domain (r : NetRule) (ds : List Bytes) (h : r.permDomains = []) (hds : ds ≠ []) :
    isHigherPriority { r with permDomains := ds } r = true := by
  refine c07_specific_over_generic _ _ (by rfl) (by rfl) ?_ ?_
  · cases ds with
    | nil => exact absurd rfl hds
    | cons d ds => rfl
  · simp [NetRule.isGeneric, h]

/-- Adding `$domain=~…` (restricted domains only) to a rule without `$domain`. -/
theorem c07_add_restricted_domain (r : NetRule) (ds : List Bytes) (h1 : r.permDomains = [])
    (h2 : r.restrDomains = []) (hds : ds ≠ []) :
    isHigherPriority { r with restrDomains := ds } r = true := by
  refine higher_of_count _ _ (by rfl) (by rfl) (by rfl) ?_
  unfold modifierCount; simp only [length_bne_zero_of_ne_nil hds, h1, h2]; simp

/-- Adding `$dnstype=` (permitted or restricted) to a rule without `$dnstype`. -/
theorem c07_add_dnstype (r : NetRule) (p q : List Nat) (h1 : r.permDns = []) (h2 : r.restrDns = [])
    (hpq : p ≠ [] ∨ q ≠ []) :
    isHigherPriority { r with permDns := p, restrDns := q } r = true := by
  refine higher_of_count _ _ (by rfl) (by rfl) (by rfl) ?_
  unfold modifierCount; simp only [length_bne_zero_or hpq, h1, h2]; simp

/-- Adding `$ctag=` to a rule without `$ctag`. -/
theorem c07_add_ctag (r : NetRule) (p q : List Bytes) (h1 : r.permTags = []) (h2 : r.restrTags = [])
    (hpq : p ≠ [] ∨ q ≠ []) :
    isHigherPriority { r with permTags := p, restrTags := q } r = true := by
  refine higher_of_count _ _ (by rfl) (by rfl) (by rfl) ?_
  unfold modifierCount; simp only [length_bne_zero_or hpq, h1, h2]; simp

/-- Adding `$client=` to a rule without clients. -/
theorem c07_add_client (r : NetRule) (p q : Option Clients) (h1 : Clients.len r.permClients = 0)
    (h2 : Clients.len r.restrClients = 0) (hpq : Clients.len p ≠ 0 ∨ Clients.len q ≠ 0) :
    isHigherPriority { r with permClients := p, restrClients := q } r = true := by
  refine higher_of_count _ _ (by rfl) (by rfl) (by rfl) ?_
  have : (Clients.len p != 0 || Clients.len q != 0) = true := by
    rcases hpq with h | h <;> simp [h]
  unfold modifierCount; simp only [this, h1, h2]; simp

/-- Adding `$denyallow=` to a rule without it. -/
theorem c07_add_denyallow (r : NetRule) (ds : List Bytes) (h : r.denyallow = []) (hds : ds ≠ []) :
    isHigherPriority { r with denyallow := ds } r = true := by
  refine higher_of_count _ _ (by rfl) (by rfl) (by rfl) ?_
  unfold modifierCount; simp only [length_bne_zero_of_ne_nil hds, h]; simp

/-- Adding a modifier — of any kind — makes the rule strictly higher than the original (and, by
    `c07_asymm`, the original not higher than the new rule). -/
theorem c07_add_modifier (r r' : NetRule) (h : AddsModifier r r') :
    isHigherPriority r' r = true ∧ isHigherPriority r r' = false := by
  have key : isHigherPriority r' r = true := by
    cases h with
    | option k h => exact c07_add_option r k h
    | disabledOption k h => exact c07_add_disabled_option r k h
    | contentType k h => exact c07_add_content_type r k h
    | restrictedContentType k h => exact c07_add_restricted_content_type r k h
    | domain ds h hds => exact c07_add_domain r ds h hds
    | restrictedDomain ds h1 h2 hds => exact c07_add_restricted_domain r ds h1 h2 hds
    | dnstype p q h1 h2 hpq => exact c07_add_dnstype r p q h1 h2 hpq
    | ctag p q h1 h2 hpq => exact c07_add_ctag r p q h1 h2 hpq
    | client p q h1 h2 hpq => exact c07_add_client r p q h1 h2 hpq
    | denyallow ds h hds => exact c07_add_denyallow r ds h hds
  exact ⟨key, c07_asymm _ _ key⟩

/-! #### the selected rule -/

/-- The rule selected by the replace-if-higher scan is a candidate that no candidate outranks. -/
theorem c07_selected_maximal (rs : List NetRule) (w : NetRule) (h : selectBest rs = some w) :
    w ∈ rs ∧ ∀ r ∈ rs, isHigherPriority r w = false := by
  have := fold_max rs w h
  exact ⟨this.1, fun r hr => (higher_false_iff r w).mpr (this.2 r hr)⟩

/-- A non-empty candidate list always has a selected rule. -/
theorem c07_selected_exists (rs : List NetRule) (h : rs ≠ []) : ∃ w, selectBest rs = some w :=
  selectBest_isSome rs h

/-- For every permutation of the candidates the selected rule has the same key, i.e. it is the same
    up to ties. -/
theorem c07_perm (rs rs' : List NetRule) (h : rs.Perm rs') :
    (selectBest rs).map pkey = (selectBest rs').map pkey :=
  selectBest_key_congr rs rs' (fun _ => h.mem_iff)

/-- … and the two selected rules tie. -/
theorem c07_perm_tie (rs rs' : List NetRule) (h : rs.Perm rs') (w w' : NetRule)
    (hw : selectBest rs = some w) (hw' : selectBest rs' = some w') :
    isHigherPriority w w' = false ∧ isHigherPriority w' w = false := by
  have := c07_perm rs rs' h
  rw [hw, hw'] at this
  exact (c07_tie_iff w w').mpr (by simpa using this)

/-! #### generated-fact obligation (go/ast over the current rules/network.go) -/

/-- `IsHigherPriority` reads the same fields and calls the same methods on both operands (the D6
    defect read `permittedClients`, `restrictedClients`, `denyAllowDomains` from the receiver only). -/
theorem c07_fact_symmetric_reads : Facts.higherPriorityReadsF = Facts.higherPriorityReadsR := by decide +kernel

/-! #### non-vacuity and the old shape (D6) -/


/-- The repaired relation orders the D6 pair one way only; a three-element chain exists. -/
example : isHigherPriority exB exA = true ∧ isHigherPriority exA exB = false ∧
    isHigherPriority exA exC = true ∧ isHigherPriority exB exC = true ∧
    isHigherPriority exC exD = false ∧ isHigherPriority exD exC = false := by decide

/-- The pinned tree's shape (D6) is NOT asymmetric on the replay input of DESIGN §5: the two rules
    outrank each other … -/
example : isHigherPriorityOld exA exB = true ∧ isHigherPriorityOld exB exA = true := by decide

/-- … and `$client` is counted for the left operand only: `$dnstype=A` outranks `$client=a` although
    both carry one modifier. -/
example : isHigherPriorityOld exD exC = true ∧ isHigherPriorityOld exC exD = false ∧
    modifierCount exC = modifierCount exD := by decide

/-- `c07_add_modifier` is not vacuous: `$important` added to the D6 rule. -/
example : AddsModifier exA { exA with enabled := exA.enabled ||| 2 ^ 2 } := .option 2 (by decide)

/-- `selectBest` on a non-trivial list: the winner is the domain-specific rule in both orders. -/
example : selectBest [exA, exB, exC] = some exB ∧ selectBest [exC, exB, exA] = some exB := by decide

end UF.C07
