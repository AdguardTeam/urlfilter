import UF.Compose3.DnsTop
import UF.Compose2.Pat
import UF.Props.C06
import UF.Props.C09
import UF.Props.C13
import UF.Proofs.Lit
/-
  C02 AT THE TOP LEVEL: the full answer of `DNSEngine.MatchRequest(dReq)` and of `DNSResult.DNSRewrites()` from RAW
  inputs — the BYTES of the lists and the fields of `urlfilter.DNSRequest`.  Parameters left: the oracles in `px`;
  `io`, the cache history and the pooled request value are universally quantified.  Domain: `StorageOK lists`.
-/
namespace UF.C02
open UF UF.B UF.Storage UF.Compose UF.Compose3

/-- C02 FROM RAW INPUTS: for all list contents, ids, backings, cache histories, pooled request values and
    DNS request fields, the answer of `DNSEngine.MatchRequest` agrees componentwise (network rules as a set
    of texts, `NetworkRule` nil-ness and class, IPv4 / IPv6 host rules as sets, `matched`) with the reference
    computed by parsing the lists line by line and scanning all rules for the request that the DNS request
    fields ALONE describe. -/
theorem c02_top (io : IO) (px : E.ParseExt) (lists : List RList) (hok : StorageOK lists)
    (st : RuleStorage) (hnew : newRuleStorage lists = some st) (history : List (BitVec 64))
    (old : Request) (d : DReq) :
    DnsResult.Equiv (dnsEngineMatchRequest io px lists st history old d) (specDnsTop px lists d) := by
  unfold dnsEngineMatchRequest specDnsTop dnsRequestOf
  rw [C13.fill_overwrites (etld1Of px.ext) old d]
  exact c02_storage io px lists hok st hnew history _

/-- No per-request data survives in the pool (C13 at the top level): the answer does not depend on the
    pooled request value at all — EQUAL results, not only equivalent ones. -/
theorem c02_top_pool (io : IO) (px : E.ParseExt) (lists : List RList) (st : RuleStorage)
    (history : List (BitVec 64)) (old old' : Request) (d : DReq) :
    dnsEngineMatchRequest io px lists st history old d = dnsEngineMatchRequest io px lists st history old' d := by
  unfold dnsEngineMatchRequest dnsRequestOf
  rw [C13.fill_overwrites (etld1Of px.ext) old d, C13.fill_overwrites (etld1Of px.ext) old' d]

/-- The request the engine matches (C17 at the top level): the URL is `http://` + hostname, the type is
    `document`, it is a hostname request, never third-party, the client data are the DNS request's, no source;
    and it is what `H.fillRequestForHostname` returns for the cleared pooled request. -/
theorem c02_top_request (ext : Ext) (old : Request) (d : DReq) :
    dnsRequestOf ext old d =
      { url := lit "http://" ++ d.hostname, urlLower := lit "http://" ++ d.hostname, hostname := d.hostname,
        domain := if etld1Of ext d.hostname != [] then etld1Of ext d.hostname else d.hostname,
        sourceURL := [], sourceHostname := [], sourceDomain := [],
        sortedTags := d.sortedTags, reqType := Facts.TypeDocument, dnsType := d.dnsType,
        thirdParty := false, isHostnameRequest := true, clientName := d.clientName, clientIP := d.clientIP } ∧
    H.fillRequestForHostname ext
        { old with sourceDomain := [], sourceHostname := [], sourceURL := [], sortedTags := d.sortedTags,
                   clientIP := d.clientIP, clientName := d.clientName, dnsType := d.dnsType } d.hostname =
      .ok (dnsRequestOf ext old d) ∧
    H.effectiveTLDPlusOne ext d.hostname = .ok (etld1Of ext d.hostname) := by
  refine ⟨dnsRequestOf_closed ext old d, ?_, ?_⟩
  · rw [fill_bridge]; rfl
  · obtain ⟨e, he⟩ := H.effectiveTLDPlusOne_ok ext d.hostname
    unfold etld1Of; rw [he]

/-- The verdict class of the answer is the documented precedence (C06) over the DNS-applicable network
    rules of the lines that match the hostname request. -/
theorem c02_top_class (io : IO) (px : E.ParseExt) (lists : List RList) (hok : StorageOK lists)
    (st : RuleStorage) (hnew : newRuleStorage lists = some st) (history : List (BitVec 64))
    (old : Request) (d : DReq) (hd : d.hostname ≠ []) :
    classOf (dnsEngineMatchRequest io px lists st history old d).networkRule =
      classDns (dnsMatchingLines px lists d) := by
  have h := c02_storage_class io px lists hok st hnew history (dnsRequestOf px.ext default d)
    (dnsRequestOf_hostname_isEmpty px.ext default d hd)
  have hcls : ∀ x y : Option NetRule, x.map netCls = y.map netCls → classOf x = classOf y := by
    intro x y hxy
    cases x <;> cases y <;> simp [netCls] at hxy <;> simp [classOf, hxy]
  rw [c02_top_pool io px lists st history old default d]
  unfold dnsEngineMatchRequest
  rw [hcls _ _ h]
  apply C06.c06_dns
  intro r hr
  exact allNet_noReplace (List.mem_filter.1 hr).1

/-- The network rules of the answer and of the reference agree up to order, multiplicities and list ids. -/
theorem c02_top_networkRules (io : IO) (px : E.ParseExt) (lists : List RList) (hok : StorageOK lists)
    (st : RuleStorage) (hnew : newRuleStorage lists = some st) (history : List (BitVec 64))
    (old : Request) (d : DReq) :
    (∀ r ∈ (dnsEngineMatchRequest io px lists st history old d).networkRules,
      ∃ r' ∈ (specDnsTop px lists d).networkRules, ({ r with listID := 0 } : NetRule) = { r' with listID := 0 }) ∧
    (∀ r' ∈ (specDnsTop px lists d).networkRules,
      ∃ r ∈ (dnsEngineMatchRequest io px lists st history old d).networkRules,
        ({ r with listID := 0 } : NetRule) = { r' with listID := 0 }) := by
  apply listsAgree_of_texts (allNet_textDet px lists)
  · exact dnsEngine_networkRules_sub io px lists hok st hnew history _
  · intro r hr
    unfold specDnsTop specDns at hr
    split at hr
    · cases hr
    · simp only at hr
      split at hr <;> exact (List.mem_filter.1 hr).1
  · exact (c02_top io px lists hok st hnew history old d).1

/-- `DNSRewrites()` FROM RAW INPUTS (C09 composed): it does not crash, and the effective rewrites are — up to
    order, multiplicities and list ids — the reference of C09 (non-exception `$dnsrewrite` rules that are not
    `$badfilter`-disabled and that no effective exception disables) over the network rules of the reference
    answer, i.e. over the DNS-applicable lines that match the hostname request. -/
theorem c02_top_rewrites (io : IO) (px : E.ParseExt) (lists : List RList) (hok : StorageOK lists)
    (st : RuleStorage) (hnew : newRuleStorage lists = some st) (history : List (BitVec 64))
    (old : Request) (d : DReq) :
    ∃ out, dnsEffectiveRewrites (dnsEngineMatchRequest io px lists st history old d) = some out ∧
      out = specRewrites (dnsRewritesAll (dnsEngineMatchRequest io px lists st history old d).networkRules) ∧
      (∀ t, t ∈ out.map (·.text) ↔
        t ∈ (specRewrites (dnsRewritesAll (specDnsTop px lists d).networkRules)).map (·.text)) := by
  refine ⟨_, C09.c09 _, rfl, ?_⟩
  have h := c02_top_networkRules io px lists hok st hnew history old d
  exact texts_of_agree (specRewrites_agree ⟨h.1, h.2⟩)

/-- … with the reference's network rules spelled out for a non-empty hostname. -/
theorem c02_top_rewrites_lines (io : IO) (px : E.ParseExt) (lists : List RList) (hok : StorageOK lists)
    (st : RuleStorage) (hnew : newRuleStorage lists = some st) (history : List (BitVec 64))
    (old : Request) (d : DReq) (hd : d.hostname ≠ []) :
    ∃ out, dnsEffectiveRewrites (dnsEngineMatchRequest io px lists st history old d) = some out ∧
      (∀ t, t ∈ out.map (·.text) ↔
        t ∈ (specRewrites (dnsRewritesAll (dnsMatchingLines px lists d))).map (·.text)) := by
  obtain ⟨out, h1, _, h3⟩ := c02_top_rewrites io px lists hok st hnew history old d
  rw [specDnsTop_networkRules px lists d hd] at h3
  exact ⟨out, h1, h3⟩

/-- Host rules are reported only when no network rule decided: with a deciding network rule both host lists are
    empty and `matched` is true. -/
theorem c02_top_hosts_only_without_basic (io : IO) (px : E.ParseExt) (lists : List RList) (st : RuleStorage)
    (history : List (BitVec 64)) (old : Request) (d : DReq)
    (h : (dnsEngineMatchRequest io px lists st history old d).networkRule ≠ none) :
    (dnsEngineMatchRequest io px lists st history old d).v4 = [] ∧
    (dnsEngineMatchRequest io px lists st history old d).v6 = [] ∧
    (dnsEngineMatchRequest io px lists st history old d).matched = true := by
  exact matchRequest_hosts_only _ _ _ _ _ _ _ h

/-! ### Non-vacuity: a storage with a `$dnsrewrite` rule, an exception for another value, a `$client` rule and
    a hosts line; the composed model is computed from the raw DNS request fields. -/

private def exRw (v : Nat) : DnsRewrite := { rcode := 0, rrType := 1, value := .addr ⟨true, v, []⟩ }

private def exPx : E.ParseExt :=
  { ext := { psl := fun _ => (lit "org", true),
             parseAddr := fun s => if s == lit "0.0.0.0" then some ⟨true, 0, []⟩ else none,
             parsePrefix := fun _ => none, pat := I2.modelPatD },
    loadDNSRewrite := fun v => if v == lit "1.2.3.4" then some (exRw 16909060)
      else if v == lit "1.2.3.5" then some (exRw 16909061) else none,
    regexpShortcut := fun _ => [] }

private def exLists : List RList :=
  [⟨1, false, lit "||b.org^$dnsrewrite=1.2.3.4\r\n||b.org^$dnsrewrite=1.2.3.5\n0.0.0.0 b.org\n", false⟩,
   ⟨7, false, lit "@@||b.org^$dnsrewrite=1.2.3.5\n||c.org^$client=laptop\n", false⟩]

example : StorageOK exLists := by
  unfold exLists
  rw [lit_ofList, lit_ofList]
  exact ⟨by decide +kernel, by decide +kernel, by decide +kernel⟩

example :
    let res := dnsEngineMatchRequest ⟨4096, fun _ => 1⟩ exPx exLists ⟨exLists, []⟩ []
      { url := lit "stale", clientName := lit "someone-else" } { hostname := lit "b.org", dnsType := 1 }
    res.networkRule = none ∧ res.v4.map (·.text) = [lit "0.0.0.0 b.org"] ∧ res.matched = true ∧
    (dnsEffectiveRewrites res).map (fun l => l.map (·.text)) = some [lit "||b.org^$dnsrewrite=1.2.3.4"] := by
  unfold exLists
  rw [lit_ofList, lit_ofList, lit_ofList, lit_ofList, lit_ofList, lit_ofList, lit_ofList]
  decide +kernel

example :
    let res (name : Bytes) := dnsEngineMatchRequest ⟨4096, fun _ => 1⟩ exPx exLists ⟨exLists, []⟩ []
      { clientName := lit "laptop" } { hostname := lit "c.org", dnsType := 1, clientName := name }
    (res (lit "laptop")).networkRule.map (·.text) = some (lit "||c.org^$client=laptop") ∧
    (res (lit "phone")).networkRule = none ∧ (res (lit "phone")).matched = false := by
  unfold exLists
  rw [lit_ofList, lit_ofList, lit_ofList, lit_ofList, lit_ofList, lit_ofList]
  decide +kernel

end UF.C02
