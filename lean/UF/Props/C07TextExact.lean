import UF.Compose5.DnsKnown
import UF.Props.C07Text
/-
  C07 at text level, the cases in which an appended modifier does not simply make the rule higher, for all rule
  texts of the grammar extended by `~extension` (`XMod`, `renderX`: UF/Compose5/GrammarX.lean): `,document`,
  `,~extension`, a modifier the rule already carries, a list-valued modifier written again, one more value in a
  list-valued modifier (at any position).  `c07_text_key` is the master statement: `IsHigherPriority` of two parsed
  texts is the comparison of two keys computed from the modifiers as written (`textKey`: no parser, no oracle).
  Together with Props/C07Text.lean every appended modifier of the grammar is characterised; a decided example for
  each boundary, through the complete parser model, at the end.
-/
namespace UF.C07
open UF Bytes UF.L

/-- The extended rendering is `render` on plain `Mod`s. -/
theorem c07_text_renderX_base (wl : Bool) (pat : Bytes) (ms : List Mod) :
    renderX wl pat (ms.map .base) = render wl pat ms :=
  renderX_base wl pat ms

/-- THE MASTER STATEMENT.  For any two rule texts of the (extended) grammar — any patterns, any exception flags,
    any modifier lists — whatever `NewNetworkRule` accepts for them compares under `IsHigherPriority` as the
    keys of the two TEXTS compare: `textKey` folds the modifiers as written into (class, `$redirect`,
    domain-specific, number of counted modifiers). -/
theorem c07_text_key (px : E.ParseExt) (wl wl' : Bool) (pat pat' : Bytes) (xs xs' : List XMod) (id id' : Int)
    (r r' : NetRule) (hp : patOK pat = true) (hp' : patOK pat' = true)
    (hm : ∀ x ∈ xs, x.valsOK = true) (hm' : ∀ x ∈ xs', x.valsOK = true)
    (h : E.parseNetRule px (renderX wl pat xs) id = .ok r)
    (h' : E.parseNetRule px (renderX wl' pat' xs') id' = .ok r') :
    isHigherPriority r' r = decide ((textKey wl' xs').gt (textKey wl xs)) := by
  apply Bool.eq_iff_iff.2
  rw [higher_iff_key, pkey_parseX hp hm h, pkey_parseX hp' hm' h', decide_eq_true_eq]

/-- `,document` APPENDED.  With `n` = the number of permitted content types the rule counts (`document` alone
    on a document-only rule) and `d` = how many of the five bits of `$document` (elemhide, jsinject, urlblock,
    content, extension) it already has, the new rule is strictly higher iff `n + d < 6`, strictly LOWER iff
    `n + d > 6`, and the two tie iff `n + d = 6`. -/
theorem c07_text_document_iff (px : E.ParseExt) (wl : Bool) (pat : Bytes) (xs : List XMod) (id id' : Int)
    (r r' : NetRule) (hp : patOK pat = true) (hm : ∀ x ∈ xs ++ [.base .document], x.valsOK = true)
    (h : E.parseNetRule px (renderX wl pat xs) id = .ok r)
    (h' : E.parseNetRule px (renderX wl pat (xs ++ [.base .document])) id' = .ok r') :
    isHigherPriority r' r = decide (popCount r.permTypes + popCount (r.enabled &&& docBits) < 6) ∧
    isHigherPriority r r' = decide (popCount r.permTypes + popCount (r.enabled &&& docBits) > 6) := by
  obtain ⟨R, _, e, e'⟩ := append_x hp hm h h'
  have hpt : r.permTypes = (overrideDoc R).permTypes := (congrArg NetRule.permTypes e :)
  have hen : r.enabled = (overrideDoc R).enabled := (congrArg NetRule.enabled e :)
  have e2 : modFields r' = overrideDoc { R with enabled := R.enabled ||| docBits } := e'
  rw [higher_modFields r' r, higher_modFields r r', e, e2, hpt, hen]
  exact higher_of_counts (document_counts R)

/-- … on a rule WITHOUT document-only options: higher / tie / lower for fewer than / exactly / more than SIX
    permitted content types (`$script,image,media,font,other,ping,websocket,document` is LOWER than the same
    text without `,document`). -/
theorem c07_text_document_plain (px : E.ParseExt) (wl : Bool) (pat : Bytes) (xs : List XMod) (id id' : Int)
    (r r' : NetRule) (hp : patOK pat = true) (hm : ∀ x ∈ xs ++ [.base .document], x.valsOK = true)
    (h : E.parseNetRule px (renderX wl pat xs) id = .ok r)
    (h' : E.parseNetRule px (renderX wl pat (xs ++ [.base .document])) id' = .ok r')
    (hdoc : E.documentOnlyOptions.any (fun x => r.isEnabled x) = false) :
    isHigherPriority r' r = decide (popCount r.permTypes < 6) ∧
    isHigherPriority r r' = decide (popCount r.permTypes > 6) := by
  have key := c07_text_document_iff px wl pat xs id id' r r' hp hm h h'
  rw [and_docBits_of_not_docOnly hdoc, popCount_zero, Nat.add_zero] at key
  exact key

/-- … on a DOCUMENT-ONLY rule (`$elemhide`, `$popup`, `$document`, …): never lower; a tie exactly when all five
    bits of `$document` are already there (e.g. `$document,document`), strictly higher otherwise. -/
theorem c07_text_document_on_doc (px : E.ParseExt) (wl : Bool) (pat : Bytes) (xs : List XMod) (id id' : Int)
    (r r' : NetRule) (hp : patOK pat = true) (hm : ∀ x ∈ xs ++ [.base .document], x.valsOK = true)
    (h : E.parseNetRule px (renderX wl pat xs) id = .ok r)
    (h' : E.parseNetRule px (renderX wl pat (xs ++ [.base .document])) id' = .ok r')
    (hdoc : E.documentOnlyOptions.any (fun x => r.isEnabled x) = true) :
    isHigherPriority r' r = decide (popCount (r.enabled &&& docBits) < 5) ∧
    isHigherPriority r r' = false := by
  have key := c07_text_document_iff px wl pat xs id id' r r' hp hm h h'
  obtain ⟨R, _, e, _⟩ := append_x hp hm h h'
  have hd : docOnlyB R.enabled = true := by rw [← enabled_of_overrideDoc e]; exact hdoc
  have hpt := permTypes_of_docOnly e hd
  rw [hpt, show popCount Facts.TypeDocument = 1 by decide] at key
  have hle := popCount_and_le r.enabled docBits
  have h5 : popCount docBits = 5 := by decide
  constructor
  · rw [key.1]
    exact decide_eq_decide.2 (by omega)
  · rw [key.2]
    exact decide_eq_false (by omega)

/-- `,~extension` APPENDED toggles the `extension` bit.
    On a rule WITHOUT `extension` it sets the bit (a document-only option): higher / tie / lower for fewer than /
    exactly / more than two counted permitted content types of the ORIGINAL rule.
    On a rule WITH `extension` it removes the bit: the comparison is the mirror image, read off the NEW rule —
    lower / tie / higher for fewer than / exactly / more than two counted permitted content types of the new
    rule (which counts `document` alone, i.e. is lower, whenever another document-only option remains). -/
theorem c07_text_not_extension_iff (px : E.ParseExt) (wl : Bool) (pat : Bytes) (xs : List XMod) (id id' : Int)
    (r r' : NetRule) (hp : patOK pat = true) (hm : ∀ x ∈ xs ++ [.notExtension], x.valsOK = true)
    (h : E.parseNetRule px (renderX wl pat xs) id = .ok r)
    (h' : E.parseNetRule px (renderX wl pat (xs ++ [.notExtension])) id' = .ok r') :
    (r.isEnabled Facts.OptionExtension = false →
      isHigherPriority r' r = decide (popCount r.permTypes < 2) ∧
      isHigherPriority r r' = decide (popCount r.permTypes > 2)) ∧
    (r.isEnabled Facts.OptionExtension = true →
      isHigherPriority r' r = decide (popCount r'.permTypes > 2) ∧
      isHigherPriority r r' = decide (popCount r'.permTypes < 2)) := by
  obtain ⟨R, _, e, e'⟩ := append_x hp hm h h'
  have hbit : r.isEnabled Facts.OptionExtension = R.enabled.testBit 10 := by
    show ((r.enabled &&& 2 ^ 10) == 2 ^ 10) = _
    rw [and_two_pow_beq, enabled_of_overrideDoc e]
  have e2 : modFields r' = overrideDoc { R with enabled := R.enabled ^^^ 2 ^ 10 } := e'
  rw [hbit, higher_modFields r' r, higher_modFields r r', e, e2]
  constructor
  · intro hno
    rw [xor_pow_of_clear hno]
    rw [show r.permTypes = (overrideDoc R).permTypes from (congrArg NetRule.permTypes e :)]
    exact higher_of_counts (doconly_bit_counts R 10 (by decide) (by decide) (by decide) hno)
  · intro hyes
    obtain ⟨hclr, hback⟩ := xor_pow_of_set hyes
    -- the original rule is the new one with the bit set
    have c := doconly_bit_counts { R with enabled := R.enabled ^^^ 2 ^ 10 } 10 (by decide) (by decide) (by decide) hclr
    have hR : ({ R with enabled := (R.enabled ^^^ 2 ^ 10) ||| 2 ^ 10 } : NetRule) = R := by rw [hback]
    simp only [hR] at c
    rw [show r'.permTypes = (overrideDoc { R with enabled := R.enabled ^^^ 2 ^ 10 }).permTypes from
      (congrArg NetRule.permTypes e2 :)]
    have := higher_of_counts c
    exact ⟨this.2, this.1⟩

/-- In particular `$document,~extension` (or `$extension,elemhide,~extension`, …): on a rule that carries
    `extension` AND another document-only option, `,~extension` makes the rule strictly LOWER. -/
theorem c07_text_not_extension_lower (px : E.ParseExt) (wl : Bool) (pat : Bytes) (xs : List XMod) (id id' : Int)
    (r r' : NetRule) (hp : patOK pat = true) (hm : ∀ x ∈ xs ++ [.notExtension], x.valsOK = true)
    (h : E.parseNetRule px (renderX wl pat xs) id = .ok r)
    (h' : E.parseNetRule px (renderX wl pat (xs ++ [.notExtension])) id' = .ok r')
    (hext : r.isEnabled Facts.OptionExtension = true)
    (hother : (E.documentOnlyOptions.filter (· != Facts.OptionExtension)).any (fun x => r.isEnabled x) = true) :
    isHigherPriority r' r = false ∧ isHigherPriority r r' = true := by
  have key := (c07_text_not_extension_iff px wl pat xs id id' r r' hp hm h h').2 hext
  obtain ⟨R, _, e, e'⟩ := append_x hp hm h h'
  have e2 : modFields r' = overrideDoc { R with enabled := R.enabled ^^^ 2 ^ 10 } := e'
  -- another document-only bit stays set, so the new rule is document-only
  have hd : docOnlyB (R.enabled ^^^ 2 ^ 10) = true := by
    obtain ⟨o, ho, hen'⟩ := List.any_eq_true.1 hother
    obtain ⟨ho1, ho2⟩ := List.mem_filter.1 ho
    obtain ⟨hpow, hdo⟩ := docOnly_mem o ho1
    have hne : o.log2 ≠ 10 := fun h10 => by rw [hpow, h10] at ho2; exact absurd ho2 (by decide)
    rw [hpow] at hen' hdo
    refine docOnlyB_of_bit hdo ?_
    rw [Nat.testBit_xor, Nat.testBit_two_pow, decide_eq_false (Ne.symm hne), Bool.xor_false,
      ← enabled_of_overrideDoc e, ← and_two_pow_beq]
    exact hen'
  rw [permTypes_of_docOnly e2 hd] at key
  exact ⟨key.1.trans (by decide), key.2.trans (by decide)⟩

/-- A REPEATED bare modifier: appending a modifier the rule already carries (`Mod.carriedBy`: the option bit /
    the disabled bit / all five `$document` bits / the restricted content type is already set; a permitted
    content type is already listed or the rule is document-only) changes nothing the order reads — TIE. -/
theorem c07_text_repeat_tie (px : E.ParseExt) (wl : Bool) (pat : Bytes) (xs : List XMod) (m : Mod) (id id' : Int)
    (r r' : NetRule) (hp : patOK pat = true) (hm : ∀ x ∈ xs ++ [.base m], x.valsOK = true)
    (h : E.parseNetRule px (renderX wl pat xs) id = .ok r)
    (h' : E.parseNetRule px (renderX wl pat (xs ++ [.base m])) id' = .ok r')
    (hc : Mod.carriedBy r m = true) :
    isHigherPriority r' r = false ∧ isHigherPriority r r' = false := by
  obtain ⟨R, _, e, e'⟩ := append_x hp hm h h'
  have hc' : Mod.carriedBy (overrideDoc R) m = true := by
    rw [← e]
    -- `carriedBy` reads modifier fields only
    cases m with
    | ctype neg c => cases neg <;> exact hc
    | _ => exact hc
  have e2 : modFields r' = overrideDoc R := e'.trans (applyMod_carried px.ext R m hc')
  rw [higher_modFields r' r, higher_modFields r r', e, e2]
  exact ⟨c07_irrefl _, c07_irrefl _⟩

/-- `,domain=…` written AGAIN on a rule that already has `$domain` (the later modifier replaces the earlier one):
    the count is unchanged, generic/specific is decided anew — strictly higher iff the rule was generic (only
    excluded domains) and the new list has a permitted domain, strictly lower iff it was specific and the new
    list has none, a tie otherwise (in particular for the same values). -/
theorem c07_text_domain_again_iff (px : E.ParseExt) (wl : Bool) (pat : Bytes) (xs : List XMod)
    (vs : List (Bool × Bytes)) (id id' : Int)
    (r r' : NetRule) (hp : patOK pat = true) (hm : ∀ x ∈ xs ++ [.base (.domain vs)], x.valsOK = true)
    (h : E.parseNetRule px (renderX wl pat xs) id = .ok r)
    (h' : E.parseNetRule px (renderX wl pat (xs ++ [.base (.domain vs)])) id' = .ok r')
    (hhas : r.permDomains ≠ [] ∨ r.restrDomains ≠ []) :
    isHigherPriority r' r = (r.isGeneric && !(posVals vs).isEmpty) ∧
    isHigherPriority r r' = (!r.isGeneric && (posVals vs).isEmpty) := by
  have hne : vs ≠ [] := ne_nil_of_valsOK (hm _ (List.mem_append_right _ List.mem_cons_self))
  have hcount : modifierCount (applyMod px.ext (modFields r) (.domain vs)) = modifierCount (modFields r) := by
    show modifierCount { modFields r with permDomains := posVals vs, restrDomains := negVals vs } = _
    unfold modifierCount
    simp only
    rw [posNeg_ne_zero vs hne, show ((modFields r).permDomains.length != 0 ||
      (modFields r).restrDomains.length != 0) = true from length_bne_zero_or hhas]
  rw [higher_modFields r' r, higher_modFields r r', appendX_applyMod hp hm h h' (.inl rfl) (fun _ hc => by cases hc)]
  refine ⟨higher_of_generic _ _ rfl rfl hcount, ?_⟩
  rw [higher_of_generic (modFields r) (applyMod px.ext (modFields r) (.domain vs)) rfl rfl hcount.symm]
  exact Bool.and_comm _ _

/-- `$dnstype=` / `$ctag=` / `$client=` / `$denyallow=` written AGAIN on a rule that already counts that
    modifier: the later list replaces the earlier one and the count is unchanged — TIE.  (No hypothesis about
    the `$dnstype` names: a text that parses has only known ones, `parseX_dnstype_known`.) -/
theorem c07_text_list_again_tie (px : E.ParseExt) (wl : Bool) (pat : Bytes) (xs : List XMod) (k : ListKind)
    (vs : List (Bool × Bytes)) (id id' : Int)
    (r r' : NetRule) (hp : patOK pat = true) (hm : ∀ x ∈ xs ++ [.base (k.mod vs)], x.valsOK = true)
    (h : E.parseNetRule px (renderX wl pat xs) id = .ok r)
    (h' : E.parseNetRule px (renderX wl pat (xs ++ [.base (k.mod vs)])) id' = .ok r')
    (hk : k ≠ .domain)
    (hhas : match k with
      | .domain => True
      | .denyallow => r.denyallow ≠ []
      | .dnstype => r.permDns ≠ [] ∨ r.restrDns ≠ []
      | .ctag => r.permTags ≠ [] ∨ r.restrTags ≠ []
      | .client => Clients.len r.permClients ≠ 0 ∨ Clients.len r.restrClients ≠ 0) :
    isHigherPriority r' r = false ∧ isHigherPriority r r' = false := by
  have hne : vs ≠ [] := ListKind.mod_ne (hm _ (List.mem_append_right _ List.mem_cons_self))
  have e2 := appendX_applyMod hp hm h h' (by cases k <;> exact .inl rfl) (fun c hc => by cases k <;> cases hc)
  rw [higher_modFields r' r, higher_modFields r r', e2]
  cases k with
  | domain => exact absurd rfl hk
  | denyallow => exact tie_of_pkey (pkey_denyallow (modFields r) _ hhas (map_ne_nil _ hne))
  | dnstype =>
    exact tie_of_pkey (pkey_dns (modFields r) _ _ hhas
      (ne_of_flag2 (dns_flag_of_known vs hne (parseX_dnstype_known (post := []) hp hm h'))))
  | ctag =>
    refine tie_of_pkey (pkey_tags (modFields r) _ _ hhas (ne_of_flag2 ?_))
    rw [sortB_length, sortB_length]
    exact posNeg_ne_zero vs hne
  | client =>
    refine tie_of_pkey (pkey_clients (modFields r) _ _ ?_ ?_)
    · rcases hhas with hh | hh <;> simp [modFields, hh]
    · rw [clientsOf_len, clientsOf_len]
      exact posNeg_ne_zero vs hne

/-- `c07_text_dnstype` (Props/C07Text.lean) WITHOUT its hypothesis `hknown`: `,dnstype=…` on a rule without
    `$dnstype` is strictly higher — a text that parses has only known record-type names, so the modifier is
    always counted. -/
theorem c07_text_dnstype_any (px : E.ParseExt) (wl : Bool) (pat : Bytes) (ms : List Mod) (vs : List (Bool × Bytes))
    (id id' : Int) (r r' : NetRule) (hp : patOK pat = true) (hm : ∀ x ∈ ms ++ [.dnstype vs], x.valsOK = true)
    (h : E.parseNetRule px (render wl pat ms) id = .ok r)
    (h' : E.parseNetRule px (render wl pat (ms ++ [.dnstype vs])) id' = .ok r')
    (hno : r.permDns = [] ∧ r.restrDns = []) : isHigherPriority r' r = true := by
  refine c07_text_dnstype px wl pat ms vs id id' r r' hp hm h h' hno ?_
  have hne : vs ≠ [] := ne_nil_of_valsOK (hm _ (List.mem_append_right _ List.mem_cons_self))
  have hmX := valsOK_map_base hm
  have hX := h'
  rw [← renderX_base, List.map_append] at hX
  rw [List.map_append] at hmX
  have e := append_applyMod hp hm h h' (.inl rfl) (fun _ hc => by cases hc)
  rw [show r'.permDns = (posVals vs).filterMap dnsTypeNumber from (congrArg NetRule.permDns e :),
    show r'.restrDns = (negVals vs).filterMap dnsTypeNumber from (congrArg NetRule.restrDns e :)]
  exact ne_of_flag2 (dns_flag_of_known vs hne (parseX_dnstype_known (post := []) hp hmX hX))

/-- ONE MORE VALUE in a list-valued modifier.  The modifier `k.mod (a ++ b)` stands anywhere in the text (between
    `pre` and `post`); the new text has the value `v` inserted anywhere in its list (`a ++ v :: b`).  The two
    rules TIE — with one exception: a first PERMITTED `$domain` value added to a `$domain` modifier that had only
    excluded values and is not overwritten by a later `$domain` turns a generic rule into a specific one, which
    is strictly higher.  Adding a value never lowers the priority. -/
theorem c07_text_add_value_iff (px : E.ParseExt) (wl : Bool) (pat : Bytes) (pre post : List XMod) (k : ListKind)
    (a b : List (Bool × Bytes)) (v : Bool × Bytes) (id id' : Int)
    (r r' : NetRule) (hp : patOK pat = true)
    (hm : ∀ x ∈ pre ++ .base (k.mod (a ++ b)) :: post, x.valsOK = true)
    (hm' : ∀ x ∈ pre ++ .base (k.mod (a ++ v :: b)) :: post, x.valsOK = true)
    (h : E.parseNetRule px (renderX wl pat (pre ++ .base (k.mod (a ++ b)) :: post)) id = .ok r)
    (h' : E.parseNetRule px (renderX wl pat (pre ++ .base (k.mod (a ++ v :: b)) :: post)) id' = .ok r') :
    isHigherPriority r' r =
      (decide (k = .domain) && (posVals (a ++ b)).isEmpty && !v.1 && !post.any XMod.isDomain) ∧
    isHigherPriority r r' = false := by
  have key := c07_text_key px wl wl pat pat _ _ id id' r r' hp hp hm hm' h h'
  have key' := c07_text_key px wl wl pat pat _ _ id' id r' r hp hp hm' hm h' h
  have hne : a ++ b ≠ [] :=
    ListKind.mod_ne (hm (.base (k.mod (a ++ b))) (List.mem_append_right _ List.mem_cons_self))
  have hdns : k = .dnstype → (((posVals (a ++ b)).filterMap dnsTypeNumber).length != 0 ||
      ((negVals (a ++ b)).filterMap dnsTypeNumber).length != 0) = true := by
    intro hk
    subst hk
    exact dns_flag_of_known _ hne (parseX_dnstype_known hp hm h)
  have tk : ∀ x, textKey wl (pre ++ x :: post) = keyP wl (post.foldl stepP (stepP (pre.foldl stepP {}) x)) := by
    intro x; unfold textKey; rw [List.foldl_append, List.foldl_cons]
  -- the state after the longer modifier is the state `S` after the shorter one, up to `specific`
  have hspec : k = .domain →
      (stepP (pre.foldl stepP {}) (.base (k.mod (a ++ b)))).specific = !(posVals (a ++ b)).isEmpty := by
    rintro rfl; rfl
  rw [tk, tk, stepP_add_value _ k a b v hne hdns] at key key'
  generalize stepP (pre.foldl stepP {}) (.base (k.mod (a ++ b))) = S at key key' hspec
  cases hpost : post.any XMod.isDomain with
  | true =>
    -- a later `$domain` decides `specific` anew
    rw [foldl_stepP_specific_dom post S (decide (k = .domain) && !v.1 || S.specific) hpost] at key key'
    rw [key, key', decide_eq_false (PKey.gt_irrefl _)]
    simp
  | false =>
    rw [foldl_stepP_specific_other post S (decide (k = .domain) && !v.1 || S.specific) hpost] at key key'
    rw [(keyP_set_specific wl _ _).1, foldl_stepP_specific_eq post S hpost] at key
    rw [(keyP_set_specific wl _ _).2, foldl_stepP_specific_eq post S hpost] at key'
    rw [key, key']
    by_cases hk : k = .domain
    · rw [hspec hk, decide_eq_true hk]
      cases (posVals (a ++ b)).isEmpty <;> cases v.1 <;> decide
    · rw [decide_eq_false hk]
      cases S.specific <;> cases v.1 <;> exact ⟨rfl, rfl⟩

/-! ### every boundary, machine-checked through the COMPLETE parser model on the texts themselves -/

private def exExt : Ext :=
  { psl := fun _ => (lit "com", true), parsePrefix := fun _ => none, pat := fun _ _ _ => true,
    parseAddr := fun s => if s == lit "1.2.3.4" then some { is4 := true, val := 16909060 } else none }

/-- `(t'.IsHigherPriority(t), t.IsHigherPriority(t'))` for two rule texts, through the complete parser model. -/
private def prio (t' t : String) : Option (Bool × Bool) :=
  match I2.parseNetRuleFull exExt (fun _ => []) (lit t') 1, I2.parseNetRuleFull exExt (fun _ => []) (lit t) 1 with
  | .ok a, .ok b => some (isHigherPriority a b, isHigherPriority b a)
  | _, _ => none

/-- `prio` on byte strings: `prio t' t = prioBytes (lit t') (lit t)` by unfolding, and the examples below rewrite
    the two `lit`s of literals with `lit_ofList` before the kernel evaluates. -/
private def prioBytes (t' t : Bytes) : Option (Bool × Bool) :=
  match I2.parseNetRuleFull exExt (fun _ => []) t' 1, I2.parseNetRuleFull exExt (fun _ => []) t 1 with
  | .ok a, .ok b => some (isHigherPriority a b, isHigherPriority b a)
  | _, _ => none

/-- `,document` on a rule without document-only options: 7 content types LOWER, 6 a tie,
    5 higher (`c07_text_document_plain`). -/
example : prio "@@||e.com^$script,image,media,font,other,ping,websocket,document"
    "@@||e.com^$script,image,media,font,other,ping,websocket" = some (false, true) := by
  rw [show prio _ _ = prioBytes (lit _) (lit _) from rfl, lit_ofList, lit_ofList]
  decide +kernel
example : prio "@@||e.com^$script,image,media,font,other,ping,document"
    "@@||e.com^$script,image,media,font,other,ping" = some (false, false) := by
  rw [show prio _ _ = prioBytes (lit _) (lit _) from rfl, lit_ofList, lit_ofList]
  decide +kernel
example : prio "@@||e.com^$script,image,media,font,other,document"
    "@@||e.com^$script,image,media,font,other" = some (true, false) := by
  rw [show prio _ _ = prioBytes (lit _) (lit _) from rfl, lit_ofList, lit_ofList]
  decide +kernel
example : prio "@@||e.com^$document" "@@||e.com^" = some (true, false) := by
  rw [show prio _ _ = prioBytes (lit _) (lit _) from rfl, lit_ofList, lit_ofList]
  decide +kernel

/-- `,document` on a document-only rule: higher unless all five bits are there (`c07_text_document_on_doc`). -/
example : prio "@@||e.com^$elemhide,document" "@@||e.com^$elemhide" = some (true, false) := by
  rw [show prio _ _ = prioBytes (lit _) (lit _) from rfl, lit_ofList, lit_ofList]
  decide +kernel
example : prio "@@||e.com^$document,document" "@@||e.com^$document" = some (false, false) := by
  rw [show prio _ _ = prioBytes (lit _) (lit _) from rfl, lit_ofList, lit_ofList]
  decide +kernel
example : prio "@@||e.com^$elemhide,jsinject,urlblock,content,extension,document"
    "@@||e.com^$elemhide,jsinject,urlblock,content,extension" = some (false, false) := by
  rw [show prio _ _ = prioBytes (lit _) (lit _) from rfl, lit_ofList, lit_ofList]
  decide +kernel
/-- … and with four of the five bits plus three content types: n + d = 1 + 4 < 6, higher. -/
example : prio "@@||e.com^$script,image,media,elemhide,jsinject,urlblock,content,document"
    "@@||e.com^$script,image,media,elemhide,jsinject,urlblock,content" = some (true, false) := by
  rw [show prio _ _ = prioBytes (lit _) (lit _) from rfl, lit_ofList, lit_ofList]
  decide +kernel

/-- `,~extension` (`c07_text_not_extension_iff`): REMOVES the bit of `$document` — lower;
    on a rule without `extension` it SETS the bit (0 / 2 / 3 content types: higher / tie / lower). -/
example : prio "@@||e.com^$document,~extension" "@@||e.com^$document" = some (false, true) := by
  rw [show prio _ _ = prioBytes (lit _) (lit _) from rfl, lit_ofList, lit_ofList]
  decide +kernel
example : prio "@@||e.com^$elemhide,extension,~extension" "@@||e.com^$elemhide,extension" = some (false, true) := by
  rw [show prio _ _ = prioBytes (lit _) (lit _) from rfl, lit_ofList, lit_ofList]
  decide +kernel
example : prio "@@||e.com^$~extension" "@@||e.com^" = some (true, false) := by
  rw [show prio _ _ = prioBytes (lit _) (lit _) from rfl, lit_ofList, lit_ofList]
  decide +kernel
example : prio "@@||e.com^$script,image,~extension" "@@||e.com^$script,image" = some (false, false) := by
  rw [show prio _ _ = prioBytes (lit _) (lit _) from rfl, lit_ofList, lit_ofList]
  decide +kernel
example : prio "@@||e.com^$script,image,media,~extension" "@@||e.com^$script,image,media" = some (false, true) := by
  rw [show prio _ _ = prioBytes (lit _) (lit _) from rfl, lit_ofList, lit_ofList]
  decide +kernel
/-- `extension` was the only document-only option: the written content types come back (3 / 2 / 1 / 0 of them:
    higher / tie / lower / lower). -/
example : prio "@@||e.com^$script,image,media,extension,~extension" "@@||e.com^$script,image,media,extension" =
    some (true, false) := by
  rw [show prio _ _ = prioBytes (lit _) (lit _) from rfl, lit_ofList, lit_ofList]
  decide +kernel
example : prio "@@||e.com^$script,image,extension,~extension" "@@||e.com^$script,image,extension" =
    some (false, false) := by
  rw [show prio _ _ = prioBytes (lit _) (lit _) from rfl, lit_ofList, lit_ofList]
  decide +kernel
example : prio "@@||e.com^$script,extension,~extension" "@@||e.com^$script,extension" = some (false, true) := by
  rw [show prio _ _ = prioBytes (lit _) (lit _) from rfl, lit_ofList, lit_ofList]
  decide +kernel
example : prio "@@||e.com^$extension,~extension" "@@||e.com^$extension" = some (false, true) := by
  rw [show prio _ _ = prioBytes (lit _) (lit _) from rfl, lit_ofList, lit_ofList]
  decide +kernel

/-- A repeated bare modifier: tie (`c07_text_repeat_tie`). -/
example : prio "||e.com^$important,important" "||e.com^$important" = some (false, false) := by
  rw [show prio _ _ = prioBytes (lit _) (lit _) from rfl, lit_ofList, lit_ofList]
  decide +kernel
example : prio "||e.com^$script,image,script" "||e.com^$script,image" = some (false, false) := by
  rw [show prio _ _ = prioBytes (lit _) (lit _) from rfl, lit_ofList, lit_ofList]
  decide +kernel
example : prio "||e.com^$~script,~script" "||e.com^$~script" = some (false, false) := by
  rw [show prio _ _ = prioBytes (lit _) (lit _) from rfl, lit_ofList, lit_ofList]
  decide +kernel
example : prio "||e.com^$third-party,~first-party" "||e.com^$third-party" = some (false, false) := by
  rw [show prio _ _ = prioBytes (lit _) (lit _) from rfl, lit_ofList, lit_ofList]
  decide +kernel
example : prio "||e.com^$~third-party,first-party" "||e.com^$~third-party" = some (false, false) := by
  rw [show prio _ _ = prioBytes (lit _) (lit _) from rfl, lit_ofList, lit_ofList]
  decide +kernel
example : prio "||e.com^$~match-case,~match-case" "||e.com^$~match-case" = some (false, false) := by
  rw [show prio _ _ = prioBytes (lit _) (lit _) from rfl, lit_ofList, lit_ofList]
  decide +kernel

/-- A list-valued modifier written again (`c07_text_domain_again_iff`, `c07_text_list_again_tie`). -/
example : prio "||e.com^$domain=a.com,domain=a.com" "||e.com^$domain=a.com" = some (false, false) := by
  rw [show prio _ _ = prioBytes (lit _) (lit _) from rfl, lit_ofList, lit_ofList]
  decide +kernel
example : prio "||e.com^$domain=~a.com,domain=b.com" "||e.com^$domain=~a.com" = some (true, false) := by
  rw [show prio _ _ = prioBytes (lit _) (lit _) from rfl, lit_ofList, lit_ofList]
  decide +kernel
example : prio "||e.com^$domain=a.com,domain=~b.com" "||e.com^$domain=a.com" = some (false, true) := by
  rw [show prio _ _ = prioBytes (lit _) (lit _) from rfl, lit_ofList, lit_ofList]
  decide +kernel
example : prio "||e.com^$ctag=x,ctag=y|z" "||e.com^$ctag=x" = some (false, false) := by
  rw [show prio _ _ = prioBytes (lit _) (lit _) from rfl, lit_ofList, lit_ofList]
  decide +kernel
example : prio "||e.com^$denyallow=a.com,denyallow=b.com" "||e.com^$denyallow=a.com" = some (false, false) := by
  rw [show prio _ _ = prioBytes (lit _) (lit _) from rfl, lit_ofList, lit_ofList]
  decide +kernel
example : prio "||e.com^$dnstype=A,dnstype=~AAAA" "||e.com^$dnstype=A" = some (false, false) := by
  rw [show prio _ _ = prioBytes (lit _) (lit _) from rfl, lit_ofList, lit_ofList]
  decide +kernel
example : prio "||e.com^$client=pc,client=1.2.3.4" "||e.com^$client=pc" = some (false, false) := by
  rw [show prio _ _ = prioBytes (lit _) (lit _) from rfl, lit_ofList, lit_ofList]
  decide +kernel

/-- One more value (`c07_text_add_value_iff`): tie, except generic → specific; a later
    `$domain` erases the difference; the modifier need not be the last one. -/
example : prio "||e.com^$domain=a.com|b.com" "||e.com^$domain=a.com" = some (false, false) := by
  rw [show prio _ _ = prioBytes (lit _) (lit _) from rfl, lit_ofList, lit_ofList]
  decide +kernel
example : prio "||e.com^$domain=a.com|~b.com" "||e.com^$domain=a.com" = some (false, false) := by
  rw [show prio _ _ = prioBytes (lit _) (lit _) from rfl, lit_ofList, lit_ofList]
  decide +kernel
example : prio "||e.com^$domain=~a.com|b.com" "||e.com^$domain=~a.com" = some (true, false) := by
  rw [show prio _ _ = prioBytes (lit _) (lit _) from rfl, lit_ofList, lit_ofList]
  decide +kernel
example : prio "||e.com^$domain=b.com|~a.com,script" "||e.com^$domain=~a.com,script" = some (true, false) := by
  rw [show prio _ _ = prioBytes (lit _) (lit _) from rfl, lit_ofList, lit_ofList]
  decide +kernel
example : prio "||e.com^$domain=~a.com|b.com,domain=c.com" "||e.com^$domain=~a.com,domain=c.com" =
    some (false, false) := by
  rw [show prio _ _ = prioBytes (lit _) (lit _) from rfl, lit_ofList, lit_ofList]
  decide +kernel
example : prio "||e.com^$ctag=x|y,image" "||e.com^$ctag=x,image" = some (false, false) := by
  rw [show prio _ _ = prioBytes (lit _) (lit _) from rfl, lit_ofList, lit_ofList]
  decide +kernel
example : prio "||e.com^$denyallow=a.com|b.com" "||e.com^$denyallow=a.com" = some (false, false) := by
  rw [show prio _ _ = prioBytes (lit _) (lit _) from rfl, lit_ofList, lit_ofList]
  decide +kernel
example : prio "||e.com^$dnstype=A|AAAA" "||e.com^$dnstype=A" = some (false, false) := by
  rw [show prio _ _ = prioBytes (lit _) (lit _) from rfl, lit_ofList, lit_ofList]
  decide +kernel
example : prio "||e.com^$client=pc|1.2.3.4" "||e.com^$client=pc" = some (false, false) := by
  rw [show prio _ _ = prioBytes (lit _) (lit _) from rfl, lit_ofList, lit_ofList]
  decide +kernel

/-- The key of a text (`c07_text_key`), computed without any parser: `$script,…,websocket` (7 modifiers) against
    the same with `,document` (5 option bits + `document` = 6); a modifier inserted at a NON-FINAL position
    (`popup` in front of three content types: 2 against 3). -/
example :
    (textKey true ((CType.all.take 7).map (fun c => .base (.ctype false c)))).count = 7 ∧
    (textKey true ((CType.all.take 7).map (fun c => .base (.ctype false c)) ++ [.base .document])).count = 6 ∧
    (textKey false [.base (.opt .popup), .base (.ctype false .script), .base (.ctype false .image),
      .base (.ctype false .media)]).count = 2 ∧
    (textKey false [.base (.ctype false .script), .base (.ctype false .image), .base (.ctype false .media)]).count = 3 ∧
    (textKey true [.base .document, .notExtension]).count = 5 ∧
    (textKey false [.base (.domain [(true, lit "a.com")])]).specific = 0 ∧
    (textKey false [.base (.domain [(true, lit "a.com"), (false, lit "b.com")])]).specific = 1 := by decide +kernel

/-- The hypotheses are satisfiable: the texts above are renderings of the extended grammar, the pattern and
    the values are in the domain of the theorems, and `carriedBy` / `ListKind.mod` say what they should. -/
example :
    renderX true (lit "||e.com^") [.base .document, .notExtension] = lit "@@||e.com^$document,~extension" ∧
    renderX true (lit "||e.com^") [.base .document] = lit "@@||e.com^$document" ∧
    renderX false (lit "||e.com^") ([] ++ .base (ListKind.domain.mod ([(false, lit "a.com")] ++ (false, lit "b.com") :: [])) :: []) =
      lit "||e.com^$domain=a.com|b.com" ∧
    renderX false (lit "||e.com^") ([] ++ .base (ListKind.domain.mod ([(false, lit "a.com")] ++ [])) :: []) =
      lit "||e.com^$domain=a.com" ∧
    patOK (lit "||e.com^") = true ∧
    (∀ x ∈ [XMod.base .document, .notExtension], x.valsOK = true) ∧
    (XMod.base (ListKind.domain.mod [(false, lit "a.com"), (false, lit "b.com")])).valsOK = true ∧
    (XMod.base (ListKind.denyallow.mod [(false, lit "a.com")])).valsOK = true := by
  rw [lit_ofList, lit_ofList, lit_ofList, lit_ofList, lit_ofList, lit_ofList, lit_ofList]
  decide +kernel

end UF.C07
