import UF.Compose5.C09Text
import UF.Props.C09
import UF.Props.C10Full
/-
  C09 — the relation "exception e disables rewrite r" from the property text.  `UF.disables`
  (UF/Spec/DnsRewrite.lean) repeats the if/else nesting of the code's `matchException`; here the
  relation is a disjunction of the clauses of the text (UF/Compose5/C09Text.lean), in three readings
  of "same new CNAME, OR same response code and …": `disablesText` equals `disables` with no
  hypothesis; `disablesTextKind` needs the C10 shape of the rewrite's value (and is false without it);
  the literal `disablesTextNaive` differs from the code also on parsed rules, exactly where stated.
-/
namespace UF.C09
open UF UF.L

/-! ### the relation, clause by clause -/

/-- `disablesText`, every clause spelled out as a proposition about the two records: both rules
    carry a `$dnsrewrite`; a non-important exception never disables an important rewrite; and the
    exception's value is empty, or names the rewrite's new CNAME, or (naming no CNAME) has the same
    response code and, for successful responses, the same record type and value. -/
theorem c09_disablesText_iff (e r : NetRule) :
    disablesText e r = true ↔
      ∃ ew rw, e.rewrite = some ew ∧ r.rewrite = some rw ∧
        (e.important = true ∨ r.important = false) ∧
        (ew = {} ∨
         (ew.newCNAME ≠ [] ∧ rw.newCNAME = ew.newCNAME) ∨
         (ew.newCNAME = [] ∧ rw.rcode = ew.rcode ∧
            (ew.rcode ≠ 0 ∨ (rw.rrType = ew.rrType ∧ rw.value = ew.value)))) := by
  have hempty : ∀ ew : DnsRewrite, emptyValue ew = true ↔ ew = {} := by
    intro ew; rw [emptyValue_eq]; exact beq_iff_eq
  cases he : e.rewrite with
  | none => simp [disablesText, he]
  | some ew =>
    cases hr : r.rewrite with
    | none => simp [disablesText, he, hr]
    | some rw =>
      simp only [disablesText, he, hr, importanceOK, sameNewCNAME, hasNewCNAME, sameResponse,
        Bool.and_eq_true, Bool.or_eq_true, hempty, Bool.not_eq_true', bne_iff_ne, beq_iff_eq,
        bne_eq_false_iff_eq, Option.some.injEq, exists_and_left, exists_eq_left', or_assoc]

/-- READING 1 (`disablesText`) is the reference relation of `c09`, for all records: no shape
    hypothesis is needed for this reading. -/
theorem c09_disablesText_eq (e r : NetRule) : disablesText e r = disables e r :=
  disablesText_eq_disables e r

/-- READING 2 (`disablesTextKind`: CNAME rewrites are compared with CNAME exceptions, responses with
    responses) is the reference relation when the REWRITE's value is C10-shaped; exactly the clause
    "a new CNAME stands alone" of `shapeOK` is used, and nothing about the exception's value. -/
theorem c09_disablesTextKind_eq (e r : NetRule)
    (hr : ∀ rw, r.rewrite = some rw → rw.newCNAME ≠ [] →
      rw.rcode = 0 ∧ rw.rrType = 0 ∧ rw.value = RRVal.none) :
    disablesTextKind e r = disables e r := by
  exact disablesTextKind_eq_disables e r fun rw hrw => cnameAlone_iff.2 (hr rw hrw)

/-- The same with the hypothesis in the form C10 delivers it. -/
theorem c09_disablesTextKind_eq_shaped (e r : NetRule)
    (hr : ∀ rw, r.rewrite = some rw → H.shapeOK rw = true) : disablesTextKind e r = disables e r :=
  disablesTextKind_eq_disables e r (fun rw h => cnameAlone_of_shapeOK rw (hr rw h))

/-- READING 3 (the literal "or") only ever disables MORE than the code does … -/
theorem c09_naive_weaker (e r : NetRule) (h : disables e r = true) : disablesTextNaive e r = true := by
  cases he : e.rewrite with
  | none => simp [disables, he] at h
  | some ew =>
    cases hr : r.rewrite with
    | none => simp [disables, he, hr] at h
    | some rw =>
      rw [disables_some e r ew rw he hr] at h
      simp only [disablesTextNaive, he, hr, sameNewCNAME, hasNewCNAME]
      revert h
      cases (ew.newCNAME != []) <;> cases importanceOK e r <;> cases emptyValue ew <;> simp <;> exact .inl

/-- … and differs from it EXACTLY on the pairs where the importance guard holds, the exception names
    a new CNAME, the rewrite has a different one (or none), and the "same response" clause holds. -/
theorem c09_naive_differs_iff (e r : NetRule) :
    disablesTextNaive e r ≠ disables e r ↔
      ∃ ew rw, e.rewrite = some ew ∧ r.rewrite = some rw ∧
        (e.important = true ∨ r.important = false) ∧
        ew.newCNAME ≠ [] ∧ rw.newCNAME ≠ ew.newCNAME ∧
        rw.rcode = ew.rcode ∧ (ew.rcode ≠ 0 ∨ (rw.rrType = ew.rrType ∧ rw.value = ew.value)) := by
  rw [disablesTextNaive_ne_iff]
  simp only [importanceOK, sameResponse, Bool.and_eq_true, Bool.or_eq_true, Bool.not_eq_true',
    bne_iff_ne, beq_iff_eq]

/-- On C10-shaped values (what the parser produces) the difference is: a CNAME exception against a
    rewrite to ANOTHER CNAME or against the bare `NOERROR` rewrite (the empty value).  The naive
    reading says "disabled" (rcode 0, type 0, value nil on both sides); the code says "kept". -/
theorem c09_naive_differs_iff_shaped (e r : NetRule)
    (he : ∀ ew, e.rewrite = some ew → H.shapeOK ew = true)
    (hr : ∀ rw, r.rewrite = some rw → H.shapeOK rw = true) :
    disablesTextNaive e r ≠ disables e r ↔
      ∃ ew rw, e.rewrite = some ew ∧ r.rewrite = some rw ∧
        (e.important = true ∨ r.important = false) ∧
        ew.newCNAME ≠ [] ∧ rw.newCNAME ≠ ew.newCNAME ∧ (rw.newCNAME ≠ [] ∨ rw = {}) := by
  rw [disablesTextNaive_ne_iff]
  constructor
  · rintro ⟨ew, rw, h1, h2, hi, hc, hs, hsr⟩
    refine ⟨ew, rw, h1, h2, by simpa [importanceOK] using hi, hc, hs, ?_⟩
    rw [sameResponse_of_cnameAlone ew rw hc (cnameAlone_of_shapeOK ew (he ew h1))] at hsr
    simp only [Bool.and_eq_true, beq_iff_eq] at hsr
    exact (bareNoerror_iff rw (cnameAlone_of_shapeOK rw (hr rw h2))).mp ⟨hsr.1.1, hsr.1.2, hsr.2⟩
  · rintro ⟨ew, rw, h1, h2, hi, hc, hs, hb⟩
    refine ⟨ew, rw, h1, h2, by simpa [importanceOK] using hi, hc, hs, ?_⟩
    rw [sameResponse_of_cnameAlone ew rw hc (cnameAlone_of_shapeOK ew (he ew h1))]
    obtain ⟨h3, h4, h5⟩ := (bareNoerror_iff rw (cnameAlone_of_shapeOK rw (hr rw h2))).mpr hb
    simp [h3, h4, h5]

/-- The naive reading is the code's relation for exceptions that name no new CNAME. -/
theorem c09_naive_eq_of_noCNAME (e r : NetRule)
    (h : ∀ ew, e.rewrite = some ew → ew.newCNAME = []) : disablesTextNaive e r = disables e r := by
  apply Decidable.byContradiction
  intro hne
  obtain ⟨ew, _, he, _, _, hc, _⟩ := (disablesTextNaive_ne_iff e r).mp hne
  exact hc (h ew he)

/-- The edge case, all readings evaluated on the records of
    `@@||e^$dnsrewrite=x.net` against `||e^$dnsrewrite=NOERROR`, `||e^$dnsrewrite=y.net`,
    `||e^$dnsrewrite=x.net` and `||e^$dnsrewrite=1.2.3.4`: -/
theorem c09_naive_edge :
    -- bare NOERROR: kept by the code and by readings 1 and 2, disabled by the naive reading
    (disables xExcX xNoerror = false ∧ disablesText xExcX xNoerror = false ∧
      disablesTextKind xExcX xNoerror = false ∧ disablesTextNaive xExcX xNoerror = true) ∧
    -- another CNAME: the same
    (disables xExcX xCnameY = false ∧ disablesText xExcX xCnameY = false ∧
      disablesTextKind xExcX xCnameY = false ∧ disablesTextNaive xExcX xCnameY = true) ∧
    -- the same CNAME: disabled in every reading
    (disables xExcX xCnameX = true ∧ disablesText xExcX xCnameX = true ∧
      disablesTextKind xExcX xCnameX = true ∧ disablesTextNaive xExcX xCnameX = true) ∧
    -- an A record: kept in every reading
    (disables xExcX xA = false ∧ disablesText xExcX xA = false ∧
      disablesTextKind xExcX xA = false ∧ disablesTextNaive xExcX xA = false) := by decide +kernel

/-! ### the effective rewrites -/

/-- `DNSRewrites()` = the TEXT-level reference filter of `DNSRewritesAll()`, as sequences, for every
    list of matched network rules.  No shape hypothesis: reading 1 needs none. -/
theorem c09_text (res : List NetRule) :
    dnsRewrites res = some (specRewritesText (dnsRewritesAll res)) := by
  exact dnsRewrites_eq_with disablesText res (fun e _ r _ _ _ => disablesText_eq_disables e r)

/-- Without `$badfilter` rules: the plain filter with the text-level relation. -/
theorem c09_text_nobadfilter (res : List NetRule) (h : ∀ r ∈ res, r.badfilter = false) :
    dnsRewrites res = some ((dnsRewritesAll res).filter (fun r =>
      !r.whitelist && !(dnsRewritesAll res).any (fun e => e.whitelist && disablesText e r))) := by
  rw [c09_text, specRewritesText, specRemoveBad_of_no_badfilter]
  intro r hr
  rw [c09_all] at hr
  exact h r (List.mem_filter.mp hr).1

/-- Reading 2 for lists whose non-exception rewrite values have the shape "a new CNAME stands
    alone" (nothing is asked of the exceptions). -/
theorem c09_text_kind (res : List NetRule)
    (h : ∀ r ∈ res, r.whitelist = false → ∀ rw, r.rewrite = some rw → rw.newCNAME ≠ [] →
      rw.rcode = 0 ∧ rw.rrType = 0 ∧ rw.value = RRVal.none) :
    dnsRewrites res = some (specRewritesTextKind (dnsRewritesAll res)) :=
  dnsRewrites_eq_with disablesTextKind res
    (fun e _ r hr _ hrw => c09_disablesTextKind_eq e r (h r hr hrw))

/-- Reading 2 under the C10 shape of all values. -/
theorem c09_text_kind_shaped (res : List NetRule)
    (h : ∀ r ∈ res, ∀ rw, r.rewrite = some rw → H.shapeOK rw = true) :
    dnsRewrites res = some (specRewritesTextKind (dnsRewritesAll res)) :=
  dnsRewrites_eq_with disablesTextKind res
    (fun e _ r hr _ _ => c09_disablesTextKind_eq_shaped e r (h r hr))

/-- The naive reading is right for lists in which no exception names a new CNAME — the only natural
    hypothesis under which it is: a shape hypothesis cannot help, see `c09_text_naive_refuted`. -/
theorem c09_text_naive (res : List NetRule)
    (h : ∀ e ∈ res, e.whitelist = true → ∀ ew, e.rewrite = some ew → ew.newCNAME = []) :
    dnsRewrites res = some (specRewritesTextNaive (dnsRewritesAll res)) :=
  dnsRewrites_eq_with disablesTextNaive res
    (fun e he r _ hew _ => c09_naive_eq_of_noCNAME e r (h e he hew))

/-- The naive reading is refuted on C10-shaped values: for `[||e^$dnsrewrite=NOERROR,
    @@||e^$dnsrewrite=x.net]` the code keeps the rewrite, the naive reference drops it.  (The harness
    checks the same on the real code: `assert l.c09naive`.) -/
theorem c09_text_naive_refuted :
    ∃ res : List NetRule, (∀ r ∈ res, ∀ rw, r.rewrite = some rw → H.shapeOK rw = true) ∧
      dnsRewrites res = some [xNoerror] ∧ specRewritesTextNaive (dnsRewritesAll res) = [] :=
  ⟨[xNoerror, xExcX], by decide +kernel, by decide +kernel, by decide +kernel⟩

/-- FROM RULE TEXT: for rules produced by the complete model of `rules.NewNetworkRule` (the
    network-rule parser with the `$dnsrewrite` parser plugged in) the shape hypothesis is discharged by C10
    (`c10_full`), so `DNSRewrites()` is the reference filter in BOTH sound readings of the text, for
    every list of rule texts, every `netip` oracle and every regexp-shortcut oracle. -/
theorem c09_text_parsed (ext : Ext) (reShortcut : Bytes → Bytes) (res : List NetRule)
    (h : ∀ r ∈ res, ∃ t id, I2.parseNetRuleFull ext reShortcut t id = .ok r) :
    dnsRewrites res = some (specRewritesText (dnsRewritesAll res)) ∧
    dnsRewrites res = some (specRewritesTextKind (dnsRewritesAll res)) := by
  refine ⟨c09_text res, c09_text_kind_shaped res ?_⟩
  intro r hr rw hrw
  obtain ⟨t, id, hp⟩ := h r hr
  exact C10.c10_full ext reShortcut t id r rw hp hrw

/-- On parsed rules the naive reading differs from the code exactly on a CNAME exception against
    another CNAME rewrite or the bare `NOERROR` rewrite. -/
theorem c09_naive_differs_iff_parsed (ext : Ext) (reShortcut : Bytes → Bytes) (e r : NetRule)
    (te tr : Bytes) (ie ir : Int)
    (he : I2.parseNetRuleFull ext reShortcut te ie = .ok e)
    (hr : I2.parseNetRuleFull ext reShortcut tr ir = .ok r) :
    disablesTextNaive e r ≠ disables e r ↔
      ∃ ew rw, e.rewrite = some ew ∧ r.rewrite = some rw ∧
        (e.important = true ∨ r.important = false) ∧
        ew.newCNAME ≠ [] ∧ rw.newCNAME ≠ ew.newCNAME ∧ (rw.newCNAME ≠ [] ∨ rw = {}) :=
  c09_naive_differs_iff_shaped e r
    (fun ew h => C10.c10_full ext reShortcut te ie e ew he h)
    (fun rw h => C10.c10_full ext reShortcut tr ir r rw hr h)

/-! ### non-vacuity -/

/-- The hypotheses of the shaped theorems are satisfiable (all example rules but `xIllShaped`). -/
example : ∀ r ∈ [xNoerror, xExcX, xCnameX, xCnameY, xA, xNx, xExcNx, xExcA],
    ∀ rw, r.rewrite = some rw → H.shapeOK rw = true := by decide +kernel

/-- The three outcomes on shaped rules: the CNAME exception does NOT disable the bare NOERROR rewrite
    nor another CNAME; it disables the same CNAME; rcode exceptions disable equal rcodes only. -/
example : dnsRewrites [xNoerror, xExcX, xCnameY, xCnameX, xA] = some [xNoerror, xCnameY, xA] ∧
    specRewritesText (dnsRewritesAll [xNoerror, xExcX, xCnameY, xCnameX, xA]) = [xNoerror, xCnameY, xA] ∧
    specRewritesTextKind (dnsRewritesAll [xNoerror, xExcX, xCnameY, xCnameX, xA]) = [xNoerror, xCnameY, xA] ∧
    specRewritesTextNaive (dnsRewritesAll [xNoerror, xExcX, xCnameY, xCnameX, xA]) = [xA] := by decide +kernel

example : dnsRewrites [xNx, xExcNx, xNoerror, xA, xExcA] = some [xNoerror] ∧
    specRewritesText (dnsRewritesAll [xNx, xExcNx, xNoerror, xA, xExcA]) = [xNoerror] := by decide +kernel

/-- The right-hand side of `c09_naive_differs_iff_shaped` is inhabited (so the naive reading really
    differs on shaped values) … -/
example : disablesTextNaive xExcX xNoerror ≠ disables xExcX xNoerror := by decide +kernel

/-- … and the hypothesis of reading 2 cannot be dropped: on a value that violates C10 (new CNAME
    together with NXDOMAIN) `disablesTextKind` and the code disagree. -/
example : disablesTextKind xExcNx xIllShaped = false ∧ disables xExcNx xIllShaped = true ∧
    H.shapeOK { rcode := 3, newCNAME := lit "y.net" } = false := by decide +kernel

/-- `c09_text_parsed` is not vacuous: the two rule texts of the edge case parse, to the records used
    above (up to the fields the relation does not read). -/
example :
    let ext : Ext := { psl := fun _ => ([], false), parseAddr := fun _ => none,
                       parsePrefix := fun _ => none, pat := fun _ _ _ => false }
    (match I2.parseNetRuleFull ext (fun _ => []) (lit "||e^$dnsrewrite=NOERROR") 1,
           I2.parseNetRuleFull ext (fun _ => []) (lit "@@||e^$dnsrewrite=x.net") 1 with
     | .ok r, .ok e => r.rewrite == xNoerror.rewrite && e.rewrite == xExcX.rewrite && e.whitelist &&
         !r.whitelist && dnsRewrites [r, e] == some [r] && specRewritesTextNaive [r, e] == []
     | _, _ => false) = true := by decide +kernel

end UF.C09
