import UF.Proofs.RequestRef
import UF.Proofs.Lit
/-
  C17 — request fields agree with the standard URL parser and the Public Suffix List.

  Model: UF/Model/RequestNew.lean (`extractHostname`, `effectiveTLDPlusOne`, `newRequest`,
  `fillRequestForHostname`) mirrors filterutil/util.go and rules/request.go.
  Reference: UF/Spec/Request.lean.  `publicsuffix.PublicSuffix` is an arbitrary oracle `ext.psl`
  (hypothesis where needed: it answers with a dot-suffix of the hostname).  `net/url` and the PSL
  data themselves are compared in Go by the `assert c17.*` ops of the correspondence check.
-/
namespace UF.H
open Bytes

/-- For a well-formed hierarchical URL
      `scheme "://" host [":" port] [("/"|"?") rest]`
    (scheme free of `/` and `:`, host free of `/ : ? #`), the extracted hostname is `host`. -/
theorem extract_host (scheme host port rest : Bytes) (hasPort : Bool) (sep : Option UInt8)
    (hs : scheme.all (fun c => c != ch '/' && c != ch ':') = true)
    (hh : host.all (fun c => !(c == ch '/' || c == ch ':' || c == ch '?' || c == ch '#')) = true)
    (hsep : sep = none ∨ sep = some (ch '/') ∨ sep = some (ch '?')) :
    extractHostname
      (scheme ++ lit "://" ++ host ++
        ((if hasPort then ch ':' :: port else []) ++
         (match sep with | none => [] | some c => c :: rest))) = .ok host := by
  apply extract_host_url
  · exact all_imp (fun c hc => (Bool.and_eq_true_iff.1 hc).1) hs
  · refine all_imp (fun c hc => ?_) hh
    -- `hc` is `(!(isStop c || c == ch '#')) = true`
    rw [Bool.not_eq_true', Bool.or_eq_false_iff] at hc
    rw [Bool.not_eq_true']
    exact hc.1
  · cases hasPort with
    | true => exact Or.inr ⟨ch ':', _, rfl, by decide⟩
    | false =>
      rcases hsep with h | h | h <;> subst h
      · left; rfl
      · exact Or.inr ⟨ch '/', _, rfl, by decide⟩
      · exact Or.inr ⟨ch '?', _, rfl, by decide⟩

/-- The hand-rolled `effectiveTLDPlusOne` equals the reference "public suffix plus one label"
    (`none` ↦ "") for every hostname without empty labels and every oracle whose answer is a
    dot-suffix of the hostname. -/
theorem etld1_spec (ext : Ext) (h : Bytes) (hn : noEmptyLabel h = true)
    (hsuf : h = (ext.psl h).1 ∨ ∃ pre, h = pre ++ ch '.' :: (ext.psl h).1) :
    effectiveTLDPlusOne ext h = .ok ((refETLD1 ext h).getD []) :=
  effectiveTLDPlusOne_eq_ref ext h hn hsuf

/-- The lower-cased URL is the lower-casing of the length-capped URL (and the stored URL is the
    capped URL). -/
theorem lower_capped (ext : Ext) (url src : Bytes) (t : Nat) (q : Request)
    (h : newRequest ext url src t = .ok q) :
    q.url = url.take Facts.maxURLLength ∧ q.urlLower = toLower (url.take Facts.maxURLLength) ∧
    q.sourceURL = src.take Facts.maxURLLength ∧ q.reqType = t := by
  obtain ⟨_, _, _, _, _, _, _, _, hq⟩ := newRequest_eq ext url src t
  cases hq.symm.trans h
  exact ⟨rfl, rfl, rfl, rfl⟩

/-- Hostname and registrable domain of the request: the domain is eTLD+1 of the hostname, or the
    hostname itself when there is none. -/
theorem c17_domain (ext : Ext) (url src : Bytes) (t : Nat) (q : Request)
    (h : newRequest ext url src t = .ok q) :
    extractHostname (url.take Facts.maxURLLength) = .ok q.hostname ∧
    extractHostname (src.take Facts.maxURLLength) = .ok q.sourceHostname ∧
    (∃ e, effectiveTLDPlusOne ext q.hostname = .ok e ∧ q.domain = if e = [] then q.hostname else e) ∧
    (∃ e, effectiveTLDPlusOne ext q.sourceHostname = .ok e ∧
      q.sourceDomain = if e = [] then q.sourceHostname else e) := by
  obtain ⟨hh, sh, e, se, h1, h2, h3, h4, hq⟩ := newRequest_eq ext url src t
  cases hq.symm.trans h
  refine ⟨h1, h2, ⟨e, h3, ?_⟩, ⟨se, h4, ?_⟩⟩
  · cases e <;> simp
  · cases se <;> simp

/-- With the PSL reference: for hostnames without empty labels (oracle answering a dot-suffix),
    `Domain` is the reference registrable domain. -/
theorem c17_domain_ref (ext : Ext) (url src : Bytes) (t : Nat) (q : Request)
    (h : newRequest ext url src t = .ok q) (hn : noEmptyLabel q.hostname = true)
    (hsuf : q.hostname = (ext.psl q.hostname).1 ∨ ∃ pre, q.hostname = pre ++ ch '.' :: (ext.psl q.hostname).1) :
    q.domain = refDomain ext q.hostname := by
  obtain ⟨hh, _, e, _, _, _, he, _, hq⟩ := newRequest_eq ext url src t
  cases hq.symm.trans h
  rw [etld1_spec ext hh hn hsuf] at he
  cases he
  exact domain_eq_refDomain ext hh hn

/-- A request is third-party iff it has a source whose registrable domain differs from its own. -/
theorem third_party_iff (ext : Ext) (url src : Bytes) (t : Nat) (q : Request)
    (h : newRequest ext url src t = .ok q) :
    q.thirdParty = true ↔ (q.sourceDomain ≠ [] ∧ q.sourceDomain ≠ q.domain) := by
  obtain ⟨_, _, _, _, _, _, _, _, hq⟩ := newRequest_eq ext url src t
  cases hq.symm.trans h
  simp

theorem third_party_eq_ref (ext : Ext) (url src : Bytes) (t : Nat) (q : Request)
    (h : newRequest ext url src t = .ok q) :
    q.thirdParty = refThirdParty q.domain q.sourceDomain := by
  obtain ⟨_, _, _, _, _, _, _, _, hq⟩ := newRequest_eq ext url src t
  cases hq.symm.trans h
  exact thirdParty_eq_ref _ _

/-- Third-party is symmetric in (url, source) when both have a registrable domain. -/
theorem third_party_symm (ext : Ext) (u s : Bytes) (t t' : Nat) (q q' : Request)
    (h : newRequest ext u s t = .ok q) (h' : newRequest ext s u t' = .ok q')
    (hd : q.domain ≠ []) (hsd : q.sourceDomain ≠ []) :
    q.thirdParty = q'.thirdParty := by
  obtain ⟨h1, h2, ⟨e, he, hd1⟩, ⟨se, hse, hsd1⟩⟩ := c17_domain ext u s t q h
  obtain ⟨h1', h2', ⟨e', he', hd1'⟩, ⟨se', hse', hsd1'⟩⟩ := c17_domain ext s u t' q' h'
  -- hostnames, and with them domains, are swapped
  rw [Except.ok.inj (h1'.symm.trans h2)] at he' hd1'
  rw [Except.ok.inj (h2'.symm.trans h1)] at hse' hsd1'
  cases he'.symm.trans hse
  cases hse'.symm.trans he
  rw [third_party_eq_ref ext u s t q h, third_party_eq_ref ext s u t' q' h', hd1', hsd1', ← hd1, ← hsd1]
  simp [refThirdParty, hd, hsd, ne_comm]

/-- `FillRequestForHostname`: the fields it sets, and that it leaves the other ones alone. -/
theorem fill_hostname (ext : Ext) (r : Request) (hostname : Bytes) :
    ∃ e, effectiveTLDPlusOne ext hostname = .ok e ∧
      fillRequestForHostname ext r hostname = .ok
        { r with url := lit "http://" ++ hostname, urlLower := lit "http://" ++ hostname,
                 hostname := hostname, reqType := Facts.TypeDocument, thirdParty := false,
                 isHostnameRequest := true, domain := if e = [] then hostname else e } := by
  obtain ⟨e, he, hd⟩ := domainOrHost_ok ext hostname
  refine ⟨e, he, ?_⟩
  simp only [fillRequestForHostname, hd]
  cases e <;> simp

/-- The request for a hostname without `/ : ?` has that hostname as the host of its URL
    `http://hostname`. -/
theorem fill_hostname_url (ext : Ext) (hostname : Bytes) (q : Request)
    (hh : hostname.all (fun c => !isStop c) = true)
    (h : newRequestForHostname ext hostname = .ok q) :
    extractHostname q.url = .ok q.hostname := by
  obtain ⟨e, _, hq⟩ := fill_hostname ext {} hostname
  unfold newRequestForHostname at h
  cases hq.symm.trans h
  have := extract_host_url (lit "http") hostname [] (by decide) hh (Or.inl rfl)
  rwa [List.append_nil, show lit "http" ++ lit "://" = lit "http://" by decide] at this

/-- Neither the URL functions nor `NewRequest` ever panic, for any input and any oracle
    (`url[firstIdx:]`, `url[firstIdx:nextIdx]`, `hostname[0]`, `hostname[len-1]`, `hostname[i]`,
    `hostname[:i]`, `hostname[1+k:]`, `url[:maxURLLength]`). -/
theorem c17_total (ext : Ext) (url src : Bytes) (t : Nat) :
    (∃ h, extractHostname url = .ok h) ∧ (∃ d, effectiveTLDPlusOne ext url = .ok d) ∧
    (∃ q, newRequest ext url src t = .ok q) ∧ (∃ q, newRequestForHostname ext url = .ok q) := by
  refine ⟨extractHostname_ok url, effectiveTLDPlusOne_ok ext url, ?_, ?_⟩
  · obtain ⟨h, sh, e, se, _, _, _, _, hq⟩ := newRequest_eq ext url src t
    exact ⟨_, hq⟩
  · obtain ⟨e, _, hq⟩ := fill_hostname ext {} url
    exact ⟨_, hq⟩

/-- On the URL grammar of the property (request URL `scheme://host tail`, a source of the same
    shape, both within the 4 KiB cap, hosts without empty labels, PSL oracle answering a
    dot-suffix) `NewRequest` returns exactly the reference request: hostname = the grammar's host,
    domain = public suffix plus one label (or the host), third-party = "source domain differs". -/
theorem c17_request_eq_ref (ext : Ext) (scheme host tail sscheme shost stail : Bytes) (t : Nat)
    (hu : goodURLParts scheme host tail = true) (hs : goodURLParts sscheme shost stail = true)
    (hlen : (scheme ++ lit "://" ++ host ++ tail).length ≤ Facts.maxURLLength)
    (hslen : (sscheme ++ lit "://" ++ shost ++ stail).length ≤ Facts.maxURLLength)
    (hn : noEmptyLabel host = true) (hp : pslIsDotSuffix ext host)
    (hsn : noEmptyLabel shost = true) (hsp : pslIsDotSuffix ext shost) :
    ∃ q, newRequest ext (scheme ++ lit "://" ++ host ++ tail) (sscheme ++ lit "://" ++ shost ++ stail) t = .ok q ∧
      refRequest ext (scheme ++ lit "://" ++ host ++ tail) (sscheme ++ lit "://" ++ shost ++ stail) t = some q ∧
      q.hostname = host ∧ q.sourceHostname = shost := by
  have hsne : (sscheme ++ lit "://" ++ shost ++ stail).isEmpty = false := by
    cases sscheme with
    | nil => exact absurd rfl (goodURLParts_unpack hs).1
    | cons c r => rfl
  obtain ⟨q, h1, h2, h3, h4, _⟩ := newRequest_eq_ref ext _ _ host shost t
    (urlSide_good ext scheme host tail hu hlen hn hp) (urlSide_good ext sscheme shost stail hs hslen hsn hsp)
    (refURLHost_good scheme host tail hu) hn
    (by rw [hsne]; exact refURLHost_good sscheme shost stail hs) (by rw [hsn, Bool.or_true])
  exact ⟨q, h1, h2, h3, h4⟩

/-- The same without a source (`sourceURL = ""`): never third-party. -/
theorem c17_request_eq_ref_nosrc (ext : Ext) (scheme host tail : Bytes) (t : Nat)
    (hu : goodURLParts scheme host tail = true)
    (hlen : (scheme ++ lit "://" ++ host ++ tail).length ≤ Facts.maxURLLength)
    (hn : noEmptyLabel host = true) (hp : pslIsDotSuffix ext host) :
    ∃ q, newRequest ext (scheme ++ lit "://" ++ host ++ tail) [] t = .ok q ∧
      refRequest ext (scheme ++ lit "://" ++ host ++ tail) [] t = some q ∧
      q.hostname = host ∧ q.thirdParty = false := by
  obtain ⟨q, h1, h2, h3, _, h5⟩ := newRequest_eq_ref ext _ [] host [] t
    (urlSide_good ext scheme host tail hu hlen hn hp)
    ⟨Nat.zero_le _, rfl, [], by simp [effectiveTLDPlusOne], (refDomain_nil ext).symm⟩
    (refURLHost_good scheme host tail hu) hn rfl rfl
  exact ⟨q, h1, h2, h3, by rw [h5, refDomain_nil]; rfl⟩

/-! Non-vacuity -/

example : (effectiveTLDPlusOne c17Ext (lit "www.example.co.uk")).toOption = some (lit "example.co.uk") := by
  rw [lit_ofList, lit_ofList]
  decide +kernel
example : (effectiveTLDPlusOne c17Ext (lit "co.uk")).toOption = some [] := by decide +kernel
example : noEmptyLabel (lit "www.example.co.uk") = true ∧
    (∃ pre, lit "www.example.co.uk" = pre ++ ch '.' :: (c17Ext.psl (lit "www.example.co.uk")).1) :=
  ⟨by rw [lit_ofList]; decide +kernel, lit "www.example", by rw [lit_ofList, lit_ofList]; decide +kernel⟩
example : (newRequest c17Ext (lit "https://www.example.co.uk:8080/a?b") (lit "http://cdn.other.com/") 4).toOption.map
    (fun q => (q.hostname, q.domain, q.sourceDomain, q.thirdParty)) =
    some (lit "www.example.co.uk", lit "example.co.uk", lit "other.com", true) := by
  rw [lit_ofList, lit_ofList, lit_ofList, lit_ofList, lit_ofList]
  decide +kernel
/-- The hypotheses of `c17_request_eq_ref` are satisfiable. -/
example : goodURLParts (lit "https") (lit "www.example.co.uk") (lit ":8080/a?b#c") = true ∧
    goodURLParts (lit "http") (lit "cdn.other.com") (lit "/") = true ∧
    pslIsDotSuffix c17Ext (lit "www.example.co.uk") ∧ pslIsDotSuffix c17Ext (lit "cdn.other.com") :=
  ⟨by rw [lit_ofList, lit_ofList, lit_ofList]; decide +kernel,
   by rw [lit_ofList, lit_ofList, lit_ofList]; decide +kernel,
   Or.inr ⟨lit "www.example", by rw [lit_ofList, lit_ofList]; decide +kernel⟩,
   Or.inr ⟨lit "cdn.other", by rw [lit_ofList, lit_ofList]; decide +kernel⟩⟩
/-- The non-hierarchical branch really takes "index of ':' minus one". -/
example : (extractHostname (lit "stun:example.org")).toOption = some (lit "n") := by
  rw [lit_ofList, lit_ofList]
  decide +kernel

end UF.H
