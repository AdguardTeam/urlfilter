import UF.Spec.Result
import UF.Proofs.Result
import UF.Proofs.ResultExamples
/-
  C06 — the verdict follows the documented precedence, whatever the rule order.

  Scope notes.
  * `$replace` cannot be set from rule text on this tree.  When an effective `$replace` rule is
    present `GetBasicResult` / `GetDNSBasicRule` return nil whatever else matches — that is NOT the
    precedence the property documents, so `c06_web` / `c06_dns` carry the hypothesis "no `$replace`
    bit" (true of every parsed rule), and `c06_web_all` / `c06_dns_all` state what the code does for
    ALL rule records, with the early return made explicit.
  * `U`/`G` (a referrer-level `$urlblock` / `$genericblock` exception is in force) range over the
    source exceptions that are not badfilter rules, not disabled by one and not `$dnsrewrite`
    rules, as the property text says ("a referrer-level urlblock exception suppresses every
    blocking rule"); a `$stealth,urlblock` source exception counts.
-/
namespace UF.C06
open UF

/-- Web requests: model of `NewMatchingResult(rules, src).GetBasicResult()` = reference class, for
    all rule lists and source-rule lists of parsed rules. -/
theorem c06_web (rules src : List NetRule) (hrep : ∀ r ∈ rules, r.isEnabled Facts.OptionReplace = false) :
    classOf (getBasicResult (newMatchingResult rules src)) = classWeb rules src := by
  rw [webClass_eq, (trigger_false_of_no_replace rules hrep).1]; rfl

/-- DNS requests: model of `GetDNSBasicRule(rules)` = reference class. -/
theorem c06_dns (rules : List NetRule) (hrep : ∀ r ∈ rules, r.isEnabled Facts.OptionReplace = false) :
    classOf (getDNSBasicRule rules) = classDns rules := by
  rw [dnsClass_eq, (trigger_false_of_no_replace rules hrep).2]; rfl

/-- For ALL rule records (including the unreachable `$replace` bit). -/
theorem c06_web_all (rules src : List NetRule) :
    classOf (getBasicResult (newMatchingResult rules src)) =
      if webReplaceTrigger rules then .none else classWeb rules src :=
  webClass_eq rules src

theorem c06_dns_all (rules : List NetRule) :
    classOf (getDNSBasicRule rules) = if dnsReplaceTrigger rules then .none else classDns rules :=
  dnsClass_eq rules

/-- The verdict class does not depend on the order of the rules or of the source rules (no
    hypothesis on the rules: also with `$replace` bits). -/
theorem c06_perm (rules rules' src src' : List NetRule) (h : rules.Perm rules') (hs : src.Perm src') :
    classOf (getBasicResult (newMatchingResult rules src)) =
      classOf (getBasicResult (newMatchingResult rules' src')) := by
  rw [webClass_eq, webClass_eq, webReplaceTrigger_perm rules rules' h, classWeb_perm rules rules' src src' h hs]

theorem c06_dns_perm (rules rules' : List NetRule) (h : rules.Perm rules') :
    classOf (getDNSBasicRule rules) = classOf (getDNSBasicRule rules') := by
  rw [dnsClass_eq, dnsClass_eq, dnsReplaceTrigger_perm rules rules' h, classDns_perm rules rules' h]

/-- … nor on how the rules are split across lists: any two families of lists with the same rules
    overall (in any order) give the same class. -/
theorem c06_split (ls ls' ss ss' : List (List NetRule)) (h : ls.flatten.Perm ls'.flatten)
    (hs : ss.flatten.Perm ss'.flatten) :
    classOf (getBasicResult (newMatchingResult ls.flatten ss.flatten)) =
      classOf (getBasicResult (newMatchingResult ls'.flatten ss'.flatten)) :=
  c06_perm _ _ _ _ h hs

/-- Rewrite rules, rules disabled by badfilter (and badfilter rules) and special-purpose rules
    never become the basic rule of a web result … -/
theorem c06_basic_effective (rules src : List NetRule) (b : NetRule)
    (h : (newMatchingResult rules src).basicRule = some b) :
    b ∈ rules ∧ b.badfilter = false ∧ (∀ x ∈ rules, isTwin x b = false) ∧ b.rewrite = none ∧
      isSpecial b = false := by
  obtain ⟨h1, h2, h3⟩ := basicRule_mem rules src b h
  obtain ⟨e1, e2, e3⟩ := (effectiveIn_iff rules b).mp h2
  exact ⟨h1, e1, e2, e3, h3⟩

/-- … nor the DNS basic rule. -/
theorem c06_dns_basic_effective (rules : List NetRule) (b : NetRule) (h : getDNSBasicRule rules = some b) :
    b ∈ rules ∧ b.badfilter = false ∧ (∀ x ∈ rules, isTwin x b = false) ∧ b.rewrite = none ∧
      isSpecial b = false := by
  obtain ⟨h1, h2, h3⟩ := dnsBasicRule_mem rules b h
  obtain ⟨e1, e2, e3⟩ := (effectiveIn_iff rules b).mp h2
  exact ⟨h1, e1, e2, e3, h3⟩

/-- The document rule (what `GetBasicResult` falls back to) is a referrer-level exception. -/
theorem c06_precedence_doc (rules src : List NetRule)
    (hrep : ∀ r ∈ rules, r.isEnabled Facts.OptionReplace = false)
    (hnone : precedence (webCandidate rules src) rules = .none) :
    classOf (getBasicResult (newMatchingResult rules src)) =
      if srcUrlblock src || srcGenericblock src then .allow else .none := by
  rw [c06_web rules src hrep, classWeb, hnone]

/-! #### non-vacuity and the old shape (D5) -/


/-- Repaired code on the D5 replay: allow in both orders (and block without the source exceptions). -/
example : classOf (getBasicResult (newMatchingResult [exBlock] [exG, exU])) = .allow ∧
    classOf (getBasicResult (newMatchingResult [exBlock] [exU, exG])) = .allow ∧
    classOf (getBasicResult (newMatchingResult [exBlock] [exG])) = .block ∧
    classOf (getBasicResult (newMatchingResult [exBlock] [])) = .block ∧
    classWeb [exBlock] [exG, exU] = .allow := by decide +kernel

/-- The pinned tree's shape (D5) on the same input: the verdict depends on the order of the two
    source exceptions. -/
example : classOf (getBasicResult (newMatchingResultOld [exBlock] [exG, exU])) = .block ∧
    classOf (getBasicResult (newMatchingResultOld [exBlock] [exU, exG])) = .allow := by decide +kernel

end UF.C06
