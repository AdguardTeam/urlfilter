import UF.Compose3.CosRaw
import UF.Compose3.NetMatch
import UF.Props.C16Top
import UF.Props.C06TopMore
import UF.Proofs.Lit
/-
  C16 FROM RAW INPUTS, with content.  `c16_top` of Props/C16Top.lean holds of any `Option NetRule` (nothing of
  the engine enters); the statements here start from the bytes of the lists, the URL strings and the type, and use
  every hypothesis.  (When two exceptions TIE under the priority order the engine keeps the first in table order — the
  statements say "a maximal candidate", which is exact.)
-/
namespace UF.C16
open UF UF.B UF.Storage UF.Compose UF.Compose3

/-- The three bits of the option of ANY exception rule text `NewNetworkRule` accepts, read off the named
    modifiers written in its options part: a bit is off iff one of the modifiers that disable it is written. -/
theorem c16_text_bits (px : E.ParseExt) (t : Bytes) (id : Int) (r : NetRule)
    (h : E.parseNetRule px t id = .ok r) (hw : r.whitelist = true) :
    ∃ pat opts, E.parseRuleText t = .ok (pat, opts, true) ∧
      getCosmeticOption (some r) = specCosmeticOption true (textCosMods opts) ∧
      ((getCosmeticOption (some r) &&& cosCSS ≠ cosCSS) ↔
        (CosMod.elemhide ∈ textCosMods opts ∨ CosMod.document ∈ textCosMods opts)) ∧
      ((getCosmeticOption (some r) &&& cosGenericCSS ≠ cosGenericCSS) ↔
        (CosMod.elemhide ∈ textCosMods opts ∨ CosMod.document ∈ textCosMods opts ∨
          CosMod.generichide ∈ textCosMods opts)) ∧
      ((getCosmeticOption (some r) &&& cosJS ≠ cosJS) ↔
        (CosMod.jsinject ∈ textCosMods opts ∨ CosMod.document ∈ textCosMods opts)) := by
  obtain ⟨pat, opts, hp, ho⟩ := getCosmeticOption_text h hw
  obtain ⟨b1, b2, b3⟩ := specCosmeticOption_bits (textCosMods opts)
  rw [← ho] at b1 b2 b3
  exact ⟨pat, opts, hp, ho, b1, b2, b3⟩

/-- C16 FROM RAW INPUTS.  For all list contents, ids, backings, cache histories, URL strings, source-URL strings
    and types, with `L` / `S` the lines of the lists that match the request / the referrer document request:
    EITHER no line is a web candidate and every cosmetic option is on,
    OR the basic rule `b` of the result is a maximal web candidate among `L` that BLOCKS, and every option is on,
    OR `b` is a maximal web candidate among `L` that is an EXCEPTION, and the option is the reference option of the
    named modifiers written in `b`'s text — CSS off iff `elemhide`/`document` is written, generic CSS off iff
    `elemhide`/`document`/`generichide` is, JS off iff `jsinject`/`document` is. -/
theorem c16_top_raw (io : IO) (px : E.ParseExt) (lists : List RList) (hok : StorageOK lists)
    (st : RuleStorage) (hnew : newRuleStorage lists = some st) (history history' : List (BitVec 64))
    (url sourceURL : Bytes) (reqType : Nat) :
    let q := requestOf px.ext url sourceURL reqType
    let L := matchingLines px lists q
    let S := sourceMatchingLines px lists q
    let m := engineMatchRequest io px lists st history history' url sourceURL reqType
    let opt := getCosmeticOption m.basicRule
    (m.basicRule = none ∧ (∀ c ∈ L, webCandidate L S c = false) ∧ opt = cosAll) ∨
    (∃ b, m.basicRule = some b ∧ b ∈ L ∧ webCandidate L S b = true ∧
      (∀ c ∈ L, webCandidate L S c = true → isHigherPriority c b = false) ∧
      ((b.whitelist = false ∧ opt = cosAll) ∨
       (b.whitelist = true ∧
        ∃ pat opts, E.parseRuleText b.text = .ok (pat, opts, true) ∧
          opt = specCosmeticOption true (textCosMods opts) ∧
          ((opt &&& cosCSS ≠ cosCSS) ↔
            (CosMod.elemhide ∈ textCosMods opts ∨ CosMod.document ∈ textCosMods opts)) ∧
          ((opt &&& cosGenericCSS ≠ cosGenericCSS) ↔
            (CosMod.elemhide ∈ textCosMods opts ∨ CosMod.document ∈ textCosMods opts ∨
              CosMod.generichide ∈ textCosMods opts)) ∧
          ((opt &&& cosJS ≠ cosJS) ↔
            (CosMod.jsinject ∈ textCosMods opts ∨ CosMod.document ∈ textCosMods opts))))) := by
  intro q L S m opt
  have hwin := engineMatch_basic_winner io px lists hok st hnew history history' q
  cases hb : m.basicRule with
  | none => exact .inl ⟨rfl, hwin.of_none hb, by show getCosmeticOption m.basicRule = _; rw [hb]; rfl⟩
  | some b =>
    obtain ⟨w1, w2, w3⟩ := hwin.of_some b hb
    have ho : opt = getCosmeticOption (some b) := congrArg getCosmeticOption hb
    refine .inr ⟨b, rfl, w1, w2, w3, ?_⟩
    rw [ho]
    cases hw : b.whitelist with
    | false => exact .inl ⟨rfl, c16_nonexception (some b) (fun r hr => by cases hr; exact hw)⟩
    | true => exact .inr ⟨rfl, c16_text_bits px b.text b.listID b (allNet_parse (List.mem_filter.1 w1).1) hw⟩

/-- The same for `NetworkEngine.Match` (no referrer): the rule it returns decides the option the same way. -/
theorem c16_top_raw_netmatch (io : IO) (px : E.ParseExt) (lists : List RList) (hok : StorageOK lists)
    (st : RuleStorage) (hnew : newRuleStorage lists = some st) (history : List (BitVec 64)) (r : Request)
    (b : NetRule) (hb : networkEngineMatch io px lists st history r = some b) (hw : b.whitelist = true) :
    b ∈ matchingLines px lists r ∧
    ∃ pat opts, E.parseRuleText b.text = .ok (pat, opts, true) ∧
      getCosmeticOption (networkEngineMatch io px lists st history r) = specCosmeticOption true (textCosMods opts) := by
  obtain ⟨w1, _, _⟩ := C06.c06_top_netmatch_winner io px lists hok st hnew history r b hb
  refine ⟨w1, ?_⟩
  rw [hb]
  exact c16_text px b.text b.listID b (allNet_parse (List.mem_filter.1 w1).1) hw

/-! ### Non-vacuity: each of the three alternatives of `c16_top_raw` occurs -/

private def exPx : E.ParseExt :=
  { ext := { psl := fun _ => (lit "org", true), parseAddr := fun _ => none,
             parsePrefix := fun _ => none, pat := I2.modelPatD },
    loadDNSRewrite := fun _ => none, regexpShortcut := fun _ => [] }

private def exLists : List RList :=
  [⟨1, false, lit "||ads.org^\n@@||site.org^$generichide,jsinject\n@@||doc.org^$document,~extension\n##.ad", false⟩]

example : StorageOK exLists := by
  unfold exLists
  rw [lit_ofList]
  exact ⟨by decide +kernel, by decide +kernel, by decide +kernel⟩

/-- No candidate: everything on.  A blocking winner: everything on.  The exception `$generichide,jsinject`:
    generic CSS and JS off, CSS on.  The exception `$document,~extension`: all three off (`~extension` and the
    other bits of `$document` switch nothing off). -/
example :
    let o := fun (u : String) =>
      let m := engineMatchRequest ⟨4096, fun _ => 1⟩ exPx exLists ⟨exLists, []⟩ [] [] (lit u) [] 1
      (m.basicRule.map (·.text), getCosmeticOption m.basicRule)
    o "http://other.org/" = (none, cosAll) ∧
    o "http://ads.org/" = (some (lit "||ads.org^"), cosAll) ∧
    o "http://site.org/" = (some (lit "@@||site.org^$generichide,jsinject"), cosCSS) ∧
    o "http://doc.org/" = (some (lit "@@||doc.org^$document,~extension"), 0) ∧
    textCosMods (lit "generichide,jsinject") = [.generichide, .jsinject] ∧
    textCosMods (lit "document,~extension") = [.document] := by
  dsimp only
  unfold exLists
  rw [lit_ofList, lit_ofList, lit_ofList, lit_ofList, lit_ofList, lit_ofList, lit_ofList, lit_ofList, lit_ofList, lit_ofList]
  decide +kernel

end UF.C16
