import UF.Proofs.MaskMain
/-
  C03 — "Compiled basic patterns accept exactly the documented mask language."

  Model: `UF/Model/Mask.lean` (text rewriting of `patternToRegexp`, `/*` rewrite, `preparePattern`),
  `UF/Model/Regex*.lean` (regexp AST, parser as a left fold, matcher).
  Spec:  `UF/Spec/Mask.lean` (`tokenize`, `maskAccepts`, `ruleAccepts`).

  Domain remarks (see DESIGN.md §3, §6): patterns are ASCII (`b < 128`, which includes the printable
  ASCII of the property); subjects contain no line feed (`.` of `.*` does not match `\n`; the property
  quantifies over printable ASCII subjects).

  Subjects are ASCII in every statement that is a CLAIM ABOUT THE CODE (`c03_stored`, `c03`): Go's
  `regexp` works on runes, the model (`Re.search`, `compiledAccepts`) on bytes, so for a subject with a
  byte ≥ 128 the model is not Go -- e.g. rule `||ex.org/a^b` and URL `http://ex.org/aéb`: Go's
  separator class consumes the two-byte `é` as ONE character and matches, the byte-level model does
  not.  The hypothesis `∀ b ∈ u, b < 128` is not used by the proofs: the
  model-level equalities hold for all bytes (see `c03_ast`); it delimits the domain on which the
  statement speaks about Go.  The driver answers `ood` for such subjects (`modelPat` = `none`).
-/
namespace UF.C03
open UF UF.Mask UF.MaskSpec

/-- (C) `patternToRegexp` never panics (all byte strings; true since the D2 repair, commit 88e6866). -/
theorem c03_nopanic : ∀ p : Bytes, patternToRegexpText p ≠ none :=
  patternToRegexpText_isSome

/-- (C) for the whole path `NewNetworkRule` (`/*` rewrite) → `preparePattern`: no panic, and the
    rewrite is the normalisation the reference uses. -/
theorem c03_nopanic_rule : ∀ (p : Bytes) (mc : Bool),
    rewriteSlashStar p = some (normalize p) ∧ preparePatternText (normalize p) mc ≠ .panic :=
  fun p mc => ⟨rewriteSlashStar_eq p, preparePatternText_ne_panic _ mc⟩

/-- The pinned tree before the repair of D2 (unconditional `else` branch) panics on the one-byte
    pattern `a`: the model distinguishes the two shapes. -/
example : patternToRegexpTextOld [97] = none := by decide +kernel
example : patternToRegexpText [97] = some [97] := by decide +kernel

/-- Text level: for every pattern that is neither an any-URL pattern nor a `/regex/` (ALL bytes), the
    text handed to `regexp.Compile` is: start text ++ one fixed piece per body byte ++ end text. -/
theorem c03_text_closed_form : ∀ p : Bytes, isAnyPattern p = false → isRegexPattern p = false →
    patternToRegexpText p = some (maskText p) :=
  patternToRegexpText_eq

/-- (A) The expression a mask pattern stands for accepts, under unanchored search, exactly the
    documented language (induction on the tokens).  A purely MODEL-LEVEL lemma (regexp AST semantics =
    positional mask matcher, both byte-level): it holds for every byte string `u`, but says something
    about Go's rune-based `regexp` only for ASCII `u` -- that restriction is made in `c03_stored`/`c03`. -/
theorem c03_ast : ∀ (p : MaskPat) (mc : Bool) (u : Bytes), p.isAny = false → NoNL u →
    Re.search (maskAst p mc) u = maskAccepts p mc u :=
  fun p mc u h hn => maskAst_sem p mc u h hn

/-- (B) "No character of a pattern is ever read as a regular-expression operator": for every ASCII
    pattern that is not an any-URL pattern and not a `/regex/`, with or without `$match-case`, the text
    `preparePattern` hands to `regexp.Compile` parses to exactly the expression of the pattern's tokens. -/
theorem c03_text : ∀ (p : Bytes) (mc : Bool), (∀ b ∈ p, b < 128) → isAnyPattern p = false →
    isRegexPattern p = false →
    ∃ t, preparePatternText p mc = .text t ∧ Re.parseRE t = some (maskAst (tokenize p) mc) :=
  fun p mc hp h1 h2 => prepare_parse p hp h1 h2 mc

/-- (A)+(B), for the pattern as stored in the rule: compiled matcher = documented language, for
    ASCII subjects (the domain on which the byte-level regexp model is Go's `regexp`). -/
theorem c03_stored : ∀ (p : Bytes) (mc : Bool) (u : Bytes), (∀ b ∈ p, b < 128) → (∀ b ∈ u, b < 128) →
    isRegexPattern p = false → NoNL u →
    compiledAccepts p mc u = maskAccepts (tokenize p) mc u :=
  fun p mc u hp _ h2 hn => compiledAccepts_eq p mc u hp h2 hn

/-- C03 for the pattern as written in the rule text (the trailing `/*` form included): the rule's
    compiled matcher accepts an ASCII subject `u` iff the documented mask language of the pattern does. -/
theorem c03 : ∀ (p : Bytes) (mc : Bool) (u : Bytes), (∀ b ∈ p, b < 128) → (∀ b ∈ u, b < 128) →
    isRegexPattern (normalize p) = false → NoNL u →
    ((rewriteSlashStar p).map fun s => compiledAccepts s mc u) = some (ruleAccepts p mc u) := by
  intro p mc u hp _ h2 hn
  rw [rewriteSlashStar_eq, Option.map_some, ruleAccepts,
    compiledAccepts_eq (normalize p) mc u (normalize_ascii p hp) h2 hn]

/-! Generated-fact obligations: they are re-checked against `UF/Gen/Facts.lean` (regenerated from
    /repo on every run) and break if a constant of rules/regex.go or the escape table is mutated. -/

theorem c03_fact_separator : Re.parseRE Facts.RegexSeparator = some sepAst := by decide +kernel
theorem c03_fact_startURL : Re.parseRE Facts.RegexStartURL = some (Re.mkCat startUrlAtoms) := by decide +kernel
theorem c03_fact_any : Re.parseRE Facts.RegexAnyCharacter = some (.star .any) := by decide +kernel
theorem c03_fact_startString : Re.parseRE Facts.RegexStartString = some .bol := by decide +kernel
theorem c03_fact_endString : Re.parseRE Facts.RegexEndString = some .eol := by decide +kernel
theorem c03_fact_masks : Facts.MaskStartURL = [124, 124] ∧ Facts.MaskPipe = [124] ∧
    Facts.MaskSeparator = [94] ∧ Facts.MaskAnyCharacter = [42] := by decide

/-- Every ASCII byte other than `*` and `^` is either passed through by the replacer and read by the
    parser as a one-character literal, or backslash-escaped and read as that literal. -/
theorem c03_fact_escapes : ∀ b : UInt8, b < 128 → b ≠ 42 → b ≠ 94 →
    (emitByte b = [b] ∧ litOK b = true) ∨ (emitByte b = [92, b] ∧ escOK b = true) :=
  emitByte_class

/-! Non-vacuity: the hypotheses are satisfiable by non-trivial instances, and the language is not trivial. -/

example : isAnyPattern (lit "||a.b^|") = false ∧ isRegexPattern (lit "||a.b^|") = false := by decide +kernel
example : (tokenize (lit "||ex.org^")).isAny = false := by decide +kernel
example : ruleAccepts (lit "||ex.org^") false (lit "https://Sub.ex.org/x") = true := by decide +kernel
example : ruleAccepts (lit "||ex.org^") true (lit "https://sub.eX.org/x") = false := by decide +kernel
example : ruleAccepts (lit "||ex.org^") false (lit "https://notex.org/") = false := by decide +kernel
example : NoNL (lit "https://Sub.ex.org/x") := by unfold NoNL; decide +kernel
example : ∀ b ∈ lit "https://Sub.ex.org/x", b < 128 := by decide +kernel
/-- Why the ASCII hypothesis on subjects: on `http://ex.org/aéb` (UTF-8 `c3 a9`) the byte-level model
    of `||ex.org/a^b` answers `false`; Go's rune-level `regexp` answers `true`. -/
example : compiledAccepts (lit "||ex.org/a^b") false (lit "http://ex.org/a" ++ [0xc3, 0xa9] ++ lit "b") = false := by
  decide +kernel
example : compiledAccepts (lit "||ex.org^") false (lit "https://Sub.ex.org/x") = true := by decide +kernel
example : compiledAccepts (lit "a.c") false (lit "abc") = false := by decide +kernel
example : ruleAccepts (lit "a|b/*") false (lit "xa|b?") = true := by decide +kernel
example : ruleAccepts (lit "|a.c|") false (lit "abc") = false := by decide +kernel

end UF.C03
