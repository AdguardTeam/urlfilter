import UF.Compose.Inert
import UF.Props.C01Compose
import UF.Props.C02Compose
import UF.Props.C15Compose
import UF.Proofs.Lit
/-
  C12, inertness at engine level, from the bytes of the lists: a block of blank, comment or rejected lines
  (`NoiseBlock`) inserted at any line boundary of any list, or LF → CR LF in any subset of the lists, leaves
  `specRules` unchanged; hence, by `c01_storage`, `c02_storage`, `c15_storage`, the engines built from the
  original and from the perturbed bytes answer alike, for any backing, chunking and cache histories on
  either side.  `StorageOK` of the perturbed lists is a hypothesis (noise could push the size over int32).
-/
namespace UF.C12
open UF UF.B UF.Storage UF.Compose

/-! ### Noise in the bytes does not change the parsed rules -/

/-- Inserting a noise block between two lines of one list: `x LF y` ↦ `x LF n LF y`. -/
theorem c12_bytes_insert (px : E.ParseExt) (pre post : List RList) (l : RList) (x n y : Bytes)
    (hn : NoiseBlock (realRx px) l.id n) :
    specRules px (pre ++ { l with content := x ++ 10 :: (n ++ 10 :: y) } :: post) =
      specRules px (pre ++ { l with content := x ++ 10 :: y } :: post) := by
  apply specRules_replace
  have h1 := specRulesOf_append_nl (realRx px) l x (n ++ 10 :: y)
  have h2 := specRulesOf_append_nl (realRx px) l n y
  have h3 := specRulesOf_append_nl (realRx px) l x y
  have h4 := specRulesOf_noise (realRx px) l n hn
  rw [h1, h2, h3, h4, List.nil_append]

/-- … before the first line: `y` ↦ `n LF y`. -/
theorem c12_bytes_insert_front (px : E.ParseExt) (pre post : List RList) (l : RList) (n : Bytes)
    (hn : NoiseBlock (realRx px) l.id n) :
    specRules px (pre ++ { l with content := n ++ 10 :: l.content } :: post) =
      specRules px (pre ++ l :: post) := by
  apply specRules_replace
  have h2 := specRulesOf_append_nl (realRx px) l n l.content
  have h4 := specRulesOf_noise (realRx px) l n hn
  rw [h2, h4, List.nil_append]

/-- … after the last line: `x` ↦ `x LF n`. -/
theorem c12_bytes_insert_back (px : E.ParseExt) (pre post : List RList) (l : RList) (n : Bytes)
    (hn : NoiseBlock (realRx px) l.id n) :
    specRules px (pre ++ { l with content := l.content ++ 10 :: n } :: post) =
      specRules px (pre ++ l :: post) := by
  apply specRules_replace
  have h2 := specRulesOf_append_nl (realRx px) l l.content n
  have h4 := specRulesOf_noise (realRx px) l n hn
  rw [h2, h4, List.append_nil]

/-- Switching any subset of the lists from LF to CR LF line endings (`crlf`: every LF byte becomes
    CR LF): no hypothesis -- `strings.TrimSpace` removes the CR. -/
theorem c12_bytes_crlf (px : E.ParseExt) (lists : List RList) (sel : RList → Bool) :
    specRules px (lists.map fun l => if sel l then { l with content := crlf l.content } else l) =
      specRules px lists := by
  have h : ∀ l : RList, specRulesOf (realRx px) (if sel l then { l with content := crlf l.content } else l) =
      specRulesOf (realRx px) l := by
    intro l
    split
    · exact specRulesOf_crlf px l
    · rfl
  unfold specRules
  rw [List.flatMap_map]
  exact congrArg (lists.flatMap ·) (funext h)

/-- What counts as noise, spelled out with the outcomes of `NewRule`: a piece is inert iff `NewRule`
    returns nothing (blank line or comment) or an error (rejected line). -/
theorem c12_noise_iff (rx : E.RuleExt) (id : Int) (piece : Bytes) :
    E.acceptedOf rx id piece = none ↔
      (E.newRule rx piece id = .ok none ∨ ∃ e, E.newRule rx piece id = .error e) := by
  unfold E.acceptedOf
  cases h : E.newRule rx piece id with
  | ok o => cases o <;> simp
  | error e => simp

/-! ### Same parsed rules ⇒ same answers of the three engines (from bytes) -/

/-- `NetworkEngine.MatchAll`: two storages whose lists parse to the same rules report the same texts
    for every request (C01 twice). -/
theorem c12_engine_net (io io' : IO) (px : E.ParseExt) (lists lists' : List RList)
    (hok : StorageOK lists) (hok' : StorageOK lists')
    (st st' : RuleStorage) (hnew : newRuleStorage lists = some st) (hnew' : newRuleStorage lists' = some st')
    (history history' : List (BitVec 64))
    (hrules : specRules px lists' = specRules px lists) (q : Request) (t : Bytes) :
    t ∈ ((Engine.build djb2 Facts.shortcutLength (storageNetRules px lists')).matchAll djb2 Facts.shortcutLength
          (retrieveNet (retrieveAt io' px (reach io' px st' history'))) px.ext q).map (·.text) ↔
    t ∈ ((Engine.build djb2 Facts.shortcutLength (storageNetRules px lists)).matchAll djb2 Facts.shortcutLength
          (retrieveNet (retrieveAt io px (reach io px st history))) px.ext q).map (·.text) := by
  rw [C01.c01_storage io' px lists' hok' st' hnew' history' q t, C01.c01_storage io px lists hok st hnew history q t,
    hrules]

/-- `DNSEngine.MatchRequest`: … equivalent DNS results (C02 twice; `DnsResult.Equiv` is the comparison
    the property itself makes). -/
theorem c12_engine_dns (io io' : IO) (px : E.ParseExt) (lists lists' : List RList)
    (hok : StorageOK lists) (hok' : StorageOK lists')
    (st st' : RuleStorage) (hnew : newRuleStorage lists = some st) (hnew' : newRuleStorage lists' = some st')
    (history history' : List (BitVec 64))
    (hrules : specRules px lists' = specRules px lists) (q : Request) :
    DnsResult.Equiv
      ((DnsEngine.build djb2 Facts.shortcutLength (storageRulesI px lists')).matchRequest djb2 Facts.shortcutLength
        (retrieveAt io' px (reach io' px st' history')) px.ext getDNSBasicRule q)
      ((DnsEngine.build djb2 Facts.shortcutLength (storageRulesI px lists)).matchRequest djb2 Facts.shortcutLength
        (retrieveAt io px (reach io px st history)) px.ext getDNSBasicRule q) := by
  have h' := C02.c02_storage io' px lists' hok' st' hnew' history' q
  have h := C02.c02_storage io px lists hok st hnew history q
  rw [hrules] at h'
  obtain ⟨a1, a2, a3, a4, a5⟩ := h'
  obtain ⟨b1, b2, b3, b4, b5⟩ := h
  exact ⟨fun t => (a1 t).trans (b1 t).symm, a2.trans b2.symm, fun x => (a3 x).trans (b3 x).symm,
    fun x => (a4 x).trans (b4 x).symm, a5.trans b5.symm⟩

/-- `CosmeticEngine.Match`: … the same generic and specific selector lists, as sets (C15 twice). -/
theorem c12_engine_cos (px : E.ParseExt) (lists lists' : List RList)
    (hrules : specRules px lists' = specRules px lists) (host : Bytes)
    (includeCSS includeJS includeGenericCSS : Bool) :
    (∀ c, c ∈ ((CosTable.build (storageCosRules px lists')).matchHost px.ext host includeCSS includeJS includeGenericCSS).1 ↔
          c ∈ ((CosTable.build (storageCosRules px lists)).matchHost px.ext host includeCSS includeJS includeGenericCSS).1) ∧
    (∀ c, c ∈ ((CosTable.build (storageCosRules px lists')).matchHost px.ext host includeCSS includeJS includeGenericCSS).2 ↔
          c ∈ ((CosTable.build (storageCosRules px lists)).matchHost px.ext host includeCSS includeJS includeGenericCSS).2) := by
  have h' := C15.c15_storage px lists' host includeCSS includeJS includeGenericCSS
  have h := C15.c15_storage px lists host includeCSS includeJS includeGenericCSS
  rw [hrules] at h'
  exact ⟨fun c => (h'.1 c).trans (h.1 c).symm, fun c => (h'.2 c).trans (h.2 c).symm⟩

/-! ### The property's sentence, from bytes -/

/-- **Inserting blank, comment or rejected lines anywhere in a list does not change any match
    result.**  `lists = pre ++ l :: post` with `l.content = x LF y`; the perturbed storage has the
    block `n` (every line of which is blank, a comment or rejected) inserted at that line boundary.  All
    three engines answer the same on both storages, for every request / hostname. -/
theorem c12_engine_insert (io io' : IO) (px : E.ParseExt) (pre post : List RList) (l : RList) (x n y : Bytes)
    (hn : NoiseBlock (realRx px) l.id n)
    (hok : StorageOK (pre ++ { l with content := x ++ 10 :: y } :: post))
    (hok' : StorageOK (pre ++ { l with content := x ++ 10 :: (n ++ 10 :: y) } :: post))
    (st st' : RuleStorage)
    (hnew : newRuleStorage (pre ++ { l with content := x ++ 10 :: y } :: post) = some st)
    (hnew' : newRuleStorage (pre ++ { l with content := x ++ 10 :: (n ++ 10 :: y) } :: post) = some st')
    (history history' : List (BitVec 64)) :
    let lists := pre ++ { l with content := x ++ 10 :: y } :: post
    let lists' := pre ++ { l with content := x ++ 10 :: (n ++ 10 :: y) } :: post
    (∀ q t,
      t ∈ ((Engine.build djb2 Facts.shortcutLength (storageNetRules px lists')).matchAll djb2 Facts.shortcutLength
            (retrieveNet (retrieveAt io' px (reach io' px st' history'))) px.ext q).map (·.text) ↔
      t ∈ ((Engine.build djb2 Facts.shortcutLength (storageNetRules px lists)).matchAll djb2 Facts.shortcutLength
            (retrieveNet (retrieveAt io px (reach io px st history))) px.ext q).map (·.text)) ∧
    (∀ q, DnsResult.Equiv
      ((DnsEngine.build djb2 Facts.shortcutLength (storageRulesI px lists')).matchRequest djb2 Facts.shortcutLength
        (retrieveAt io' px (reach io' px st' history')) px.ext getDNSBasicRule q)
      ((DnsEngine.build djb2 Facts.shortcutLength (storageRulesI px lists)).matchRequest djb2 Facts.shortcutLength
        (retrieveAt io px (reach io px st history)) px.ext getDNSBasicRule q)) ∧
    (∀ host css js gen,
      (∀ c, c ∈ ((CosTable.build (storageCosRules px lists')).matchHost px.ext host css js gen).1 ↔
            c ∈ ((CosTable.build (storageCosRules px lists)).matchHost px.ext host css js gen).1) ∧
      (∀ c, c ∈ ((CosTable.build (storageCosRules px lists')).matchHost px.ext host css js gen).2 ↔
            c ∈ ((CosTable.build (storageCosRules px lists)).matchHost px.ext host css js gen).2)) := by
  intro lists lists'
  have hrules : specRules px lists' = specRules px lists := c12_bytes_insert px pre post l x n y hn
  exact ⟨fun q t => c12_engine_net io io' px lists lists' hok hok' st st' hnew hnew' history history' hrules q t,
    fun q => c12_engine_dns io io' px lists lists' hok hok' st st' hnew hnew' history history' hrules q,
    fun host css js gen => c12_engine_cos px lists lists' hrules host css js gen⟩

/-- **Switching line endings does not change any match result.**  Any subset `sel` of the lists is
    rewritten from LF to CR LF; all three engines answer the same on both storages. -/
theorem c12_engine_crlf (io io' : IO) (px : E.ParseExt) (lists : List RList) (sel : RList → Bool)
    (hok : StorageOK lists)
    (hok' : StorageOK (lists.map fun l => if sel l then { l with content := crlf l.content } else l))
    (st st' : RuleStorage) (hnew : newRuleStorage lists = some st)
    (hnew' : newRuleStorage (lists.map fun l => if sel l then { l with content := crlf l.content } else l) = some st')
    (history history' : List (BitVec 64)) :
    let lists' := lists.map fun l => if sel l then { l with content := crlf l.content } else l
    (∀ q t,
      t ∈ ((Engine.build djb2 Facts.shortcutLength (storageNetRules px lists')).matchAll djb2 Facts.shortcutLength
            (retrieveNet (retrieveAt io' px (reach io' px st' history'))) px.ext q).map (·.text) ↔
      t ∈ ((Engine.build djb2 Facts.shortcutLength (storageNetRules px lists)).matchAll djb2 Facts.shortcutLength
            (retrieveNet (retrieveAt io px (reach io px st history))) px.ext q).map (·.text)) ∧
    (∀ q, DnsResult.Equiv
      ((DnsEngine.build djb2 Facts.shortcutLength (storageRulesI px lists')).matchRequest djb2 Facts.shortcutLength
        (retrieveAt io' px (reach io' px st' history')) px.ext getDNSBasicRule q)
      ((DnsEngine.build djb2 Facts.shortcutLength (storageRulesI px lists)).matchRequest djb2 Facts.shortcutLength
        (retrieveAt io px (reach io px st history)) px.ext getDNSBasicRule q)) ∧
    (∀ host css js gen,
      (∀ c, c ∈ ((CosTable.build (storageCosRules px lists')).matchHost px.ext host css js gen).1 ↔
            c ∈ ((CosTable.build (storageCosRules px lists)).matchHost px.ext host css js gen).1) ∧
      (∀ c, c ∈ ((CosTable.build (storageCosRules px lists')).matchHost px.ext host css js gen).2 ↔
            c ∈ ((CosTable.build (storageCosRules px lists)).matchHost px.ext host css js gen).2)) := by
  intro lists'
  have hrules : specRules px lists' = specRules px lists := c12_bytes_crlf px lists sel
  exact ⟨fun q t => c12_engine_net io io' px lists lists' hok hok' st st' hnew hnew' history history' hrules q t,
    fun q => c12_engine_dns io io' px lists lists' hok hok' st st' hnew hnew' history history' hrules q,
    fun host css js gen => c12_engine_cos px lists lists' hrules host css js gen⟩

/-! ### Non-vacuity -/

private def exPx : E.ParseExt :=
  { ext := { psl := fun _ => (lit "org", true), parseAddr := fun s => if s == lit "0.0.0.0" then some ⟨true, 0, []⟩ else none,
             parsePrefix := fun _ => none, pat := fun _ _ _ => true },
    loadDNSRewrite := fun _ => none, regexpShortcut := fun _ => [] }

private def exL : RList := ⟨1, false, [], false⟩

/-- A noise block of four lines: blank, a `!` comment, a `#` comment, a rejected rule. -/
example : (Storage.splitLines (lit "\n! comment\n# c\n||a.org^$unknown")).map (E.acceptedOf (realRx exPx) 1) =
    [none, none, none, none] := by
  rw [lit_ofList]
  decide +kernel

/-- Both sides of `c12_bytes_insert` computed: `/banner LF 0.0.0.0 b.org` with the block inserted
    parses to the same two rules. -/
example :
    (specRules exPx [{ exL with content := lit "/banner" ++ 10 :: (lit "\n! comment\n# c\n||a.org^$unknown" ++ 10 :: lit "0.0.0.0 b.org") }]).map
        (fun r => (r.text, r.listID)) = [(lit "/banner", 1), (lit "0.0.0.0 b.org", 1)] ∧
    (specRules exPx [{ exL with content := lit "/banner" ++ 10 :: lit "0.0.0.0 b.org" }]).map
        (fun r => (r.text, r.listID)) = [(lit "/banner", 1), (lit "0.0.0.0 b.org", 1)] := by
  rw [lit_ofList, lit_ofList, lit_ofList]
  decide +kernel

/-- `crlf` on concrete bytes, and both sides of `c12_bytes_crlf`. -/
example : crlf (lit "/banner\n##x\n") = lit "/banner\r\n##x\r\n" := by decide +kernel
example :
    (specRules exPx [{ exL with content := crlf (lit "/banner\n##x\n") }]).map (fun r => r.text) =
      [lit "/banner", lit "##x"] := by
  rw [lit_ofList, lit_ofList, lit_ofList]
  decide +kernel

/-- `StorageOK` of a perturbed storage is satisfiable. -/
example : StorageOK [{ exL with content := crlf (lit "/banner\n##x\n") }] := ⟨by decide +kernel, by decide +kernel, by decide +kernel⟩

end UF.C12
