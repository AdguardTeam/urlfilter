import UF.Proofs.ProgRun
import UF.Model.LockSections
import UF.Gen.Facts
/-
  C14 — engines can be queried concurrently: race-free and sequentially consistent.  PARTIAL BY NATURE.

  What is proved here is a statement about the abstract Prog model: for EVERY schedule of its atomic
  actions, every finished query returned the stateless answer.  That one critical section of the Go
  code is one atomic action of the model is an ASSUMPTION; it is compared on every run with the lock
  facts extracted from the source (`c14_fact_lock_table`, `c14_fact_sections_exist` here, the section-level
  obligations in Props/C14Sections.lean).  The Go memory model, the scheduler,
  sync.Mutex/RWMutex, sync.Pool, os.File and regexp internals are outside the model; the `-race` runs
  of the harness (bin/vconfig_groupf.py `c14_extra`) are exploration, not proof.
-/
namespace UF.C14
open UF UF.Prog

/-- An access row `(method, field, r|w, lock held)` is properly locked when it happens under the
    matching mutex: writes under `Lock`, reads under `Lock` or `RLock`. -/
def properlyLocked (row : String × String × String × String) : Bool :=
  let lock := row.2.2.2
  let kind := row.2.2.1
  ["Lock(recv)", "Lock(cacheMu)"].contains lock ||
    (kind == "r" && ["RLock(recv)", "RLock(cacheMu)"].contains lock)

/-- FACT (regenerated from /repo on every run, go/types over every package of the module: `Facts.p4Accesses`,
    harness/facts_p4.go): EVERY access to `RuleStorage.cache`, `FileRuleList.File/buffer`, `NetworkRule.regex/invalid`
    -- through a receiver, a local, a parameter, in a method, a free function or a closure -- is either one of the
    deliberately unlocked actions of the model (`unlockedActions`: the unlocked rows of the action table, matched
    with their function, plus the constructor's store of the opened file) or coincides, UP TO THE FUNCTION IT SITS
    IN, with a locked row of the action table: same field, same access kind, same lock -- held in the function itself
    or at every call site of the unexported helper it was extracted into.  So extracting a locked section, or a part
    of one, into a helper does not disturb the obligation (harmless/13, harmless/33), while dropping, narrowing or
    weakening a lock, or touching guarded state from a new unlocked place, does.
    (The stricter per-field criterion -- `File`/`buffer` need the exclusive side -- is
    `c14_fact_accesses_locked` in Props/C14Sections.lean.) -/
theorem c14_fact_lock_table :
    Facts.p4Accesses.all (fun r =>
      unlockedActions.contains (r.1, r.2.1, r.2.2.1) ||
      r.2.2.2.any (fun l => (actionTable.filter properlyLocked).any (fun row =>
        row.2 == (shortField r.2.1, r.2.2.1, shortLock l)))) = true := by decide +kernel

/-- …and every critical section the model's atomic actions stand for still exists in the code: each locked row of
    the action table has a critical section (`Facts.p4Sections`: one row per Lock/Unlock pair, module functions
    called inside it inlined) under that lock -- or, for the read side of `cacheMu`, under its write side -- that
    makes that access.  (Which accesses lie
    TOGETHER in one section is `c14_fact_model_sections_exist` / `c14_fact_sections_check_then_act`.) -/
theorem c14_fact_sections_exist :
    (actionTable.filter properlyLocked).all (fun row =>
      Facts.p4Sections.any (fun s => lockServes s.2.1 row.2.2.2 &&
        s.2.2.any (fun a => shortField a.1 == row.2.1 && a.2 == row.2.2.1))) = true := by decide +kernel

/-- Non-vacuity of the two obligations above: the row a helper extracted from the write-locked section yields is
    accepted whatever the helper is called; the same access with no lock held, or under the read side only, is not. -/
example :
    let ok := fun (r : String × String × String × List String) =>
      unlockedActions.contains (r.1, r.2.1, r.2.2.1) ||
      r.2.2.2.any (fun l => (actionTable.filter properlyLocked).any (fun row =>
        row.2 == (shortField r.2.1, r.2.2.1, shortLock l)))
    ok ("filterlist.RuleStorage.anyHelper", "RuleStorage.cache", "w", ["Lock(RuleStorage.cacheMu)/caller"]) = true ∧
    ok ("filterlist.peekCache", "RuleStorage.cache", "r", []) = false ∧
    ok ("filterlist.RuleStorage.anyHelper", "RuleStorage.cache", "w", ["RLock(RuleStorage.cacheMu)"]) = false := by decide +kernel

/-- FACT (go/ast over the packages urlfilter, lookup, filterlist, recomputed on every run): NO function on a
    query path -- reachable, in the name-based call graph, from an exported function or method that is neither a
    constructor `New*` nor the construction-time API `AddRule`/`TryAdd` -- assigns to, appends to, increments,
    deletes from or re-initialises a field of the struct types the model treats as immutable after construction
    (`DNSEngine.pool/lookupTable/networkEngine/rulesStorage/RulesCount`, `NetworkEngine.lookupTables/ruleStorage/
    RulesCount`, `RuleStorage.listsMap/lists/cacheMu`, the maps of the three lookup tables, the sequential table's
    slice, the cosmetic engine's tables), nor calls `AddRule`/`TryAdd`.  Helper extraction inside constructors
    does not disturb it; memoising into a table from `MatchAll` does. -/
theorem c14_fact_no_query_writes :
    Facts.fieldWriters.all (fun row => row.2.2.1 == "-" || postConstructionWriters.contains (row.1, row.2.1)) = true := by
  decide +kernel

/-- FACT: every writer of such a field is a constructor (`New*`/`new*`) or a function all of whose call sites
    inside the module lie in constructor-only functions (`addRule`, `AddRule`, `TryAdd` today).  What exported
    mutators do when a USER calls them after construction is outside the property. -/
theorem c14_fact_writers_constructor_only :
    Facts.fieldWriters.all (fun row => row.2.2.2 == "c" || postConstructionWriters.contains (row.1, row.2.1)) = true := by
  decide +kernel

/-- FACT: the extraction is not vacuous: every struct type the model freezes was found in the source, and each
    has a writer row (its constructor). -/
theorem c14_fact_frozen_types_found :
    frozenTypes.all (fun t => Facts.frozenTypes.contains t && Facts.ctorWrittenTypes.contains t) = true := by decide +kernel

/-- Sequential consistency of the model, for EVERY schedule: any number of concurrent queries `qs`,
    any list of thread ids of any length (a thread id may repeat arbitrarily, be starved, or not exist),
    from any state satisfying the shared invariant with no list closed: no thread crashes, and every thread
    that has finished returned `pureAnswer` of its query -- the answer a fresh engine gives sequentially
    (C13).  The lazy-compile cells are part of the state: two threads may race to `preparePattern` of one
    rule object; the loser of the mutex finds the winner's result, which `CellInv` says is its own. -/
theorem c14_sc {R Re : Type} (env : Env R Re) (s : State R Re) (qs : List Query) (sched : List Nat)
    (hs : SInv env s) (h0 : s.closed = []) :
    ∀ t ∈ (Config.run env ⟨s, qs.map Thread.init⟩ (sched.map Ev.run)).threads,
      t.pc ≠ .crash ∧ (t.pc = .done → t.answer = pureAnswer env t.q) := by
  have hinit : CInv (GoodEq env) env ⟨s, qs.map Thread.init⟩ ∧ (⟨s, qs.map Thread.init⟩ : Config R Re).state.closed = [] :=
    ⟨cinv_init _ env s qs hs (goodEq_init env), h0⟩
  have h := run_cinv_eq sched _ hinit
  intro t ht
  exact ⟨(h.1.2 t ht).1.2.2, fun hd => answer_of_goodEq rfl (h.1.2 t ht).1.1 (h.1.2 t ht).2 hd⟩

/-- The shared invariant holds after every schedule (so a later batch of queries starts from a good state). -/
theorem c14_sc_state {R Re : Type} (env : Env R Re) (s : State R Re) (qs : List Query) (sched : List Nat)
    (hs : SInv env s) (h0 : s.closed = []) :
    SInv env (Config.run env ⟨s, qs.map Thread.init⟩ (sched.map Ev.run)).state :=
  (run_cinv_eq sched _ ⟨cinv_init _ env s qs hs (goodEq_init env), h0⟩).1.1

/-- `matchPattern` reads `f.regex` OUTSIDE the rule mutex (the action `rx`), after its own call of
    `preparePattern` returned 1.  That read never finds nil, whatever the other threads do in between:
    no action of any thread changes a cell that is set (`CellsLe`), so `RxOK` -- established by the thread's
    own `prep` -- survives every interleaving. -/
theorem c14_regex_read_outside_lock {R Re : Type} (env : Env R Re) (s : State R Re) (t u : Thread R)
    (h : RxOK s t) : RxOK (step env s u).1 t :=
  rxOK_mono (step_spec env s u).cellsLe h

/-- The threads keep their queries: thread `i` of the final configuration still runs `qs[i]`. -/
theorem c14_sc_queries {R Re : Type} (env : Env R Re) (s : State R Re) (qs : List Query) (sched : List Ev) :
    (Config.run env ⟨s, qs.map Thread.init⟩ sched).threads.map (·.q) = qs := by
  rw [run_threads_q]; simp [List.map_map, Function.comp_def, Thread.init]

/-- No thread can be blocked by another: the actions are total, and from ANY shared state reached
    concurrently a started thread that is given `fuel` more actions of its own has finished (or crashed --
    which `c14_sc` excludes). -/
theorem c14_progress {R Re : Type} (env : Env R Re) (s : State R Re) (t : Thread R) (hs : t.pc ≠ .start) :
    (runThread env (t.fuel env) s t).2.pc = .done ∨ (runThread env (t.fuel env) s t).2.pc = .crash :=
  runThread_done env _ s t hs (Nat.le_refl _)

/-- Non-vacuity (1): two concurrent queries on a cold cache, interleaved action by action: both miss,
    both read, one inserts and the other adopts the inserted object, both meet at `preparePattern` of the same
    rule object (the first compiles, the second finds `regex` set) -- and both return the stateless answer. -/
example :
    let env : Env Nat Nat :=
      { truth := fun i => if i == 10 then some 7 else none, listOf := fun _ => 1, etld1 := id,
        cands := fun _ => [(true, 10)], hcands := fun _ => [], basic := fun _ => false,
        wants := fun _ _ => true, pre := fun _ _ => true, compile := fun _ => .re 5,
        accepts := fun x _ _ => x == 5, resident := [] }
    let q : Query := .web {}
    let c := Config.run env ⟨{}, [Thread.init q, Thread.init q]⟩
      ([0,1,0,1,0,1,0,1,0,1,0,1,0,1,0,1,0,1,0,1].map Ev.run)
    c.threads.map (fun t => (t.pc.isDone, t.answer)) = [(true, ([7], [])), (true, ([7], []))] ∧
      c.state.cache = [(10, 7)] ∧ c.state.cells (.st 10) = .compiled 5 := by decide +kernel

/-- Non-vacuity (2), the theorem DEPENDS on the assumed granularity: in the variant model where
    `Seek` and `readLine` are two separate actions (the list mutex of `FileRuleList.RetrieveRule`
    removed) there is a two-thread schedule on which thread 0, reading index 10, returns the line of
    index 20. -/
theorem c14_granularity_matters :
    let truth : Idx → Option Nat := fun i => if i == 10 then some 7 else if i == 20 then some 8 else none
    ∃ sched : List Nat,
      (frun truth {} [.seek 10, .seek 20] sched).2[0]? = some (.done (truth 20)) ∧ truth 20 ≠ truth 10 :=
  ⟨[0, 1, 0, 1], by decide +kernel⟩

end UF.C14
