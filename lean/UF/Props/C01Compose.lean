import UF.Compose.NetRules
import UF.Compose.Texts
import UF.Props.C01
import UF.Proofs.EngineDns
import UF.Proofs.Lit
/-
  C01 end to end, from the bytes of the filter lists to the answer of `NetworkEngine.MatchAll`: the list `L`
  of `c01` is `storageNetRules px lists` (storage scan with the model of `rules.NewRule`, packed storage
  indexes, retrieval through `RuleStorage.RetrieveRule` in any reachable cache state), and its four
  hypotheses are proved.  What remains a parameter is `px`: the oracles `Ext` and the `$dnsrewrite` value
  parser / regexp-shortcut finder (every statement holds for all functions in their place).
  `StorageOK lists`: pairwise distinct ids that fit int32, fewer than `MaxInt32` bytes in total.
-/
namespace UF.C01
open UF UF.B UF.Storage UF.Compose

/-- Hypothesis `RetrievalOK` of `c01`, discharged by C11 composed: in every reachable storage state. -/
theorem c01_storage_retrieval (io : IO) (px : E.ParseExt) (lists : List RList) (hok : StorageOK lists)
    (st : RuleStorage) (hnew : newRuleStorage lists = some st) (history : List (BitVec 64)) :
    RetrievalOK (retrieveNet (retrieveAt io px (reach io px st history))) (storageNetRules px lists) := by
  intro p hp
  have := retrievalOK_rules io px lists hok.listsOK st hnew history (.net p.1, p.2) (mem_storageNetRules.1 hp)
  simp only at this
  simp [retrieveNet, this]

/-- Hypothesis `DomainsWF`, discharged from the parser model: `loadDomains` accepts only `IsDomainName`
    values and `.*` values, so no permitted domain is empty or ends in a dot. -/
theorem c01_storage_domainsWF (px : E.ParseExt) (lists : List RList) :
    ∀ p ∈ storageNetRules px lists, DomainsWF p.1 :=
  fun _ hp => parseNetRule_domainsWF (storageNetRules_parse hp).1

/-- The same for every text `NewNetworkRule` accepts. -/
theorem c01_parser_domainsWF (px : E.ParseExt) (t : Bytes) (id : Int) (r : NetRule)
    (h : E.parseNetRule px t id = .ok r) : DomainsWF r := parseNetRule_domainsWF h

/-- Hypothesis `TextDeterminesRule`, discharged from the parser model: parsing is a function of the
    trimmed text, and the list id is only stored. -/
theorem c01_storage_textDetermines (px : E.ParseExt) (lists : List RList) :
    TextDeterminesRule (storageNetRules px lists) :=
  textDetermines_of_textDet (storage_textDet px lists) fun p hp =>
    (mem_netRulesOf _ _).2 (List.mem_map.2 ⟨(.net p.1, p.2), mem_storageNetRules.1 hp, rfl⟩)

/-- `NewNetworkRule` never reads the list id. -/
theorem c01_parser_listID (px : E.ParseExt) (t : Bytes) (i j : Int) :
    E.parseNetRule px t i = mapE (setID i) (E.parseNetRule px t j) := parseNetRule_setID px t i j

/-- Hypothesis `L.length < MaxInt32`, discharged from the size of the contents (every rule takes at least
    one byte of some list). -/
theorem c01_storage_length (px : E.ParseExt) (lists : List RList) (hok : StorageOK lists) :
    (storageNetRules px lists).length < maxInt32 :=
  Nat.lt_of_le_of_lt (Nat.le_trans (List.length_filterMap_le _ _) (storageRulesI_length_le px lists)) hok.size

/-- The list the engine is built from is, in order, the list of network rules obtained by splitting the
    contents at newlines and parsing every piece. -/
theorem c01_storage_rules (px : E.ParseExt) (lists : List RList) :
    (storageNetRules px lists).map (·.1) = netRulesOf (specRules px lists) := storageNetRules_eq_spec px lists

/-- C01 from bytes, every hash pair and window length. -/
theorem c01_storage_hash (hf : HashFns) (k : Nat) (hcoh : hf.Coherent k)
    (io : IO) (px : E.ParseExt) (lists : List RList) (hok : StorageOK lists)
    (st : RuleStorage) (hnew : newRuleStorage lists = some st) (history : List (BitVec 64))
    (q : Request) (t : Bytes) :
    t ∈ ((Engine.build hf k (storageNetRules px lists)).matchAll hf k
          (retrieveNet (retrieveAt io px (reach io px st history))) px.ext q).map (·.text) ↔
      t ∈ (specMatchAll px.ext (netRulesOf (specRules px lists)) q).map (·.text) := by
  rw [← storageNetRules_eq_spec]
  exact c01 hf k hcoh _ px.ext (storageNetRules px lists) q (c01_storage_length px lists hok)
    (c01_storage_retrieval io px lists hok st hnew history) (c01_storage_domainsWF px lists)
    (c01_storage_textDetermines px lists) t

/-- C01 END TO END, for the code as it is (djb2, generated `shortcutLength`): for all list contents, ids,
    backings, chunkings of the file reads, cache histories and requests, the texts `MatchAll` reports are
    exactly the texts of the network rules — obtained by parsing the lists line by line — that match. -/
theorem c01_storage (io : IO) (px : E.ParseExt) (lists : List RList) (hok : StorageOK lists)
    (st : RuleStorage) (hnew : newRuleStorage lists = some st) (history : List (BitVec 64))
    (q : Request) (t : Bytes) :
    t ∈ ((Engine.build djb2 Facts.shortcutLength (storageNetRules px lists)).matchAll djb2 Facts.shortcutLength
          (retrieveNet (retrieveAt io px (reach io px st history))) px.ext q).map (·.text) ↔
      t ∈ (specMatchAll px.ext (netRulesOf (specRules px lists)) q).map (·.text) :=
  c01_storage_hash djb2 Facts.shortcutLength (djb2_coherent _ (by decide)) io px lists hok st hnew history q t

/-- The same with the reference spelled out: `t` is reported iff some piece between two newlines of some
    list parses (`NewRule`) to a network rule with text `t` that matches the request. -/
theorem c01_storage_lines (io : IO) (px : E.ParseExt) (lists : List RList) (hok : StorageOK lists)
    (st : RuleStorage) (hnew : newRuleStorage lists = some st) (history : List (BitVec 64))
    (q : Request) (t : Bytes) :
    t ∈ ((Engine.build djb2 Facts.shortcutLength (storageNetRules px lists)).matchAll djb2 Facts.shortcutLength
          (retrieveNet (retrieveAt io px (reach io px st history))) px.ext q).map (·.text) ↔
      ∃ l ∈ lists, ∃ piece ∈ splitLines l.content, ∃ r : NetRule,
        E.newRule (realRx px) piece l.id = .ok (some (.net r)) ∧ r.matches px.ext q = true ∧ r.text = t := by
  rw [c01_storage io px lists hok st hnew history q t]
  simp only [specMatchAll, List.mem_map, List.mem_filter, mem_netRulesOf, mem_specRules]
  constructor
  · rintro ⟨r, ⟨⟨l, hl, piece, hp, hn, _⟩, hm⟩, rfl⟩
    exact ⟨l, hl, piece, hp, r, hn, hm, rfl⟩
  · rintro ⟨l, hl, piece, hp, r, hn, hm, rfl⟩
    exact ⟨r, ⟨⟨l, hl, piece, hp, hn, by simp [isCos]⟩, hm⟩, rfl⟩

/-- Order of the lists: any permutation of the lists gives the same reported texts (the insertion order
    drives the histogram and the bucket choice; the answer does not depend on it). -/
theorem c01_storage_perm (io : IO) (px : E.ParseExt) (lists lists' : List RList) (hperm : lists.Perm lists')
    (hok : StorageOK lists) (hok' : StorageOK lists')
    (st st' : RuleStorage) (hnew : newRuleStorage lists = some st) (hnew' : newRuleStorage lists' = some st')
    (history history' : List (BitVec 64)) (q : Request) (t : Bytes) :
    t ∈ ((Engine.build djb2 Facts.shortcutLength (storageNetRules px lists)).matchAll djb2 Facts.shortcutLength
          (retrieveNet (retrieveAt io px (reach io px st history))) px.ext q).map (·.text) ↔
    t ∈ ((Engine.build djb2 Facts.shortcutLength (storageNetRules px lists')).matchAll djb2 Facts.shortcutLength
          (retrieveNet (retrieveAt io px (reach io px st' history'))) px.ext q).map (·.text) := by
  rw [c01_storage_lines io px lists hok st hnew history q t,
      c01_storage_lines io px lists' hok' st' hnew' history' q t]
  simp only [hperm.mem_iff]

/-- Splits, ids, duplicates, noise, line ends: two storages whose accepted network rules carry the same SET
    OF TEXTS report the same texts for every request — however the lines are split across lists, whatever
    the list ids, the order, the multiplicities, the blank / comment / rejected / non-network lines between
    them and the line ends (this is C12's inertness and C01's "every split of the lists", from bytes). -/
theorem c01_storage_texts (io : IO) (px : E.ParseExt) (lists lists' : List RList)
    (hok : StorageOK lists) (hok' : StorageOK lists')
    (st st' : RuleStorage) (hnew : newRuleStorage lists = some st) (hnew' : newRuleStorage lists' = some st')
    (history history' : List (BitVec 64)) (q : Request)
    (h : ∀ t, t ∈ (netRulesOf (specRules px lists)).map (·.text) ↔ t ∈ (netRulesOf (specRules px lists')).map (·.text))
    (t : Bytes) :
    t ∈ ((Engine.build djb2 Facts.shortcutLength (storageNetRules px lists)).matchAll djb2 Facts.shortcutLength
          (retrieveNet (retrieveAt io px (reach io px st history))) px.ext q).map (·.text) ↔
    t ∈ ((Engine.build djb2 Facts.shortcutLength (storageNetRules px lists')).matchAll djb2 Facts.shortcutLength
          (retrieveNet (retrieveAt io px (reach io px st' history'))) px.ext q).map (·.text) := by
  rw [c01_storage io px lists hok st hnew history q t, c01_storage io px lists' hok' st' hnew' history' q t]
  have key : ∀ (A B : List RList),
      (∀ t, t ∈ (netRulesOf (specRules px A)).map (·.text) → t ∈ (netRulesOf (specRules px B)).map (·.text)) →
      t ∈ (specMatchAll px.ext (netRulesOf (specRules px A)) q).map (·.text) →
      t ∈ (specMatchAll px.ext (netRulesOf (specRules px B)) q).map (·.text) := by
    intro A B hAB ht
    obtain ⟨r, hr, rfl⟩ := List.mem_map.1 ht
    obtain ⟨hrA, hm⟩ := List.mem_filter.1 hr
    obtain ⟨r', hr', he⟩ := List.mem_map.1 (hAB r.text (List.mem_map.2 ⟨r, hrA, rfl⟩))
    have hs := parse_same_text (specRules_net_parse hrA) (specRules_net_parse hr') he.symm
    refine List.mem_map.2 ⟨r', List.mem_filter.2 ⟨hr', ?_⟩, he⟩
    rw [hs]
    exact hm
  exact ⟨key lists lists' (fun t => (h t).1), key lists' lists (fun t => (h t).2)⟩

/-- Backing and cache history do not matter: String- or File-backed in any mixture, any two histories. -/
theorem c01_storage_backing (io io' : IO) (px : E.ParseExt) (lists : List RList) (flags : RList → Bool)
    (hok : StorageOK lists) (hok' : StorageOK (lists.map fun l => { l with file := flags l }))
    (st st' : RuleStorage) (hnew : newRuleStorage lists = some st)
    (hnew' : newRuleStorage (lists.map fun l => { l with file := flags l }) = some st')
    (history history' : List (BitVec 64)) (q : Request) (t : Bytes) :
    t ∈ ((Engine.build djb2 Facts.shortcutLength (storageNetRules px lists)).matchAll djb2 Facts.shortcutLength
          (retrieveNet (retrieveAt io px (reach io px st history))) px.ext q).map (·.text) ↔
    t ∈ ((Engine.build djb2 Facts.shortcutLength
            (storageNetRules px (lists.map fun l => { l with file := flags l }))).matchAll djb2 Facts.shortcutLength
          (retrieveNet (retrieveAt io' px (reach io' px st' history'))) px.ext q).map (·.text) := by
  rw [c01_storage_lines io px lists hok st hnew history q t,
      c01_storage_lines io' px _ hok' st' hnew' history' q t]
  simp only [List.mem_map]
  constructor
  · rintro ⟨l, hl, rest⟩; exact ⟨{ l with file := flags l }, ⟨l, hl, rfl⟩, rest⟩
  · rintro ⟨l', ⟨l, hl, rfl⟩, rest⟩; exact ⟨l, hl, rest⟩

/-! ### Non-vacuity: a concrete storage satisfies `StorageOK`, yields network rules of all three tables,
    and the end-to-end answer is computed (two lists; CRLF; comment; hosts line; cosmetic rule; an invalid
    rule; a `$domain` rule; the same text in both lists). -/

private def exPx : E.ParseExt :=
  { ext := { psl := fun _ => (lit "org", true), parseAddr := fun s => if s == lit "0.0.0.0" then some ⟨true, 0, []⟩ else none,
             parsePrefix := fun _ => none, pat := fun _ _ _ => true },
    loadDNSRewrite := fun _ => none, regexpShortcut := fun _ => [] }

private def exLists : List RList :=
  [⟨1, false, lit "/banner\r\n! c\n0.0.0.0 b.org\n-ads-\n", false⟩,
   ⟨-2, true, lit "##x\n||$$\n/ad$domain=c.org\n-ads-", true⟩]

example : StorageOK exLists :=
  ⟨by decide +kernel, by decide +kernel, by unfold exLists; rw [lit_ofList, lit_ofList]; decide +kernel⟩

example : (storageNetRules exPx exLists).map (fun p => (p.1.text, p.1.listID, p.2)) =
    [(lit "/banner", 1, 4294967296), (lit "-ads-", 1, 4294967323),
     (lit "/ad$domain=c.org", -2, -8589934583), (lit "-ads-", -2, -8589934566)] := by
  unfold exLists
  rw [lit_ofList, lit_ofList, lit_ofList, lit_ofList, lit_ofList]
  decide +kernel

private def exQ : Request :=
  { url := lit "http://x.org/ad/-ads-/banner", urlLower := lit "http://x.org/ad/-ads-/banner", hostname := lit "x.org",
    sourceURL := lit "http://c.org/", sourceHostname := lit "c.org", reqType := 4, thirdParty := true }

/-- Both sides of `c01_storage` computed on the instance (with the pattern oracle "contains the pattern"):
    the engine (shortcut table first, then the domains table) and the line-by-line reference report the same
    texts, in different orders. -/
example :
    ((Engine.build djb2 Facts.shortcutLength (storageNetRules exPx exLists)).matchAll djb2 Facts.shortcutLength
        (retrieveNet (retrieveAt ⟨4096, fun _ => 3⟩ { exPx with ext := { exPx.ext with pat := fun p _ t => Bytes.hasSub t p } }
          ⟨exLists, []⟩)) { exPx.ext with pat := fun p _ t => Bytes.hasSub t p } exQ).map (fun r => (r.text, r.listID)) =
      [(lit "-ads-", 1), (lit "-ads-", -2), (lit "/banner", 1), (lit "/ad$domain=c.org", -2)] ∧
    (specMatchAll { exPx.ext with pat := fun p _ t => Bytes.hasSub t p } (netRulesOf (specRules exPx exLists)) exQ).map
        (fun r => (r.text, r.listID)) =
      [(lit "/banner", 1), (lit "-ads-", 1), (lit "/ad$domain=c.org", -2), (lit "-ads-", -2)] := by
  unfold exLists exQ
  rw [lit_ofList, lit_ofList, lit_ofList, lit_ofList, lit_ofList, lit_ofList, lit_ofList, lit_ofList, lit_ofList]
  decide +kernel

end UF.C01
