import UF.Compose4.EnvOfStorage
import UF.Compose3.WebTop
import UF.Compose3.CosTop
import UF.Proofs.ProgDegradedRun
/-
  `Prog.Query` is `dns | web` (`DNSEngine.MatchRequest`, `NetworkEngine.MatchAll`).  The property C13 also names
  `Engine.MatchRequest` and the cosmetic query; both are programs over the same machine and shared state.

  * `Engine.MatchRequest(r)` (engine.go:24-35): `MatchAll(r)`; if `r.SourceURL != ""`, `MatchAll` of the NEW
    request `rules.NewRequest(r.SourceURL, "", TypeDocument)` (no pool), starting in the state the first run
    left; then the pure `rules.NewMatchingResult` (`runMatchRequest`).
  * `Engine.GetCosmeticResult` → `CosmeticEngine.Match` (cosmeticengine.go:93-121): the cosmetic lookup table
    holds the `*rules.CosmeticRule` pointers themselves, filled once by `NewCosmeticEngine`, NOT storage indexes
    (`filterlist.RuleStorage` has no `RetrieveCosmeticRule`); `Match` touches neither the rule cache nor any
    lazily computed field and writes only its own fresh result.  So the cosmetic query leaves the shared state
    alone and returns a function of the immutable tables (`QCtx.cosmetic`); that these are written by
    constructors only is the fact obligation `c14_fact_writers_constructor_only`.
  * Two engines over ONE storage (as AdGuard Home builds them) share the rule cache and the rule objects in it,
    hence their lazy-compile cells, but not their tables, sequential-table objects or request pool: `World`.
-/
namespace UF.Compose4
open UF UF.B UF.Prog UF.Storage UF.Compose

variable {Re : Type}

/-- The parts of `urlfilter.Engine` that are not in `Prog.Env`. -/
structure QCtx where
  /-- `rules.NewRequest(r.SourceURL, "", rules.TypeDocument)` -/
  sourceReq : Request → Request
  /-- `CosmeticEngine.Match` after the flag decoding of `GetCosmeticResult`: a function of the immutable
      in-memory cosmetic tables -/
  cosmetic : Bytes → CosOpt → List Bytes × List Bytes

/-- An event of a history on the engines. -/
inductive QEv where
  /-- `DNSEngine.MatchRequest` -/
  | dns (d : DReq)
  /-- `NetworkEngine.MatchAll` -/
  | web (r : Request)
  /-- `Engine.MatchRequest` -/
  | matchRequest (r : Request)
  /-- `Engine.GetCosmeticResult` -/
  | cosmetic (hostname : Bytes) (opt : CosOpt)
  deriving Repr, Inhabited

/-- What an event answers. -/
inductive QAns where
  | rules (a : List Rule × List Rule)
  | result (m : MatchingResult)
  | cosmetic (c : List Bytes × List Bytes)
  deriving DecidableEq, Repr

/-- `Engine.MatchRequest(r)` as a program of the machine: two `MatchAll` runs on the shared state, then
    `NewMatchingResult`. -/
def runMatchRequest (env : Env Rule Re) (cx : QCtx) (s : State Rule Re) (r : Request) :
    State Rule Re × MatchingResult :=
  let p1 := runQuery env s (.web r)
  if r.sourceURL != [] then
    let p2 := runQuery env p1.1 (.web (cx.sourceReq r))
    (p2.1, newMatchingResult (netRulesOf p1.2.answer.1) (netRulesOf p2.2.answer.1))
  else (p1.1, newMatchingResult (netRulesOf p1.2.answer.1) [])

/-- One event on the shared state. -/
def runQEv (env : Env Rule Re) (cx : QCtx) (s : State Rule Re) : QEv → State Rule Re × QAns
  | .dns d => let p := runQuery env s (.dns d); (p.1, .rules p.2.answer)
  | .web r => let p := runQuery env s (.web r); (p.1, .rules p.2.answer)
  | .matchRequest r => let p := runMatchRequest env cx s r; (p.1, .result p.2)
  | .cosmetic h o => (s, .cosmetic (cx.cosmetic h o))

/-- A history of events; the answers in order. -/
def runQHistory (env : Env Rule Re) (cx : QCtx) : State Rule Re → List QEv → State Rule Re × List QAns
  | s, [] => (s, [])
  | s, e :: rest =>
    let p := runQEv env cx s e
    let q := runQHistory env cx p.1 rest
    (q.1, p.2 :: q.2)

/-- `Engine.MatchRequest` computed statelessly (no cache, no cells). -/
def pureMatchRequest (env : Env Rule Re) (cx : QCtx) (r : Request) : MatchingResult :=
  newMatchingResult (netRulesOf (pureAnswer env (.web r)).1)
    (if r.sourceURL != [] then netRulesOf (pureAnswer env (.web (cx.sourceReq r))).1 else [])

/-- The stateless answer of an event. -/
def pureQAns (env : Env Rule Re) (cx : QCtx) : QEv → QAns
  | .dns d => .rules (pureAnswer env (.dns d))
  | .web r => .rules (pureAnswer env (.web r))
  | .matchRequest r => .result (pureMatchRequest env cx r)
  | .cosmetic h o => .cosmetic (cx.cosmetic h o)

/-- What every event preserves when no list is closed. -/
def Clean (env : Env Rule Re) (s : State Rule Re) : Prop := SInv env s ∧ s.closed = []

theorem clean_init (env : Env Rule Re) : Clean env ({} : State Rule Re) := ⟨sinv_init env, rfl⟩

theorem runMatchRequest_pure {env : Env Rule Re} (cx : QCtx) {s : State Rule Re} (r : Request) (h : Clean env s) :
    (runMatchRequest env cx s r).2 = pureMatchRequest env cx r ∧ Clean env (runMatchRequest env cx s r).1 := by
  obtain ⟨_, a1, c1⟩ := runQuery_pure (env := env) (.web r) h.1 h.2
  obtain ⟨_, a2, c2⟩ := runQuery_pure (env := env) (.web (cx.sourceReq r)) c1.1 c1.2
  unfold runMatchRequest pureMatchRequest
  simp only
  split
  · exact ⟨by rw [a1, a2], c2⟩
  · exact ⟨by rw [a1], c1⟩

theorem runQEv_pure {env : Env Rule Re} (cx : QCtx) {s : State Rule Re} (e : QEv) (h : Clean env s) :
    (runQEv env cx s e).2 = pureQAns env cx e ∧ Clean env (runQEv env cx s e).1 := by
  cases e with
  | dns d =>
    obtain ⟨_, a, c⟩ := runQuery_pure (env := env) (.dns d) h.1 h.2
    exact ⟨by simp only [runQEv, pureQAns, a], c⟩
  | web r =>
    obtain ⟨_, a, c⟩ := runQuery_pure (env := env) (.web r) h.1 h.2
    exact ⟨by simp only [runQEv, pureQAns, a], c⟩
  | matchRequest r =>
    obtain ⟨a, c⟩ := runMatchRequest_pure cx r h; exact ⟨by simp only [runQEv, pureQAns, a], c⟩
  | cosmetic hn o => exact ⟨rfl, h⟩

theorem runQHistory_pure {env : Env Rule Re} (cx : QCtx) (es : List QEv) : ∀ {s : State Rule Re}, Clean env s →
    (runQHistory env cx s es).2 = es.map (pureQAns env cx) ∧ Clean env (runQHistory env cx s es).1 := by
  induction es with
  | nil => intro s h; exact ⟨rfl, h⟩
  | cons e rest ih =>
    intro s h
    obtain ⟨a, c⟩ := runQEv_pure cx e h
    obtain ⟨a', c'⟩ := ih c
    exact ⟨by simp only [runQHistory, List.map_cons, a, a'], c'⟩

/-- The `Engine` of engine.go over the lists: the referrer request, the cosmetic engine built from the storage scan. -/
def engineCtx (px : E.ParseExt) (lists : List RList) : QCtx :=
  ⟨Compose3.sourceRequestOf px.ext, Compose3.engineCosmeticResult px lists⟩

theorem netRules_pureAnswer_envNet (io : IO) (px : E.ParseExt) (lists : List RList) (pm : PatModel Re)
    (hpat : px.ext.pat = pm.pat) (st : RuleStorage) (hnew : newRuleStorage lists = some st)
    (history : List (BitVec 64)) (q : Request) :
    netRulesOf (pureAnswer (envNet io px lists pm) (.web q)).1 = Compose3.netMatchAll io px lists st history q := by
  rw [pureAnswer_envNet io px lists pm hpat st hnew history, netAnswer_web]
  simp only [netRulesOf_map_net]
  rfl

/-- The stateless `MatchRequest` on the machine instantiated with the network engine of the lists IS the top-level
    model of `Engine.MatchRequest` (`MatchAll`, `MatchAll` of the referrer, `NewMatchingResult`), whatever
    reachable cache states `history`, `history'` the two `MatchAll` calls find the storage in. -/
theorem pureMatchRequest_envNet (io : IO) (px : E.ParseExt) (lists : List RList) (pm : PatModel Re)
    (hpat : px.ext.pat = pm.pat) (st : RuleStorage) (hnew : newRuleStorage lists = some st)
    (history history' : List (BitVec 64)) (r : Request) :
    pureMatchRequest (envNet io px lists pm) (engineCtx px lists) r =
      Compose3.engineMatch io px lists st history history' r := by
  unfold pureMatchRequest Compose3.engineMatch
  simp only [engineCtx]
  rw [netRules_pureAnswer_envNet io px lists pm hpat st hnew history,
    netRules_pureAnswer_envNet io px lists pm hpat st hnew history']

/-- What the engine models answer for an event, from the bytes of the lists. -/
def engineQAns (io : IO) (px : E.ParseExt) (lists : List RList) (st : RuleStorage)
    (history history' : List (BitVec 64)) : QEv → QAns
  | .dns d => .rules (netAnswer io px lists st history (.dns d))
  | .web r => .rules (netAnswer io px lists st history (.web r))
  | .matchRequest r => .result (Compose3.engineMatch io px lists st history history' r)
  | .cosmetic h o => .cosmetic (Compose3.engineCosmeticResult px lists h o)

theorem pureQAns_envNet (io : IO) (px : E.ParseExt) (lists : List RList) (pm : PatModel Re)
    (hpat : px.ext.pat = pm.pat) (st : RuleStorage) (hnew : newRuleStorage lists = some st)
    (history history' : List (BitVec 64)) (e : QEv) :
    pureQAns (envNet io px lists pm) (engineCtx px lists) e = engineQAns io px lists st history history' e := by
  cases e with
  | dns d => simp only [pureQAns, engineQAns, pureAnswer_envNet io px lists pm hpat st hnew history]
  | web r => simp only [pureQAns, engineQAns, pureAnswer_envNet io px lists pm hpat st hnew history]
  | matchRequest r =>
    simp only [pureQAns, engineQAns, pureMatchRequest_envNet io px lists pm hpat st hnew history history']
  | cosmetic h o => rfl

/-- `to` sees the shared part of the state (rule cache, fault state, the lazy-compile cells of the cached rule
    objects) as `frm` left it, and keeps its own part (cells of its sequential table, request pool). -/
def share (frm to : State Rule Re) : State Rule Re :=
  { cache := frm.cache, closed := frm.closed,
    cells := fun ob => match ob with
      | .st _ => frm.cells ob
      | .seq _ => to.cells ob,
    pool := to.pool }

/-- Two environments read the same storage: same content, same compile function. -/
def SameStorage (e1 e2 : Env Rule Re) : Prop := e1.truth = e2.truth ∧ e1.compile = e2.compile

/-- The shared-state invariant transfers between engines over the same storage. -/
theorem clean_share {e1 e2 : Env Rule Re} (hss : SameStorage e1 e2) {s1 s2 : State Rule Re}
    (h1 : Clean e1 s1) (h2 : Clean e2 s2) : Clean e2 (share s1 s2) := by
  refine ⟨⟨?_, ?_⟩, h1.2⟩
  · intro idx r hm
    rw [← hss.1]; exact h1.1.1 idx r hm
  · intro ob
    cases ob with
    | st idx =>
      rcases h1.1.2 (.st idx) with h | ⟨r, hr, hc⟩
      · exact Or.inl h
      · refine Or.inr ⟨r, ?_, ?_⟩
        · simp only [Env.objRule] at hr ⊢; rw [← hss.1]; exact hr
        · show s1.cells (.st idx) = _; rw [← hss.2]; exact hc
    | seq k => exact h2.1.2 (.seq k)

/-- The state of an `Engine` and a `DNSEngine` built over ONE `RuleStorage`: each component is the machine
    state as that engine sees it; the shared part of the two is kept equal (`runWEv` copies it over after
    every event). -/
structure World (Re : Type) where
  web : State Rule Re := {}
  dns : State Rule Re := {}

/-- One event: DNS queries run on the DNS engine (`envD`), the others on the `Engine` (`envN`). -/
def runWEv (envN envD : Env Rule Re) (cx : QCtx) (w : World Re) : QEv → World Re × QAns
  | .dns d => let p := runQEv envD cx w.dns (.dns d); (⟨share p.1 w.web, p.1⟩, p.2)
  | e => let p := runQEv envN cx w.web e; (⟨p.1, share p.1 w.dns⟩, p.2)

def runWHistory (envN envD : Env Rule Re) (cx : QCtx) : World Re → List QEv → World Re × List QAns
  | w, [] => (w, [])
  | w, e :: rest =>
    let p := runWEv envN envD cx w e
    let q := runWHistory envN envD cx p.1 rest
    (q.1, p.2 :: q.2)

/-- The stateless answers of the two engines. -/
def pureWAns (envN envD : Env Rule Re) (cx : QCtx) : QEv → QAns
  | .dns d => pureQAns envD cx (.dns d)
  | e => pureQAns envN cx e

theorem runWEv_pure {envN envD : Env Rule Re} (hss : SameStorage envN envD) (cx : QCtx) {w : World Re} (e : QEv)
    (hn : Clean envN w.web) (hd : Clean envD w.dns) :
    (runWEv envN envD cx w e).2 = pureWAns envN envD cx e ∧
      Clean envN (runWEv envN envD cx w e).1.web ∧ Clean envD (runWEv envN envD cx w e).1.dns := by
  have hss' : SameStorage envD envN := ⟨hss.1.symm, hss.2.symm⟩
  cases e with
  | dns d =>
    obtain ⟨a, c⟩ := runQEv_pure cx (.dns d) hd
    exact ⟨a, clean_share hss' c hn, c⟩
  | web r =>
    obtain ⟨a, c⟩ := runQEv_pure cx (.web r) hn
    exact ⟨a, c, clean_share hss c hd⟩
  | matchRequest r =>
    obtain ⟨a, c⟩ := runQEv_pure cx (.matchRequest r) hn
    exact ⟨a, c, clean_share hss c hd⟩
  | cosmetic h o =>
    obtain ⟨a, c⟩ := runQEv_pure cx (.cosmetic h o) hn
    exact ⟨a, c, clean_share hss c hd⟩

theorem runWHistory_pure {envN envD : Env Rule Re} (hss : SameStorage envN envD) (cx : QCtx) (es : List QEv) :
    ∀ {w : World Re}, Clean envN w.web → Clean envD w.dns →
      (runWHistory envN envD cx w es).2 = es.map (pureWAns envN envD cx) := by
  induction es with
  | nil => intro w _ _; rfl
  | cons e rest ih =>
    intro w hn hd
    obtain ⟨a, cn, cd⟩ := runWEv_pure hss cx e hn hd
    simp only [runWHistory, List.map_cons, a, ih cn cd]

/-- What the engine models answer from the bytes of the lists for the pair (`Engine`, `DNSEngine`): DNS events on
    the DNS engine of the lists (hosts table, host-level network rules), the others on the `Engine`. -/
def worldQAns (io : IO) (px : E.ParseExt) (lists : List RList) (st : RuleStorage)
    (history history' : List (BitVec 64)) : QEv → QAns
  | .dns d => .rules (dnsAnswer io px lists st history (.dns d))
  | e => engineQAns io px lists st history history' e

theorem sameStorage_envNet_envDns (io : IO) (px : E.ParseExt) (lists : List RList) (pm : PatModel Re) :
    SameStorage (envNet io px lists pm) (envDns io px lists pm) := ⟨rfl, rfl⟩

end UF.Compose4
