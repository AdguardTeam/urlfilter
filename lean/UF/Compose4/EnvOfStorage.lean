import UF.Compose4.EnvOfEngine
import UF.Compose3.DnsTop
/-
  The environment of the state machine of C13/C14/C19 for the engines BUILT FROM THE
  BYTES OF THE LISTS over the storage model.

    truth i  = `lookupFull io px lists (int64 i)`: what `RuleStorage.RetrieveRule` yields on the unmodified
               lists, parsed by the modelled `rules.NewRule`.  By
               `retrieveFull_eq_lookup` this is what the storage model WITH ITS CACHE returns in every
               reachable cache state (`retrieveAt_reach`), so the engine answers below do not depend on the
               storage history either.
    listOf i = the list id packed in the upper half of the index.
    tables   = `DnsEngine.build` / `Engine.build` over the storage scan.
-/
namespace UF.Compose4
open UF UF.B UF.Prog UF.Storage UF.Compose

/-- The content-determined retrieval function of the lists (Go `int64` index). -/
def truthOf (io : IO) (px : E.ParseExt) (lists : List RList) (i : Int) : Option Rule :=
  lookupFull io px lists (BitVec.ofInt 64 i)

/-- The storage model with its cache, in ANY state reachable from a new storage by any history of retrievals,
    returns `truthOf`. -/
theorem retrieveAt_reach (io : IO) (px : E.ParseExt) (lists : List RList) (st : RuleStorage)
    (hnew : newRuleStorage lists = some st) (history : List (BitVec 64)) :
    retrieveAt io px (reach io px st history) = truthOf io px lists := by
  funext i
  obtain ⟨hinv, hl⟩ := reach_inv io px lists st hnew history
  unfold retrieveAt truthOf
  rw [retrieveFull_eq_lookup io px _ hinv, hl]

/-- `storageIdxToRuleListIdx(idx)`: the list id. -/
def listOfIdx (i : Int) : Int := (unpack (BitVec.ofInt 64 i)).1.toInt

variable {Re : Type}

/-- The DNS engine of the lists (`NewDNSEngine(storage)`) as the environment of the state machine. -/
def envDns (io : IO) (px : E.ParseExt) (lists : List RList) (pm : PatModel Re) : Env Rule Re :=
  envOf djb2 Facts.shortcutLength (truthOf io px lists) listOfIdx (Compose3.etld1Of px.ext) px.ext pm getDNSBasicRule
    (DnsEngine.build djb2 Facts.shortcutLength (storageRulesI px lists))

/-- The network engine of the lists (`NewNetworkEngine(storage)`; no hosts table). -/
def envNet (io : IO) (px : E.ParseExt) (lists : List RList) (pm : PatModel Re) : Env Rule Re :=
  envOf djb2 Facts.shortcutLength (truthOf io px lists) listOfIdx (Compose3.etld1Of px.ext) px.ext pm getDNSBasicRule
    ⟨Engine.build djb2 Facts.shortcutLength (storageNetRules px lists), []⟩

/-- What the DNS engine model answers, retrieving through the storage model in cache state
    `reach … history` (`Compose3.dnsEngineMatchRequest` is `dnsResultOf` of the `dns` case). -/
def dnsAnswer (io : IO) (px : E.ParseExt) (lists : List RList) (st : RuleStorage) (history : List (BitVec 64)) :
    Query → List Rule × List Rule :=
  engineAnswer djb2 Facts.shortcutLength (retrieveAt io px (reach io px st history)) (Compose3.etld1Of px.ext) px.ext
    getDNSBasicRule (DnsEngine.build djb2 Facts.shortcutLength (storageRulesI px lists))

/-- What the network engine model answers (`NetworkEngine.MatchAll`, the object of `c01_storage`). -/
def netAnswer (io : IO) (px : E.ParseExt) (lists : List RList) (st : RuleStorage) (history : List (BitVec 64)) :
    Query → List Rule × List Rule :=
  engineAnswer djb2 Facts.shortcutLength (retrieveAt io px (reach io px st history)) (Compose3.etld1Of px.ext) px.ext
    getDNSBasicRule ⟨Engine.build djb2 Facts.shortcutLength (storageNetRules px lists), []⟩

theorem pureAnswer_envDns (io : IO) (px : E.ParseExt) (lists : List RList) (pm : PatModel Re) (hpat : px.ext.pat = pm.pat)
    (st : RuleStorage) (hnew : newRuleStorage lists = some st) (history : List (BitVec 64)) (q : Query) :
    pureAnswer (envDns io px lists pm) q = dnsAnswer io px lists st history q := by
  unfold envDns dnsAnswer
  rw [pureAnswer_eq hpat, retrieveAt_reach io px lists st hnew history]

theorem pureAnswer_envNet (io : IO) (px : E.ParseExt) (lists : List RList) (pm : PatModel Re) (hpat : px.ext.pat = pm.pat)
    (st : RuleStorage) (hnew : newRuleStorage lists = some st) (history : List (BitVec 64)) (q : Query) :
    pureAnswer (envNet io px lists pm) q = netAnswer io px lists st history q := by
  unfold envNet netAnswer
  rw [pureAnswer_eq hpat, retrieveAt_reach io px lists st hnew history]

/-- `MatchAll` of the network engine of the lists (the left-hand side of `C01.c01_storage`). -/
theorem netAnswer_web (io : IO) (px : E.ParseExt) (lists : List RList) (st : RuleStorage) (history : List (BitVec 64))
    (q : Request) :
    netAnswer io px lists st history (.web q) =
      (((Engine.build djb2 Facts.shortcutLength (storageNetRules px lists)).matchAll djb2 Facts.shortcutLength
          (retrieveNet (retrieveAt io px (reach io px st history))) px.ext q).map Rule.net, []) := rfl

/-- A DNS query assembles to the top-level `dnsEngineMatchRequest`, for ANY pooled request `old`. -/
theorem dnsAnswer_dns (io : IO) (px : E.ParseExt) (lists : List RList) (st : RuleStorage) (history : List (BitVec 64))
    (old : Request) (d : DReq) (hd : d.hostname ≠ []) :
    dnsResultOf getDNSBasicRule (dnsAnswer io px lists st history (.dns d)) =
      Compose3.dnsEngineMatchRequest io px lists st history old d := by
  unfold dnsAnswer Compose3.dnsEngineMatchRequest Compose3.dnsRequestOf
  rw [dnsResultOf_engineAnswer _ _ _ _ _ _ _ _ hd, fillFromPool_default _ old d]

end UF.Compose4
