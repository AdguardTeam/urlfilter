import UF.Model.DnsEngine
import UF.Spec.DnsEngine
import UF.Proofs.ProgDegraded
/-
  The abstract environment `Prog.Env` of the state machine of C13/C14/C19 INSTANTIATED with the engine models.

    cands q    = for every window of the lower-cased URL the bucket of the shortcuts table (`true, idx`), then
                 for every dot-suffix of the source hostname the bucket of the domains table (`false, idx`) --
                 in the order `NetworkEngine.MatchAll` visits them;
    hcands q   = the bucket of the DNS engine's hosts table for the request's hostname;
    resident   = the rules of the sequential table;
    truth      = the retrieval function (parameter here; the storage model in `EnvOfStorage.lean`);
    wants      = the type assertions of `RetrieveNetworkRule` / `RetrieveHostRule`;
    pre        = the nine stateless checks of `NetworkRule.Match` / all of `HostRule.Match`;
    compile, accepts = a model `PatModel` of `preparePattern` + `MatchString`; `NetRule.matches` with the
                 pattern oracle `pm.pat` is `pre && patOK`;
    basic      = `GetDNSBasicRule(...) != nil`.

  `pureAnswer_eq`: the stateless answer of the state machine on this environment IS the answer of the engine
  models (`Engine.matchAll` as lists: the `ruleIn` de-duplication is part of both; for a DNS query it assembles to
  `DnsEngine.matchRequest`, `dnsResultOf_engineAnswer`).
-/
namespace UF.Compose4
open UF UF.B UF.Prog UF.Bytes

/-- A model of `preparePattern` (pattern, `$match-case` ↦ what is stored) and `regex.MatchString`. -/
structure PatModel (Re : Type) where
  compile : (pattern : Bytes) → (matchCase : Bool) → Comp Re
  accepts : Re → (target : Bytes) → Bool

/-- The pattern oracle a `PatModel` stands for (status 0 ⇒ true, -1 ⇒ false, 1 ⇒ `MatchString`). -/
def PatModel.pat {Re} (pm : PatModel Re) (pattern : Bytes) (matchCase : Bool) (target : Bytes) : Bool :=
  match pm.compile pattern matchCase with
  | .any => true
  | .re x => pm.accepts x target
  | .bad => false

/-- Every pattern oracle is a `PatModel` (the compiled object is the pair it was compiled from), so theorems
    stated "for every `pm` with `ext.pat = pm.pat`" cover every `ext`. -/
def PatModel.ofOracle (pat : Bytes → Bool → Bytes → Bool) : PatModel (Bytes × Bool) :=
  ⟨fun p mc => .re (p, mc), fun x t => pat x.1 x.2 t⟩

theorem PatModel.ofOracle_pat (pat : Bytes → Bool → Bytes → Bool) : (PatModel.ofOracle pat).pat = pat := rfl

/-- The nine checks of `NetworkRule.Match` before `matchPattern`. -/
def preNet (ext : Ext) (r : NetRule) (q : Request) : Bool :=
  matchShortcut r q &&
  !(r.isEnabled Facts.OptionThirdParty && !q.thirdParty) &&
  !(r.isDisabled Facts.OptionThirdParty && q.thirdParty) &&
  matchRequestType r q.reqType &&
  matchRequestDomain ext r q.hostname q.isHostnameRequest &&
  matchSourceDomain ext r q.sourceHostname &&
  matchDNSType r q.dnsType &&
  matchClientTags r q.sortedTags &&
  matchClient r q.clientName q.clientIP

/-- What `matchPattern` hands to `MatchString`. -/
def patTarget (r : NetRule) (q : Request) : Bytes := if shouldMatchHostname r q then q.hostname else q.url

/-- Candidates of the shortcuts table, in visiting order. -/
def scCands (hf : HashFns) (k : Nat) (t : ShortcutsTable) (url : Bytes) : List Int :=
  (List.range (url.length + 1 - k)).flatMap fun i => hget [] t.lookup (hf.hb url i (i + k))

/-- Candidates of the domains table, in visiting order. -/
def domCands (hf : HashFns) (t : DomainsTable) (srcHost : Bytes) : List Int :=
  if srcHost.isEmpty then [] else (getSubdomains srcHost).flatMap fun d => hget [] t.lookup (hf.h d)

def wantsOf : Src → Rule → Bool
  | .sc, .net _ => true
  | .dom, .net _ => true
  | .host, .host _ => true
  | _, _ => false

/-- The environment of a DNS engine (a network engine `e` alone is `⟨e, []⟩` with `web` queries). -/
def envOf {Re : Type} (hf : HashFns) (k : Nat) (truth : Int → Option Rule) (listOf : Int → Int) (etld1 : Bytes → Bytes)
    (ext : Ext) (pm : PatModel Re) (basic : List NetRule → Option NetRule) (d : DnsEngine) : Env Rule Re where
  truth := truth
  listOf := listOf
  etld1 := etld1
  cands := fun q => (scCands hf k d.net.sc q.urlLower).map (fun i => (true, i)) ++
    (domCands hf d.net.dom q.sourceHostname).map (fun i => (false, i))
  hcands := fun q => hget [] d.hosts (hf.h q.hostname)
  basic := fun rs => (basic (netRulesOf rs)).isSome
  wants := wantsOf
  pre := fun r q => match r with
    | .net n => preNet ext n q
    | .host h => hostRuleMatches h q.hostname
    | .cos _ => false
  compile := fun r => match r with
    | .net n => pm.compile n.pattern (n.isEnabled Facts.OptionMatchCase)
    | _ => .any
  accepts := fun x r q => match r with
    | .net n => pm.accepts x (patTarget n q)
    | _ => true
  resident := d.net.seq.map Rule.net

/-- What the engine models answer for a query: `NetworkEngine.MatchAll`, or the two stages of
    `DNSEngine.MatchRequest` (network rules; host rules of the hosts table unless a basic rule was found). -/
def engineAnswer (hf : HashFns) (k : Nat) (truth : Int → Option Rule) (etld1 : Bytes → Bytes) (ext : Ext)
    (basic : List NetRule → Option NetRule) (d : DnsEngine) : Query → List Rule × List Rule
  | .web q => ((d.net.matchAll hf k (retrieveNet truth) ext q).map Rule.net, [])
  | .dns dr =>
    if dr.hostname.isEmpty then ([], [])
    else
      let q := fillFromPool etld1 default dr
      let nrs := d.net.matchAll hf k (retrieveNet truth) ext q
      (nrs.map Rule.net, if (basic nrs).isSome then [] else (d.matchLookupTable hf truth q.hostname).map Rule.host)

/-- `DNSResult` assembled from (network rules, host rules). -/
def dnsResultOf (basic : List NetRule → Option NetRule) (a : List Rule × List Rule) : DnsResult :=
  let nrs := netRulesOf a.1
  match basic nrs with
  | some r => { networkRules := nrs, networkRule := some r, matched := true }
  | none =>
    let rr := hostRulesOf a.2
    if rr.isEmpty then { networkRules := nrs }
    else { networkRules := nrs, v4 := rr.filter (·.ip.is4), v6 := rr.filter (!·.ip.is4), matched := true }

variable {Re : Type}

section
variable {hf : HashFns} {k : Nat} {truth : Int → Option Rule} {listOf : Int → Int} {etld1 : Bytes → Bytes}
  {ext : Ext} {pm : PatModel Re} {basic : List NetRule → Option NetRule} {d : DnsEngine}

theorem envOf_hcands (q : Request) :
    (envOf hf k truth listOf etld1 ext pm basic d).hcands q = hget [] d.hosts (hf.h q.hostname) := rfl

theorem envOf_basic (rs : List Rule) :
    (envOf hf k truth listOf etld1 ext pm basic d).basic rs = (basic (netRulesOf rs)).isSome := rfl

/-- `Match` on the instance is `NetworkRule.Match` with the pattern oracle of the model. -/
theorem envOf_mtch_net (hpat : ext.pat = pm.pat) (n : NetRule) (q : Request) :
    (envOf hf k truth listOf etld1 ext pm basic d).mtch (.net n) q = n.matches ext q := by
  show _ = (preNet ext n q && matchPattern ext n q)
  simp only [Env.mtch, Env.patOK, envOf, matchPattern, hpat, PatModel.pat, patTarget]
  cases pm.compile n.pattern (n.isEnabled Facts.OptionMatchCase) <;> rfl

end

/-- A network rule whose index is in a bucket the request reaches, and which matches, is a matching candidate
    of the machine. -/
theorem envOf_net_candidate (hf : HashFns) (k : Nat) (truth : Int → Option Rule) (listOf : Int → Int) (etld1 : Bytes → Bytes)
    (ext : Ext) (pm : PatModel Re) (basic : List NetRule → Option NetRule) (d : DnsEngine) (hpat : ext.pat = pm.pat)
    {q : Request} {idx : Int} {n : NetRule}
    (hc : idx ∈ scCands hf k d.net.sc q.urlLower ∨ idx ∈ domCands hf d.net.dom q.sourceHostname)
    (hm : n.matches ext q = true) :
    ∃ b, (b, idx) ∈ (envOf hf k truth listOf etld1 ext pm basic d).cands q ∧
      (envOf hf k truth listOf etld1 ext pm basic d).wants (if b then .sc else .dom) (.net n) = true ∧
      (envOf hf k truth listOf etld1 ext pm basic d).mtch (.net n) q = true := by
  have hm' : (envOf hf k truth listOf etld1 ext pm basic d).mtch (.net n) q = true := (envOf_mtch_net hpat n q).trans hm
  rcases hc with hc | hc
  · exact ⟨true, List.mem_append_left _ (List.mem_map.2 ⟨idx, hc, rfl⟩), rfl, hm'⟩
  · exact ⟨false, List.mem_append_right _ (List.mem_map.2 ⟨idx, hc, rfl⟩), rfl, hm'⟩

theorem netRulesOf_map_net (l : List NetRule) : netRulesOf (l.map Rule.net) = l := by
  induction l with
  | nil => rfl
  | cons a t ih => simp only [List.map_cons, netRulesOf, List.filterMap_cons]; simpa [netRulesOf] using ih

theorem hostRulesOf_map_host (l : List HostRule) : hostRulesOf (l.map Rule.host) = l := by
  induction l with
  | nil => rfl
  | cons a t ih => simp only [List.map_cons, hostRulesOf, List.filterMap_cons]; simpa [hostRulesOf] using ih

theorem useStep_sc {R Re : Type} (env : Env R Re) (q : Request) (acc : List (Item × R)) (idx : Int) (r : R) :
    useStep env q acc .sc idx (some r) =
      if Prog.ruleIn idx acc then acc else if env.mtch r q then acc ++ [(Item.st .sc idx, r)] else acc := by
  simp only [useStep, Env.verdict, show (Src.sc == Src.sc) = true from rfl, show (Src.sc == Src.host) = false from rfl,
    Bool.true_and, Bool.false_eq_true, if_false]

theorem useStep_dom {R Re : Type} (env : Env R Re) (q : Request) (acc : List (Item × R)) (idx : Int) (r : R) :
    useStep env q acc .dom idx (some r) = if env.mtch r q then acc ++ [(Item.st .dom idx, r)] else acc := by
  simp only [useStep, Env.verdict, show (Src.dom == Src.sc) = false from rfl, show (Src.dom == Src.host) = false from rfl,
    Bool.false_and, Bool.false_eq_true, if_false]

theorem useStep_host {R Re : Type} (env : Env R Re) (q : Request) (acc : List (Item × R)) (idx : Int) (r : R) :
    useStep env q acc .host idx (some r) = if env.pre r q then acc ++ [(Item.st .host idx, r)] else acc := by
  simp only [useStep, Env.verdict, show (Src.host == Src.sc) = false from rfl, show (Src.host == Src.host) = true from rfl,
    Bool.false_and, Bool.false_eq_true, if_false, if_true]

theorem useStep_none {R Re : Type} (env : Env R Re) (q : Request) (acc : List (Item × R)) (src : Src) (idx : Int) :
    useStep env q acc src idx none = acc := rfl

/-- The type assertion of `RetrieveNetworkRule` … -/
theorem filter_wantsOf_net (truth : Int → Option Rule) {src : Src} (h : src ≠ .host) (idx : Int) :
    (truth idx).filter (wantsOf src) = (retrieveNet truth idx).map Rule.net := by
  unfold retrieveNet
  cases truth idx with
  | none => rfl
  | some r => cases r <;> cases src <;> first | rfl | exact absurd rfl h

/-- … and of `RetrieveHostRule`. -/
theorem filter_wantsOf_host (truth : Int → Option Rule) (idx : Int) :
    (truth idx).filter (wantsOf .host) = (retrieveHost truth idx).map Rule.host := by
  unfold retrieveHost
  cases truth idx with
  | none => rfl
  | some r => cases r <;> rfl

/-- Items outside the shortcuts table are independent of each other: the fold collects what each of them
    collects on its own. -/
theorem pureFold_flatMap {R α : Type} (env : Env R Re) (q : Request) (f : α → Item) (hf : ∀ a idx, f a ≠ .st .sc idx)
    (l : List α) : pureFold env q [] (l.map f) = l.flatMap fun a => pureStep env q [] (f a) := by
  induction l with
  | nil => rfl
  | cons a rest ih =>
    rw [List.map_cons, pureFold_cons, pureFold_append_of_not_sc env q _ (by
      intro it hit idx; obtain ⟨b, _, rfl⟩ := List.mem_map.1 hit; exact hf b idx), ih, List.flatMap_cons]

section
variable {hf : HashFns} {k : Nat} {truth : Int → Option Rule} {listOf : Int → Int} {etld1 : Bytes → Bytes}
  {ext : Ext} {pm : PatModel Re} {basic : List NetRule → Option NetRule} {d : DnsEngine} (hpat : ext.pat = pm.pat)
  (q : Request)

def tagSc (res : List (Int × NetRule)) : List (Item × Rule) := res.map fun p => (Item.st .sc p.1, Rule.net p.2)

theorem item_sc_beq (a b : Int) : (Item.st Src.sc a == Item.st Src.sc b) = (a == b) := by
  by_cases h : a = b
  · subst h; simp
  · rw [beq_eq_false_iff_ne.2 h, beq_eq_false_iff_ne.2 (fun h' => h (by injection h'))]

theorem ruleIn_tagSc (idx : Int) (res : List (Int × NetRule)) : Prog.ruleIn idx (tagSc res) = B.ruleIn idx res := by
  induction res with
  | nil => rfl
  | cons p rest ih =>
    simp only [Prog.ruleIn, tagSc, B.ruleIn, List.map_cons, List.any_cons] at ih ⊢
    rw [ih, item_sc_beq]

include hpat in
/-- One candidate of the shortcuts table. -/
theorem pureStep_sc (res : List (Int × NetRule)) (idx : Int) :
    pureStep (envOf hf k truth listOf etld1 ext pm basic d) q (tagSc res) (.st .sc idx) =
      tagSc (scStep (retrieveNet truth) (fun r => r.matches ext q) res idx) := by
  show useStep _ q _ .sc idx ((truth idx).filter (wantsOf .sc)) = _
  rw [filter_wantsOf_net truth (by simp), scStep]
  cases retrieveNet truth idx with
  | none => rfl
  | some n =>
    show useStep _ q _ .sc idx (some (Rule.net n)) = _
    rw [useStep_sc, ruleIn_tagSc, envOf_mtch_net hpat]
    cases hin : B.ruleIn idx res <;> cases hm : n.matches ext q <;> simp [tagSc, hm]

include hpat in
/-- The shortcuts table: its candidates in visiting order, with `ruleIn`. -/
theorem pureFold_sc (cands : List Int) : ∀ (res : List (Int × NetRule)),
    pureFold (envOf hf k truth listOf etld1 ext pm basic d) q (tagSc res) (cands.map (Item.st .sc)) =
      tagSc (cands.foldl (scStep (retrieveNet truth) (fun r => r.matches ext q)) res) := by
  induction cands with
  | nil => intro res; rfl
  | cons i rest ih =>
    intro res
    simp only [List.map_cons, pureFold_cons, List.foldl_cons]
    rw [pureStep_sc hpat q, ih]

include hpat in
/-- One candidate of the domains table: `RetrieveNetworkRule`, nil check, `Match`. -/
theorem pureStep_dom (i : Int) :
    pureStep (envOf hf k truth listOf etld1 ext pm basic d) q [] (.st .dom i) =
      (retrieveMatching (retrieveNet truth) (fun r => r.matches ext q) i).toList.map
        fun n => (Item.st .dom i, Rule.net n) := by
  show useStep _ q [] .dom i ((truth i).filter (wantsOf .dom)) = _
  rw [filter_wantsOf_net truth (by simp), retrieveMatching]
  cases retrieveNet truth i with
  | none => rfl
  | some n =>
    show useStep _ q [] .dom i (some (Rule.net n)) = _
    rw [useStep_dom, envOf_mtch_net hpat]
    cases hm : n.matches ext q <;> simp [hm]

/-- One candidate of the hosts table: `RetrieveHostRule`, nil check, `HostRule.Match`. -/
theorem pureStep_hostItem (i : Int) :
    pureStep (envOf hf k truth listOf etld1 ext pm basic d) q [] (.st .host i) =
      (match retrieveHost truth i with
        | some hr => if hostRuleMatches hr q.hostname then some hr else none
        | none => none).toList.map fun hr => (Item.st .host i, Rule.host hr) := by
  show useStep _ q [] .host i ((truth i).filter (wantsOf .host)) = _
  rw [filter_wantsOf_host]
  cases retrieveHost truth i with
  | none => rfl
  | some hr =>
    show useStep _ q [] .host i (some (Rule.host hr)) = _
    rw [useStep_host]
    show (if hostRuleMatches hr q.hostname = true then _ else _) = _
    cases hm : hostRuleMatches hr q.hostname <;> simp [hm]

include hpat in
/-- One entry of the sequential table. -/
theorem pureStep_seq (j : Nat) :
    pureStep (envOf hf k truth listOf etld1 ext pm basic d) q [] (.seq j) =
      ((d.net.seq[j]?).filter fun r => r.matches ext q).toList.map fun n => (Item.seq j, Rule.net n) := by
  show seqStep _ q [] j = _
  unfold seqStep
  rw [show (envOf hf k truth listOf etld1 ext pm basic d).resident[j]? = (d.net.seq[j]?).map Rule.net from
    List.getElem?_map ..]
  cases d.net.seq[j]? with
  | none => rfl
  | some n =>
    simp only [Option.map_some, envOf_mtch_net hpat]
    cases hm : n.matches ext q <;> simp [Option.filter, hm]

theorem flatMap_toList_map {α β γ : Type} (rm : α → Option β) (f : β → γ) (l : List α) :
    (l.flatMap fun i => (rm i).toList.map f) = (l.filterMap rm).map f := by
  induction l with
  | nil => rfl
  | cons a t ih => rw [List.flatMap_cons, ih, List.filterMap_cons]; cases rm a <;> rfl

theorem flatMap_range_filter {α β : Type} (m : α → Bool) (g : α → β) (l : List α) :
    ((List.range l.length).flatMap fun j => ((l[j]?).filter m).toList.map g) = (l.filter m).map g := by
  induction l with
  | nil => rfl
  | cons a t ih =>
    rw [List.length_cons, List.range_succ_eq_map, List.flatMap_cons, List.flatMap_map]
    simp only [List.getElem?_cons_zero, List.getElem?_cons_succ, List.filter_cons]
    rw [ih]
    cases h : m a <;> simp [Option.filter, h]

/-- `DomainsTable.MatchAll` visits the candidates in order. -/
theorem matchAllG_eq_domCands (retrieve : Int → Option NetRule) (m : NetRule → Bool) (t : DomainsTable) (srcHost : Bytes) :
    t.matchAllG hf retrieve m srcHost = (domCands hf t srcHost).filterMap (retrieveMatching retrieve m) := by
  unfold DomainsTable.matchAllG domCands
  split
  · rfl
  · rw [List.filterMap_flatMap]

theorem hosts_of_host (acc : List (Item × Rule)) (h : ∀ e ∈ acc, e.1.isHost = true) : hosts acc = acc.map (·.2) := by
  simp only [hosts]
  rw [List.filter_eq_self.2 (fun e he => h e he)]

include hpat in
/-- THE FIRST STAGE IS `NetworkEngine.MatchAll`: same rules, same order, same multiplicities. -/
theorem pure1_eq :
    nets (pure1 (envOf hf k truth listOf etld1 ext pm basic d) q) =
      (d.net.matchAll hf k (retrieveNet truth) ext q).map Rule.net := by
  have hitems : (envOf hf k truth listOf etld1 ext pm basic d).items1 q =
      (scCands hf k d.net.sc q.urlLower).map (Item.st .sc) ++
      ((domCands hf d.net.dom q.sourceHostname).map (Item.st .dom) ++ (List.range d.net.seq.length).map Item.seq) := by
    simp [Env.items1, envOf, List.map_append, List.map_map, Function.comp_def]
  have hsc : pureFold (envOf hf k truth listOf etld1 ext pm basic d) q []
      ((scCands hf k d.net.sc q.urlLower).map (Item.st .sc)) =
      tagSc (d.net.sc.matchAllG hf k (retrieveNet truth) (fun r => r.matches ext q) q.urlLower) := by
    rw [show ([] : List (Item × Rule)) = tagSc [] from rfl, pureFold_sc hpat q]
    unfold scCands ShortcutsTable.matchAllG
    rw [List.foldl_flatMap]
  have hdom : (pureFold (envOf hf k truth listOf etld1 ext pm basic d) q []
      ((domCands hf d.net.dom q.sourceHostname).map (Item.st .dom))).map (·.2) =
      (d.net.dom.matchAllG hf (retrieveNet truth) (fun r => r.matches ext q) q.sourceHostname).map Rule.net := by
    rw [pureFold_flatMap _ q _ (by simp), matchAllG_eq_domCands, ← flatMap_toList_map, List.map_flatMap]
    simp only [pureStep_dom hpat q, List.map_map, Function.comp_def]
  have hseq : (pureFold (envOf hf k truth listOf etld1 ext pm basic d) q []
      ((List.range d.net.seq.length).map Item.seq)).map (·.2) =
      (d.net.seq.filter fun r => r.matches ext q).map Rule.net := by
    rw [pureFold_flatMap _ q _ (by simp), ← flatMap_range_filter, List.map_flatMap]
    simp only [pureStep_seq hpat q, List.map_map, Function.comp_def]
  have hns : ∀ it ∈ (domCands hf d.net.dom q.sourceHostname).map (Item.st .dom) ++
      (List.range d.net.seq.length).map Item.seq, ∀ idx, it ≠ .st .sc idx := by
    intro it hit idx
    simp only [List.mem_append, List.mem_map] at hit
    rcases hit with ⟨j, _, rfl⟩ | ⟨j, _, rfl⟩ <;> simp
  rw [nets_pure1]
  unfold pure1
  rw [hitems, pureFold_append, hsc, pureFold_append_of_not_sc _ q _ hns, pureFold_append,
    pureFold_append_of_not_sc _ q _ (by intro it hit idx; obtain ⟨j, _, rfl⟩ := List.mem_map.1 hit; simp),
    List.map_append, List.map_append, hdom, hseq]
  simp [tagSc, Engine.matchAll, Engine.matchAllG, List.map_map, Function.comp_def]

/-- The hosts table as the fault-tolerant reference of C19 sees it. -/
theorem pureHosts_eq :
    pureHosts (envOf hf k truth listOf etld1 ext pm basic d) q = (d.matchLookupTable hf truth q.hostname).map Rule.host := by
  unfold pureHosts DnsEngine.matchLookupTable
  rw [envOf_hcands, pureFold_flatMap _ q _ (by simp), ← flatMap_toList_map, hosts_of_host, List.map_flatMap]
  · simp only [pureStep_hostItem, List.map_map, Function.comp_def]; rfl
  · intro e he
    simp only [pureStep_hostItem, List.mem_flatMap, List.mem_map] at he
    obtain ⟨i, _, hr, _, rfl⟩ := he
    rfl

include hpat in
/-- THE STATELESS ANSWER OF THE STATE MACHINE IS THE ANSWER OF THE ENGINE MODELS. -/
theorem pureAnswer_eq (qu : Query) :
    pureAnswer (envOf hf k truth listOf etld1 ext pm basic d) qu = engineAnswer hf k truth etld1 ext basic d qu := by
  cases hq : qu.trivial with
  | true =>
    cases qu with
    | web w => cases hq
    | dns dr => simp only [pureAnswer, hq, if_true, engineAnswer, show dr.hostname.isEmpty = true from hq]
  | false =>
    have hreq : ∀ dr, (envOf hf k truth listOf etld1 ext pm basic d).reqOf (.dns dr) = fillFromPool etld1 default dr :=
      fun _ => rfl
    refine Prod.ext ?_ ?_
    · rw [pureAnswer_nets _ qu hq, pure1_eq hpat]
      cases qu with
      | web w => rfl
      | dns dr => simp only [engineAnswer, show dr.hostname.isEmpty = false from hq]; rfl
    · rw [pureAnswer_hosts _ qu hq, pure1_eq hpat]
      cases qu with
      | web w => rfl
      | dns dr =>
        simp only [engineAnswer, show dr.hostname.isEmpty = false from hq, Bool.false_eq_true, if_false, Env.items2,
          envOf_basic, netRulesOf_map_net, hreq]
        split
        · rfl
        · exact pureHosts_eq _

end

/-- For a DNS query the pair assembles to `DnsEngine.matchRequest`. -/
theorem dnsResultOf_engineAnswer (hf : HashFns) (k : Nat) (truth : Int → Option Rule) (etld1 : Bytes → Bytes) (ext : Ext)
    (basic : List NetRule → Option NetRule) (d : DnsEngine) (dr : DReq) (hd : dr.hostname ≠ []) :
    dnsResultOf basic (engineAnswer hf k truth etld1 ext basic d (.dns dr)) =
      d.matchRequest hf k truth ext basic (fillFromPool etld1 default dr) := by
  have hne : dr.hostname.isEmpty = false := by cases h : dr.hostname with | nil => exact absurd h hd | cons => rfl
  simp only [engineAnswer, hne, Bool.false_eq_true, if_false, dnsResultOf, DnsEngine.matchRequest, fillFromPool_hostname,
    netRulesOf_map_net]
  cases hb : basic (d.net.matchAll hf k (retrieveNet truth) ext (fillFromPool etld1 default dr)) with
  | some r => simp
  | none => simp [hostRulesOf_map_host]

end UF.Compose4
