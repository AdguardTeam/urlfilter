import UF.Compose4.EnvOfStorage
/-
  The rule cache of the state machine `UF.Prog` IS the cache of the storage model.

  `Prog` splits `RuleStorage.RetrieveRule` into the atomic actions `get` (cache probe under RLock), `read`
  (the list) and `put` (insert under Lock), with its own cache `List (Int × Rule)` of rule OBJECTS.  The storage
  model `Storage.retrieveRule` is one function on `RuleStorage` whose cache holds `(BitVec 64 × Option SRule)`
  (the projection of a rule, or the typed nil of a failed parse).  `retrieve_refines`: from related states
  (`CacheRel`: the state machine's cache serves exactly what the storage's cache serves), the retrieval
  sub-program of the state machine run alone returns the pointer `retrieveFull` returns (before the type
  assertion of the table) and ends in related states.  The statement is about ONE retrieval; it is not iterated over
  a history here.
-/
namespace UF.Compose4
open UF UF.B UF.Prog UF.Storage UF.Compose

/-- What the storage's cache serves for a key (the rule object behind a cached projection). -/
def served (px : E.ParseExt) (st : RuleStorage) (k : BitVec 64) : Option Rule :=
  match st.cache.lookup k with
  | some (some sr) => materialize (realRx px) sr
  | _ => none

/-- The state machine's cache is the abstraction of the storage's cache (keys are Go `int64`s). -/
def CacheRel (px : E.ParseExt) (st : RuleStorage) (c : List (Int × Rule)) : Prop :=
  ∀ k : BitVec 64, cacheLookup c k.toInt = served px st k

theorem cacheRel_new (px : E.ParseExt) (lists : List RList) : CacheRel px ⟨lists, []⟩ [] := by
  intro k; rfl

variable {Re : Type}

/-- The retrieval sub-program: `get`; on a miss `read`; on a successful read `put`. -/
def retrieveProg (env : Env Rule Re) (s : State Rule Re) (t : Thread Rule) (src : Src) (i : Int) :
    State Rule Re × Thread Rule :=
  let p1 := step env s { t with pc := .get src i }
  match p1.2.pc with
  | .read _ _ =>
    let p2 := step env p1.1 p1.2
    match p2.2.pc with
    | .put _ _ _ => step env p2.1 p2.2
    | _ => p2
  | _ => p1

/-- The machine side: the pointer is what the cache serves, or else what the lists hold (nothing is closed),
    and that is what the cache serves afterwards. -/
theorem retrieveProg_spec (env : Env Rule Re) (s : State Rule Re) (t : Thread Rule) (src : Src) (i : Int)
    (h0 : s.closed = []) :
    (retrieveProg env s t src i).2.pc = .use src i (((cacheLookup s.cache i).or (env.truth i)).filter (env.wants src)) ∧
      (∀ j, cacheLookup (retrieveProg env s t src i).1.cache j =
        if j = i then (cacheLookup s.cache i).or (env.truth i) else cacheLookup s.cache j) ∧
      (retrieveProg env s t src i).1.closed = [] := by
  cases hlk : cacheLookup s.cache i with
  | some r =>
    simp only [retrieveProg, step, stepG, hlk]
    exact ⟨by first | trivial | rfl, fun j => by split <;> simp [*], by first | trivial | exact h0⟩
  | none =>
    cases htr : env.truth i with
    | none =>
      simp only [retrieveProg, step, stepG, hlk, h0, List.contains_nil, Bool.false_eq_true, if_false, htr]
      exact ⟨by first | trivial | rfl, fun j => by split <;> simp [*], by first | trivial | exact h0⟩
    | some r =>
      simp only [retrieveProg, step, stepG, hlk, h0, List.contains_nil, Bool.false_eq_true, if_false, htr]
      exact ⟨by first | trivial | rfl, fun j => cacheLookup_cacheInsert _ _ _ _, by first | trivial | exact h0⟩

/-- The storage side, the cache after `RetrieveRule`. -/
theorem retrieveRule_cache (io : IO) (parse : Parser) (st : RuleStorage) (k : BitVec 64) :
    (retrieveRule io parse st k).2.cache =
      match st.cache.lookup k with
      | some _ => st.cache
      | none =>
        match lookupRule io parse st.lists k with
        | .rule r => (k, some r) :: st.cache
        | .bad => (k, none) :: st.cache
        | _ => st.cache := by
  unfold retrieveRule lookupRule
  cases st.cache.lookup k with
  | some v => cases v <;> rfl
  | none =>
    simp only
    cases findList st.lists (unpack k).1.toInt with
    | none => rfl
    | some l => simp only; cases l.retrieve io parse (unpack k).2.toInt <;> rfl

/-- What the storage's cache holds under a key is what the lists answer for it. -/
theorem served_of_cached {io : IO} {px : E.ParseExt} {st : RuleStorage} (hinv : Storage.CacheInv io (realParser px) st)
    {k : BitVec 64} {v : Option SRule} (hc : st.cache.lookup k = some v) :
    served px st k = lookupFull io px st.lists k := by
  unfold served lookupFull
  rw [hc, hinv k v hc]
  cases v <;> rfl

theorem served_lookupFull {io : IO} {px : E.ParseExt} {st : RuleStorage} (hinv : Storage.CacheInv io (realParser px) st)
    (k : BitVec 64) : (served px st k).or (lookupFull io px st.lists k) = lookupFull io px st.lists k := by
  cases hc : st.cache.lookup k with
  | none => simp [served, hc]
  | some v => rw [served_of_cached hinv hc, Option.or_self]

/-- After a retrieval the storage's cache serves the retrieved pointer under that key, and what it served
    before under the others. -/
theorem served_retrieveFull {io : IO} {px : E.ParseExt} {st : RuleStorage} (hinv : Storage.CacheInv io (realParser px) st)
    (k k' : BitVec 64) :
    served px (retrieveFull io px st k).2 k' =
      if k' = k then lookupFull io px st.lists k else served px st k' := by
  cases hc : st.cache.lookup k with
  | some v =>
    have : served px (retrieveFull io px st k).2 k' = served px st k' := by
      simp only [served, retrieveFull, retrieveRule_cache, hc]
    rw [this]
    split
    · next e => rw [e, served_of_cached hinv hc]
    · rfl
  | none =>
    simp only [served, lookupFull, retrieveFull, retrieveRule_cache, hc]
    by_cases e : k' = k
    · subst e
      cases lookupRule io (realParser px) st.lists k' <;> simp [hc]
    · cases lookupRule io (realParser px) st.lists k <;> simp [lookup_cons_eq, e]

/-- ONE RETRIEVAL: the state machine's `get / read / put` and the storage model's `retrieveRule` (+ the rule object,
    `retrieveFull`) return the same pointer and keep the caches related.  `env` is any environment whose `truth`
    is the storage's content-determined retrieval (`envDns`, `envNet`); `i` is a Go `int64`. -/
theorem retrieve_refines (io : IO) (px : E.ParseExt) (lists : List RList) (env : Env Rule Re)
    (htruth : env.truth = truthOf io px lists)
    (st : RuleStorage) (hinv : Storage.CacheInv io (realParser px) st) (hl : st.lists = lists)
    (s : State Rule Re) (t : Thread Rule) (src : Src) (i : Int) (hi : (BitVec.ofInt 64 i).toInt = i)
    (hrel : CacheRel px st s.cache) (h0 : s.closed = []) :
    (retrieveProg env s t src i).2.pc =
        .use src i ((retrieveFull io px st (BitVec.ofInt 64 i)).1.filter (env.wants src)) ∧
      CacheRel px (retrieveFull io px st (BitVec.ofInt 64 i)).2 (retrieveProg env s t src i).1.cache ∧
      (retrieveProg env s t src i).1.closed = [] := by
  obtain ⟨h1, h2, h3⟩ := retrieveProg_spec env s t src i h0
  have ho : (cacheLookup s.cache i).or (env.truth i) = lookupFull io px st.lists (BitVec.ofInt 64 i) := by
    have := hrel (BitVec.ofInt 64 i)
    rw [hi] at this
    rw [this, htruth, hl]
    exact hl ▸ served_lookupFull hinv _
  rw [ho] at h1 h2
  refine ⟨by rw [h1, retrieveFull_eq_lookup io px st hinv], fun k => ?_, h3⟩
  rw [h2, served_retrieveFull hinv, ← hrel k]
  by_cases e : k = BitVec.ofInt 64 i
  · rw [if_pos e, if_pos (by rw [e, hi])]
  · rw [if_neg e, if_neg (fun h' => e (by rw [← BitVec.ofInt_toInt (x := k), h']))]

end UF.Compose4
