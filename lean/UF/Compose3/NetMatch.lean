import UF.Compose3.WebTop
/-
  `NetworkEngine.Match` (networkengine.go), the single-rule entry point, and WHICH rule `NewMatchingResult`
  selects: the basic rule is a web candidate that no web candidate outranks, the document rule a referrer-level
  exception in force that no other one outranks.  Both facts are carried over from what `MatchAll` returns to the
  reference sets `matchingLines` / `sourceMatchingLines`; list ids are not read.
-/
namespace UF.Compose3
open UF UF.B UF.Storage UF.Compose

/-- `NetworkEngine.Match(r)`: `MatchAll`, nothing for no rule, else `NewMatchingResult(rules, nil).GetBasicResult()`;
    the second result of the Go function is `isSome`. -/
def networkEngineMatch (io : IO) (px : E.ParseExt) (lists : List RList) (st : RuleStorage)
    (history : List (BitVec 64)) (r : Request) : Option NetRule :=
  let networkRules := netMatchAll io px lists st history r
  if networkRules.length == 0 then none
  else getBasicResult (newMatchingResult networkRules [])

theorem newMatchingResult_nil : newMatchingResult [] [] = {} := by decide

/-- The early `return nil, false` is what the general path gives for no rules. -/
theorem networkEngineMatch_eq (io : IO) (px : E.ParseExt) (lists : List RList) (st : RuleStorage)
    (history : List (BitVec 64)) (r : Request) :
    networkEngineMatch io px lists st history r =
      getBasicResult (newMatchingResult (netMatchAll io px lists st history r) []) := by
  unfold networkEngineMatch
  simp only
  split
  · next h =>
    have : netMatchAll io px lists st history r = [] := List.eq_nil_of_length_eq_zero (by simpa using h)
    rw [this, newMatchingResult_nil]
    rfl
  · rfl

/-- The candidates offered to the selection of the basic rule are the reference's web candidates. -/
theorem basicRule_eq_selectBest (rules src : List NetRule) :
    (newMatchingResult rules src).basicRule = selectBest (rules.filter (webCandidate rules src)) := by
  unfold newMatchingResult
  simp only [effective_eq]
  obtain ⟨_, hb, hg⟩ := sourceScan_eq (src.filter (effectiveIn src)) {}
  obtain ⟨hU, hG, _⟩ := src_flags src
  simp only [Bool.true_and] at hb hg
  rw [hU] at hb; rw [hG] at hg
  generalize (src.filter (effectiveIn src)).foldl sourceStep {} = s at hb hg
  obtain ⟨h1, _, _⟩ := ruleScan_eq s.basicAllowed s.genericAllowed (rules.filter (effectiveIn rules))
    { documentRule := s.documentRule, stealthRule := s.stealthRule }
  rw [h1, hb, hg, List.filter_filter]
  show selectBest _ = _
  congr 1
  apply List.filter_congr
  intro r _
  -- the skip conditions of the second loop, with the flags the first loop leaves: De Morgan
  rw [Bool.and_comm]
  unfold webCandidate loopCandidate isSpecial
  simp only [Bool.not_not, Bool.not_or, Bool.not_and, Bool.and_assoc]

/-- A referrer-level exception that is in force. -/
def docCandidate (src : List NetRule) (r : NetRule) : Bool := effectiveIn src r && isDocumentWhitelistRule r

theorem documentRule_eq_selectBest (rules src : List NetRule) :
    (newMatchingResult rules src).documentRule = selectBest (src.filter (docCandidate src)) := by
  unfold newMatchingResult
  simp only [effective_eq]
  obtain ⟨hd, _, _⟩ := sourceScan_eq (src.filter (effectiveIn src)) {}
  generalize (src.filter (effectiveIn src)).foldl sourceStep {} = s at hd
  obtain ⟨_, h2, _⟩ := ruleScan_eq s.basicAllowed s.genericAllowed (rules.filter (effectiveIn rules))
    { documentRule := s.documentRule, stealthRule := s.stealthRule }
  rw [h2]
  show s.documentRule = _
  rw [hd, List.filter_filter]
  show selectBest _ = _
  congr 1
  apply List.filter_congr
  intro r _
  unfold docCandidate
  rw [Bool.and_comm]

/-- What a selection among the rules of `L` that satisfy `cand` returns: a candidate that no candidate outranks,
    and nothing only when there is no candidate.  Two implications and not a `match` on `w`: `w` will be the
    output of a whole engine, which a `match` would invite the elaborator to evaluate. -/
structure IsWinner (cand : NetRule → Bool) (L : List NetRule) (w : Option NetRule) : Prop where
  of_none : w = none → ∀ c ∈ L, cand c = false
  of_some : ∀ b, w = some b → b ∈ L ∧ cand b = true ∧ ∀ c ∈ L, cand c = true → isHigherPriority c b = false

theorem selectBest_isWinner (cand : NetRule → Bool) (L : List NetRule) :
    IsWinner cand L (selectBest (L.filter cand)) where
  of_none h c hc := by
    have hnil := (selectBest_none _).1 h
    cases hcc : cand c with
    | false => rfl
    | true =>
      have : c ∈ L.filter cand := List.mem_filter.2 ⟨hc, hcc⟩
      rw [hnil] at this; cases this
  of_some b h := by
    obtain ⟨hm, hmax⟩ := fold_max _ b h
    obtain ⟨h1, h2⟩ := List.mem_filter.1 hm
    exact ⟨h1, h2, fun c hc hcc => (higher_false_iff c b).2 (hmax c (List.mem_filter.2 ⟨hc, hcc⟩))⟩

theorem newMatchingResult_basic_winner (rules src : List NetRule) :
    IsWinner (webCandidate rules src) rules (newMatchingResult rules src).basicRule := by
  rw [basicRule_eq_selectBest]
  exact selectBest_isWinner _ _

theorem newMatchingResult_document_winner (rules src : List NetRule) :
    IsWinner (docCandidate src) src (newMatchingResult rules src).documentRule := by
  rw [documentRule_eq_selectBest]
  exact selectBest_isWinner _ _

/-- Winners carry over from `L` to a list `L'` that contains `L` and has nothing else up to list ids. -/
theorem isWinner_agree {cand cand' : NetRule → Bool} {L L' : List NetRule} (hL : ListsAgree L L')
    (hsub : ∀ b ∈ L, b ∈ L') (hc : ∀ b b', SameButID b b' → cand b = cand' b') {w : Option NetRule}
    (hw : IsWinner cand L w) : IsWinner cand' L' w where
  of_none h c' hc' := by
    obtain ⟨c, hcm, hs⟩ := hL.2 c' hc'
    rw [← hc c c' hs]
    exact hw.of_none h c hcm
  of_some b h := by
    obtain ⟨h1, h2, h3⟩ := hw.of_some b h
    refine ⟨hsub b h1, by rw [← hc b b rfl]; exact h2, fun c' hc' hcc' => ?_⟩
    obtain ⟨c, hcm, hs⟩ := hL.2 c' hc'
    rw [← congr_noID₂ isHigherPriority (fun _ _ => rfl) (fun _ _ => rfl) hs (rfl : SameButID b b)]
    exact h3 c hcm (by rw [hc c c' hs]; exact hcc')

theorem replaceRules_eq (rules src : List NetRule) :
    (newMatchingResult rules src).replaceRules =
      (rules.filter (effectiveIn rules)).filter
        (fun r => !r.isEnabled Facts.OptionCookie && r.isEnabled Facts.OptionReplace) := by
  unfold newMatchingResult
  simp only [effective_eq]
  generalize (src.filter (effectiveIn src)).foldl sourceStep {} = s
  obtain ⟨_, _, h3⟩ := ruleScan_eq s.basicAllowed s.genericAllowed (rules.filter (effectiveIn rules))
    { documentRule := s.documentRule, stealthRule := s.stealthRule }
  rw [h3]
  rfl

/-- Without source rules and without `$replace` rules `GetBasicResult` is the basic rule. -/
theorem getBasicResult_nosrc (rules : List NetRule) (hrep : ∀ r ∈ rules, r.isEnabled Facts.OptionReplace = false) :
    getBasicResult (newMatchingResult rules []) = (newMatchingResult rules []).basicRule := by
  unfold getBasicResult
  have h1 : (newMatchingResult rules []).replaceRules = [] := by
    rw [replaceRules_eq]
    apply List.filter_eq_nil_iff.2
    intro r hr
    rw [hrep r (List.mem_filter.1 hr).1]
    simp
  have h2 : (newMatchingResult rules []).documentRule = none := by
    rw [documentRule_eq_selectBest]; rfl
  rw [h1, h2]
  simp only [List.length_nil, bne_self_eq_false, Bool.false_eq_true, if_false]
  cases (newMatchingResult rules []).basicRule <;> rfl

section
variable (io : IO) (px : E.ParseExt) (lists : List RList) (hok : StorageOK lists) (st : RuleStorage)
  (hnew : newRuleStorage lists = some st)
include hok hnew

/-- The basic rule of `Engine.MatchRequest` is a winner among the reference's web candidates (`IsWinner`: unbeaten;
    which of several tied candidates is returned is not said). -/
theorem engineMatch_basic_winner (history history' : List (BitVec 64)) (r : Request) :
    IsWinner (webCandidate (matchingLines px lists r) (sourceMatchingLines px lists r)) (matchingLines px lists r)
      (engineMatch io px lists st history history' r).basicRule :=
  have ha := netMatchAll_agree io px lists hok st hnew history r
  have hs := sourceRules_agree io px lists hok st hnew history' r
  isWinner_agree ha (netMatchAll_mem_lines io px lists hok st hnew history r)
    (fun _ _ hb => webCandidate_agree ha hs hb) (newMatchingResult_basic_winner _ _)

/-- The DOCUMENT rule of `Engine.MatchRequest` is a winner among the referrer-level exceptions in force
    among the source-matching lines (nothing without a source URL). -/
theorem engineMatch_document_winner (history history' : List (BitVec 64)) (r : Request) :
    IsWinner (docCandidate (sourceMatchingLines px lists r)) (sourceMatchingLines px lists r)
      (engineMatch io px lists st history history' r).documentRule :=
  have hs := sourceRules_agree io px lists hok st hnew history' r
  have hsub : ∀ b ∈ (if r.sourceURL != [] then netMatchAll io px lists st history' (sourceRequestOf px.ext r) else []),
      b ∈ sourceMatchingLines px lists r := by
    unfold sourceMatchingLines
    split
    · exact netMatchAll_mem_lines io px lists hok st hnew history' _
    · intro b hb; cases hb
  isWinner_agree hs hsub
    (fun _ _ hb => by
      unfold docCandidate
      rw [effectiveIn_agree hs hb, congr_noID isDocumentWhitelistRule (fun _ => rfl) hb])
    (newMatchingResult_document_winner _ _)

/-- The rule `NetworkEngine.Match` returns is a winner among the web candidates of the matching lines (no
    referrer: nothing is suppressed). -/
theorem networkEngineMatch_winner (history : List (BitVec 64)) (r : Request) :
    IsWinner (webCandidate (matchingLines px lists r) []) (matchingLines px lists r)
      (networkEngineMatch io px lists st history r) := by
  rw [networkEngineMatch_eq, getBasicResult_nosrc _ (netMatchAll_noReplace io px lists hok st hnew history r)]
  have ha := netMatchAll_agree io px lists hok st hnew history r
  exact isWinner_agree ha (netMatchAll_mem_lines io px lists hok st hnew history r)
    (fun _ _ hb => webCandidate_agree ha (listsAgree_refl []) hb) (newMatchingResult_basic_winner _ _)

end

end UF.Compose3
