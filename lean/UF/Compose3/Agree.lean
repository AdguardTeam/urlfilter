import UF.Compose.Basic
import UF.Spec.Result
import UF.Proofs.Result
/-
  The reference verdict class of C06 (`classWeb`, `classDns`) reads the rule lists only up to order, multiplicities
  and list ids (`ListsAgree`).  Needed because `NetworkEngine.MatchAll` returns the matching rules in table order, ONE
  rule per text in the sequential table, while the reference of C01 filters in storage order; two rules of a storage
  with the same text differ at most in the list id (`TextDet`).  `c06_perm` covers permutations only.
-/
namespace UF.Compose3
open UF UF.B UF.Compose

/-- `congr_noID` for a function of two rules. -/
theorem congr_noID₂ {α} (f : NetRule → NetRule → α) (hl : ∀ a b, f (setID 0 a) b = f a b)
    (hr : ∀ a b, f a (setID 0 b) = f a b) {a a' b b' : NetRule} (ha : SameButID a a') (hb : SameButID b b') :
    f a b = f a' b' :=
  (congr_noID (f · b) (hl · b) ha).trans (congr_noID (f a') (hr a') hb)

theorem precedence_agree {l l' : List NetRule} (h : ListsAgree l l') (c c' : NetRule → Bool)
    (hc : ∀ b b', SameButID b b' → c b = c' b') : precedence c l = precedence c' l' := by
  have key : ∀ p : NetRule → Bool, (∀ r, p (setID 0 r) = p r) →
      l.any (fun r => c r && p r) = l'.any (fun r => c' r && p r) := fun p hp =>
    any_agree h _ _ (fun b b' hb => by rw [hc b b' hb, congr_noID p hp hb])
  unfold precedence
  rw [key (fun r => r.whitelist && r.important) (fun _ => rfl), key (fun r => !r.whitelist && r.important) (fun _ => rfl),
    key (fun r => r.whitelist) (fun _ => rfl), key (fun r => !r.whitelist) (fun _ => rfl)]

theorem srcFlags_agree {s s' : List NetRule} (h : ListsAgree s s') :
    srcUrlblock s = srcUrlblock s' ∧ srcGenericblock s = srcGenericblock s' := by
  unfold srcUrlblock srcGenericblock
  constructor <;> exact any_agree h _ _ (fun b b' hb => by
    rw [effectiveIn_agree h hb, congr_noID (fun x => x.whitelist && x.isEnabled _) (fun _ => rfl) hb])

theorem webCandidate_agree {l l' s s' : List NetRule} (h : ListsAgree l l') (hs : ListsAgree s s')
    {r r' : NetRule} (hr : SameButID r r') : webCandidate l s r = webCandidate l' s' r' := by
  unfold webCandidate
  rw [effectiveIn_agree h hr, (srcFlags_agree hs).1, (srcFlags_agree hs).2,
    congr_noID isSpecial (fun _ => rfl) hr, congr_noID (fun x => x.whitelist) (fun _ => rfl) hr,
    congr_noID (fun x => x.isGeneric) (fun _ => rfl) hr]

/-- The reference class of a web request reads the two rule lists only up to order, multiplicities and
    list ids. -/
theorem classWeb_agree {l l' s s' : List NetRule} (h : ListsAgree l l') (hs : ListsAgree s s') :
    classWeb l s = classWeb l' s' := by
  unfold classWeb
  rw [precedence_agree h (webCandidate l s) (webCandidate l' s') (fun b b' hb => webCandidate_agree h hs hb),
    (srcFlags_agree hs).1, (srcFlags_agree hs).2]

/-- The same for the reference class of a DNS request. -/
theorem classDns_agree {l l' : List NetRule} (h : ListsAgree l l') : classDns l = classDns l' := by
  unfold classDns
  apply precedence_agree h
  intro b b' hb
  unfold dnsCandidate
  rw [effectiveIn_agree h hb, congr_noID isSpecial (fun _ => rfl) hb]

theorem listsAgree_refl (l : List NetRule) : ListsAgree l l :=
  ⟨fun r hr => ⟨r, hr, rfl⟩, fun r hr => ⟨r, hr, rfl⟩⟩

/-- Same members (any order, any multiplicities) ⇒ agreement. -/
theorem listsAgree_of_mem {l l' : List NetRule} (h : ∀ r, r ∈ l ↔ r ∈ l') : ListsAgree l l' :=
  ⟨fun r hr => ⟨r, (h r).1 hr, rfl⟩, fun r hr => ⟨r, (h r).2 hr, rfl⟩⟩

theorem filter_agree {l l' : List NetRule} (h : ListsAgree l l') (p p' : NetRule → Bool)
    (hp : ∀ r r', SameButID r r' → p r = p' r') : ListsAgree (l.filter p) (l'.filter p') := by
  constructor
  · intro r hr
    obtain ⟨hm, hpr⟩ := List.mem_filter.1 hr
    obtain ⟨r', hr', hs⟩ := h.1 r hm
    exact ⟨r', List.mem_filter.2 ⟨hr', by rw [← hp r r' hs]; exact hpr⟩, hs⟩
  · intro r' hr'
    obtain ⟨hm, hpr⟩ := List.mem_filter.1 hr'
    obtain ⟨r, hr, hs⟩ := h.2 r' hm
    exact ⟨r, List.mem_filter.2 ⟨hr, by rw [hp r r' hs]; exact hpr⟩, hs⟩

theorem texts_of_agree {l l' : List NetRule} (h : ListsAgree l l') (t : Bytes) :
    t ∈ l.map (·.text) ↔ t ∈ l'.map (·.text) := by
  have key : ∀ {l l' : List NetRule}, ListsAgree l l' → t ∈ l.map (·.text) → t ∈ l'.map (·.text) := by
    intro l l' h ht
    obtain ⟨r, hr, rfl⟩ := List.mem_map.1 ht
    obtain ⟨r', hr', hs⟩ := h.1 r hr
    exact List.mem_map.2 ⟨r', hr', (congr_noID (fun x => x.text) (fun _ => rfl) hs).symm⟩
  exact ⟨key h, key h.symm⟩

/-- Duplicating rules does not change the class (what `c06_perm` does not cover). -/
theorem classWeb_dup (l s : List NetRule) : classWeb (l ++ l) (s ++ s) = classWeb l s :=
  classWeb_agree (listsAgree_of_mem (by simp)) (listsAgree_of_mem (by simp))

/-- The list id is not read. -/
theorem classWeb_listID (l s : List NetRule) (f g : NetRule → Int) :
    classWeb (l.map fun r => setID (f r) r) (s.map fun r => setID (g r) r) = classWeb l s := by
  have key : ∀ (l : List NetRule) (f : NetRule → Int), ListsAgree (l.map fun r => setID (f r) r) l := by
    intro l f
    constructor
    · intro r hr
      obtain ⟨x, hx, rfl⟩ := List.mem_map.1 hr
      exact ⟨x, hx, rfl⟩
    · intro r hr
      exact ⟨setID (f r) r, List.mem_map.2 ⟨r, hr, rfl⟩, rfl⟩
  exact classWeb_agree (key l f) (key s g)

end UF.Compose3
