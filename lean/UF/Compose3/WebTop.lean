import UF.Compose3.Agree
import UF.Props.C01Compose
import UF.Model.RequestNew
import UF.Model.CosmeticOption
import UF.Proofs.RequestLabels
import UF.Proofs.ParseBits
/-
  `Engine.MatchRequest` (engine.go) from RAW inputs — list bytes, URL string, source URL string, request type:
      request     := rules.NewRequest(url, sourceURL, type)
      rules       := networkEngine.MatchAll(request)
      sourceRules := MatchAll(NewRequest(request.SourceURL, "", TypeDocument))    if SourceURL != ""
      result      := rules.NewMatchingResult(rules, sourceRules)
  `px` bundles the external oracles (public suffix, netip, pattern oracle, `$dnsrewrite` value parser, regexp shortcut
  finder).  The two `MatchAll` calls see the storage in two arbitrary reachable cache states `history`, `history'`.
-/
namespace UF.Compose3
open UF UF.B UF.Storage UF.Compose

/-- `rules.NewRequest` as a total function (`H.newRequest` never takes its error branch: `requestOf_eq`). -/
def requestOf (ext : Ext) (url sourceURL : Bytes) (reqType : Nat) : Request :=
  match H.newRequest ext url sourceURL reqType with
  | .ok q => q
  | .error _ => default

theorem requestOf_eq (ext : Ext) (url sourceURL : Bytes) (reqType : Nat) :
    H.newRequest ext url sourceURL reqType = .ok (requestOf ext url sourceURL reqType) := by
  obtain ⟨_, _, _, _, _, _, _, _, hq⟩ := H.newRequest_eq ext url sourceURL reqType
  unfold requestOf
  rw [hq]

/-- `NetworkEngine.MatchAll` of the engine built from the lists, with the storage in cache state
    `reach … history`. -/
def netMatchAll (io : IO) (px : E.ParseExt) (lists : List RList) (st : RuleStorage)
    (history : List (BitVec 64)) (q : Request) : List NetRule :=
  (Engine.build djb2 Facts.shortcutLength (storageNetRules px lists)).matchAll djb2 Facts.shortcutLength
    (retrieveNet (retrieveAt io px (reach io px st history))) px.ext q

/-- The request `Engine.MatchRequest` builds for the referrer. -/
def sourceRequestOf (ext : Ext) (r : Request) : Request := requestOf ext r.sourceURL [] Facts.TypeDocument

/-- `Engine.MatchRequest(r)` for an already built request. -/
def engineMatch (io : IO) (px : E.ParseExt) (lists : List RList) (st : RuleStorage)
    (history history' : List (BitVec 64)) (r : Request) : MatchingResult :=
  let networkRules := netMatchAll io px lists st history r
  let sourceRules :=
    if r.sourceURL != [] then netMatchAll io px lists st history' (sourceRequestOf px.ext r) else []
  newMatchingResult networkRules sourceRules

/-- `NewEngine(storage).MatchRequest(NewRequest(url, sourceURL, reqType))`, from raw inputs. -/
def engineMatchRequest (io : IO) (px : E.ParseExt) (lists : List RList) (st : RuleStorage)
    (history history' : List (BitVec 64)) (url sourceURL : Bytes) (reqType : Nat) : MatchingResult :=
  engineMatch io px lists st history history' (requestOf px.ext url sourceURL reqType)

/-- The network rules, parsed line by line from the contents, that individually match `q` (C01's reference
    over C11/C12's line-by-line reading). -/
def matchingLines (px : E.ParseExt) (lists : List RList) (q : Request) : List NetRule :=
  specMatchAll px.ext (netRulesOf (specRules px lists)) q

/-- … for the referrer (nothing without a source URL). -/
def sourceMatchingLines (px : E.ParseExt) (lists : List RList) (r : Request) : List NetRule :=
  if r.sourceURL != [] then matchingLines px lists (sourceRequestOf px.ext r) else []

/-- All network rules of the storage (the set `S` in which the text determines the rule). -/
def allNet (px : E.ParseExt) (lists : List RList) : List NetRule := netRulesOf (specRules px lists)

theorem allNet_textDet (px : E.ParseExt) (lists : List RList) : TextDet (allNet px lists) := by
  unfold allNet; rw [← storageRulesI_fst]; exact storage_textDet px lists

/-- A rule of the storage was parsed from its text (with its list id). -/
theorem allNet_parse {px : E.ParseExt} {lists : List RList} {r : NetRule} (h : r ∈ allNet px lists) :
    E.parseNetRule px r.text r.listID = .ok r := by
  unfold allNet at h
  rw [← storageNetRules_eq_spec] at h
  obtain ⟨⟨r', i⟩, hm, rfl⟩ := List.mem_map.1 h
  exact (storageNetRules_parse hm).1

/-- No rule of a storage carries `$replace` (unreachable from rule text on this tree). -/
theorem allNet_noReplace {px : E.ParseExt} {lists : List RList} {r : NetRule} (h : r ∈ allNet px lists) :
    r.isEnabled Facts.OptionReplace = false :=
  (E.parseNetRule_no_advanced (allNet_parse h) Facts.OptionReplace (Or.inr (Or.inl rfl))).1

/-- Without `$replace` rules the early return of `GetBasicResult` is not taken, and the class is the reference's. -/
theorem webClass_of_noReplace (rules src : List NetRule) (h : ∀ r ∈ rules, r.isEnabled Facts.OptionReplace = false) :
    classOf (getBasicResult (newMatchingResult rules src)) = classWeb rules src := by
  rw [webClass_eq, (trigger_false_of_no_replace rules h).1]
  rfl

section
variable (io : IO) (px : E.ParseExt) (lists : List RList) (hok : StorageOK lists) (st : RuleStorage)
  (hnew : newRuleStorage lists = some st)
include hok hnew

/-- C01 soundness from bytes: what `MatchAll` returns are lines of the lists that match. -/
theorem netMatchAll_mem_lines (history : List (BitVec 64)) (q : Request) :
    ∀ b ∈ netMatchAll io px lists st history q, b ∈ matchingLines px lists q := by
  intro r hr
  have := C01.c01_sound djb2 Facts.shortcutLength _ px.ext (storageNetRules px lists) q
    (C01.c01_storage_length px lists hok) (C01.c01_storage_retrieval io px lists hok st hnew history) r hr
  rw [storageNetRules_eq_spec] at this
  exact List.mem_filter.2 this

/-- C01 from bytes, in the form the verdict needs: what `MatchAll` returns and the matching lines agree up
    to order, multiplicities and list ids. -/
theorem netMatchAll_agree (history : List (BitVec 64)) (q : Request) :
    ListsAgree (netMatchAll io px lists st history q) (matchingLines px lists q) := by
  apply listsAgree_of_texts (allNet_textDet px lists)
  · intro r hr; exact (List.mem_filter.1 (netMatchAll_mem_lines io px lists hok st hnew history q r hr)).1
  · intro r hr; exact (List.mem_filter.1 hr).1
  · intro t
    exact C01.c01_storage io px lists hok st hnew history q t

theorem sourceRules_agree (history' : List (BitVec 64)) (r : Request) :
    ListsAgree (if r.sourceURL != [] then netMatchAll io px lists st history' (sourceRequestOf px.ext r) else [])
      (sourceMatchingLines px lists r) := by
  unfold sourceMatchingLines
  split
  · exact netMatchAll_agree io px lists hok st hnew history' _
  · exact listsAgree_refl []

/-- The rules `NewMatchingResult` receives carry no `$replace` bit. -/
theorem netMatchAll_noReplace (history : List (BitVec 64)) (q : Request) :
    ∀ r ∈ netMatchAll io px lists st history q, r.isEnabled Facts.OptionReplace = false :=
  fun r hr => allNet_noReplace (List.mem_filter.1 (netMatchAll_mem_lines io px lists hok st hnew history q r hr)).1

end

end UF.Compose3
