import UF.Compose3.WebTop
import UF.Compose2.MatchFull
import UF.Props.C04Full
/-
  The fields of the requests `Engine.MatchRequest` works with (`H.newRequest`, the model of `NewRequest`), in the
  form the matching references (`Request.InDomain`, `C04.c04_full_end_to_end`) need them; and `Match` of a parsed
  rule replaced by its declarative reference.
-/
namespace UF.Compose3
open UF UF.B UF.Storage UF.Compose UF.I2

/-- What `NewRequest` stores, for every input (no hypothesis on the URLs). -/
theorem requestOf_fields (ext : Ext) (url src : Bytes) (t : Nat) :
    (requestOf ext url src t).url = url.take Facts.maxURLLength ∧
    (requestOf ext url src t).urlLower = Bytes.toLower (url.take Facts.maxURLLength) ∧
    (requestOf ext url src t).sourceURL = src.take Facts.maxURLLength ∧
    (requestOf ext url src t).reqType = t ∧
    (requestOf ext url src t).isHostnameRequest = false ∧
    (requestOf ext url src t).sortedTags = [] ∧
    (requestOf ext url src t).dnsType = 0 ∧
    (requestOf ext url src t).clientName = [] ∧
    (requestOf ext url src t).clientIP = none ∧
    H.extractHostname (url.take Facts.maxURLLength) = .ok (requestOf ext url src t).hostname ∧
    H.extractHostname (src.take Facts.maxURLLength) = .ok (requestOf ext url src t).sourceHostname := by
  obtain ⟨h, sh, e, se, h1, h2, _, _, hq⟩ := H.newRequest_eq ext url src t
  rw [Except.ok.inj ((requestOf_eq ext url src t).symm.trans hq)]
  exact ⟨rfl, rfl, rfl, rfl, rfl, rfl, rfl, rfl, rfl, h1, h2⟩

/-- The referrer request: URL = the (capped) source URL, hostname = the source hostname, no source of its
    own, type `document`. -/
theorem sourceRequestOf_fields (ext : Ext) (url src : Bytes) (t : Nat) :
    (sourceRequestOf ext (requestOf ext url src t)).url = (requestOf ext url src t).sourceURL ∧
    (sourceRequestOf ext (requestOf ext url src t)).hostname = (requestOf ext url src t).sourceHostname ∧
    (sourceRequestOf ext (requestOf ext url src t)).sourceURL = [] ∧
    (sourceRequestOf ext (requestOf ext url src t)).sourceHostname = [] ∧
    (sourceRequestOf ext (requestOf ext url src t)).reqType = Facts.TypeDocument ∧
    (sourceRequestOf ext (requestOf ext url src t)).thirdParty = false := by
  obtain ⟨_, _, f3, _, _, _, _, _, _, _, f11⟩ := requestOf_fields ext url src t
  unfold sourceRequestOf
  generalize (requestOf ext url src t).sourceHostname = SH at f11 ⊢
  rw [f3]
  obtain ⟨a, b, e, se, h1, h2, h3, h4, hq⟩ := H.newRequest_eq ext (src.take Facts.maxURLLength) [] Facts.TypeDocument
  replace hq := Except.ok.inj ((requestOf_eq ext _ [] _).symm.trans hq)
  rw [List.take_take, Nat.min_self] at h1 hq
  rw [f11] at h1
  have ha : SH = a := Except.ok.inj h1
  have hb : b = [] := by
    have : H.extractHostname ([] : Bytes) = .ok [] := rfl
    rw [List.take_nil, this] at h2
    exact (Except.ok.inj h2).symm
  subst hb
  have hse : se = [] := by
    have : H.effectiveTLDPlusOne ext [] = .ok [] := by simp [H.effectiveTLDPlusOne]
    rw [this] at h4
    exact (Except.ok.inj h4).symm
  subst hse
  rw [hq, ha]
  exact ⟨rfl, rfl, rfl, rfl, rfl, rfl⟩

/-- The requests of `Engine.MatchRequest` are in the domain of C04 as soon as the type is ONE content
    type and neither hostname starts with a dot. -/
theorem requestOf_inDomain (ext : Ext) (url src : Bytes) (t : Nat) (ht : ∃ k, t = 2 ^ k)
    (hh : (requestOf ext url src t).hostname.head? ≠ some (ch '.'))
    (hs : (requestOf ext url src t).sourceHostname.head? ≠ some (ch '.')) :
    (requestOf ext url src t).InDomain ∧ (sourceRequestOf ext (requestOf ext url src t)).InDomain := by
  obtain ⟨_, _, _, f4, _, f6, _⟩ := requestOf_fields ext url src t
  obtain ⟨_, g2, _, g4, g5, _⟩ := sourceRequestOf_fields ext url src t
  constructor
  · exact ⟨by rw [f4]; exact ht, by rw [f6]; exact List.Pairwise.nil, hh, hs⟩
  · refine ⟨⟨0, by rw [g5]; rfl⟩, ?_, by rw [g2]; exact hs, by rw [g4]; simp⟩
    unfold sourceRequestOf
    rw [(requestOf_fields ext _ [] Facts.TypeDocument).2.2.2.2.2.1]
    exact List.Pairwise.nil

/-- A pattern oracle that IS the model. -/
theorem withModelPat_eq_self {ext : Ext} (h : ext.pat = modelPatD) : withModelPat ext = ext := by
  cases ext
  simp only at h
  subst h
  rfl

/-- `Match` of a rule of the lists on a request of `Engine.MatchRequest` is the full declarative reference
    (every modifier as a set-membership statement, the pattern as the documented mask language, no
    shortcut pre-check): C03 + C04 + C05 + C12 composed, applied to the rules of a storage. -/
theorem matches_eq_ref (px : E.ParseExt) (lists : List RList) (hpat : px.ext.pat = modelPatD)
    (q : Request) (hq : q.InDomain) (hlower : q.urlLower = Bytes.toLower q.url)
    (hhost : q.isHostnameRequest = false) (r : NetRule) (hr : r ∈ allNet px lists)
    (hd : MaskDomain r.pattern q.url) :
    r.matches px.ext q = specMatchNoShortcut px.ext r q := by
  have hd' : MaskDomain r.pattern (specTarget r q) := by
    have : specTarget r q = q.url := by unfold specTarget; simp [hhost]
    rw [this]; exact hd
  have := C04.c04_full_end_to_end px r.text r.listID r q (allNet_parse hr) hq hd' hlower
    (by intro h; rw [hhost] at h; cases h)
  rw [withModelPat_eq_self hpat] at this
  exact this

/-- The matching lines, with `Match` replaced by the reference. -/
theorem matchingLines_eq_ref (px : E.ParseExt) (lists : List RList) (hpat : px.ext.pat = modelPatD)
    (q : Request) (hq : q.InDomain) (hlower : q.urlLower = Bytes.toLower q.url)
    (hhost : q.isHostnameRequest = false)
    (hd : ∀ r ∈ allNet px lists, MaskDomain r.pattern q.url) :
    matchingLines px lists q = (allNet px lists).filter (fun r => specMatchNoShortcut px.ext r q) := by
  unfold matchingLines specMatchAll
  apply List.filter_congr
  intro r hr
  exact matches_eq_ref px lists hpat q hq hlower hhost r hr (hd r hr)

end UF.Compose3
