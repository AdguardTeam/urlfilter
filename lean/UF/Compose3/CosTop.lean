import UF.Compose3.WebTop
import UF.Spec.CosmeticOption
import UF.Spec.Cosmetic
import UF.Proofs.Bits
import UF.Proofs.C16
import UF.Props.C16
import UF.Props.C15Compose
/-
  Cosmetic option and cosmetic result at the top level.  `cosModsOf r` decodes the named modifiers an exception rule
  carries from its option bits; C16 needs only bits 4, 5, 7 of the mask (`getCosmeticOption_of_bits`), so it holds of
  EVERY exception rule record with the decoded modifiers.  `engineCosmeticResult` is `Engine.GetCosmeticResult`: flag
  decoding (engine.go) + `CosmeticEngine.Match` of the engine built from the lists.
-/
namespace UF.Compose3
open UF UF.B UF.Storage UF.Compose

/-- The nine modifiers of the property. -/
def allCosMods : List CosMod :=
  [.elemhide, .generichide, .jsinject, .document, .urlblock, .genericblock, .content, .extension, .important]

/-- The named modifiers whose option bits the rule carries (`$document` = all five of its bits). -/
def cosModsOf (r : NetRule) : List CosMod := allCosMods.filter (fun m => r.isEnabled m.bits)

/-- `IsOptionEnabled(mask)`: every bit of the mask is set. -/
theorem and_beq_iff_bits (e m : Nat) :
    ((e &&& m) == m) = true ↔ ∀ i, m.testBit i = true → e.testBit i = true := by
  rw [beq_iff_eq]
  constructor
  · intro h i hi
    have := congrArg (·.testBit i) h
    simpa only [Nat.testBit_and, hi, Bool.and_true] using this
  · intro h
    apply Nat.eq_of_testBit_eq
    intro i
    rw [Nat.testBit_and]
    cases hm : m.testBit i
    · exact Bool.and_false _
    · rw [h i hm]; rfl

/-- The three masks `GetCosmeticOption` tests are the single bits 4, 5, 7. -/
theorem isEnabled_cos_bits (r : NetRule) :
    r.isEnabled Facts.OptionElemhide = r.enabled.testBit 4 ∧
    r.isEnabled Facts.OptionGenerichide = r.enabled.testBit 5 ∧
    r.isEnabled Facts.OptionJsinject = r.enabled.testBit 7 :=
  ⟨and_two_pow_beq r.enabled 4, and_two_pow_beq r.enabled 5, and_two_pow_beq r.enabled 7⟩

/-- The reference option of a list of modifiers depends only on whether some modifier has bit 4, bit 5, bit 7
    (`C16.c16` and `C16.c16_bits` on the rule whose mask is `modsBits mods`). -/
theorem specCosmeticOption_flags (mods : List CosMod) :
    specCosmeticOption true mods =
      andNot cosAll
        ((if mods.any (·.bits.testBit 4) then cosCSS ||| cosGenericCSS else 0) |||
         (if mods.any (·.bits.testBit 5) then cosGenericCSS else 0) |||
         (if mods.any (·.bits.testBit 7) then cosJS else 0)) := by
  have key : ∀ k, (modsBits mods).testBit k = mods.any (·.bits.testBit k) := fun k => by
    rw [modsBits, testBit_foldl_or, Nat.zero_testBit, Bool.false_or]
  obtain ⟨e4, e5, e7⟩ := isEnabled_cos_bits { whitelist := true, enabled := modsBits mods }
  rw [← C16.c16 { whitelist := true, enabled := modsBits mods } mods rfl rfl, C16.c16_bits _ rfl, e4, e5, e7,
    key, key, key]

/-- C16 reads only bits 4, 5, 7 of the option mask: an exception whose mask has these three bits exactly when
    one of the modifiers `mods` has them gets the reference option of `mods`, whatever its other bits
    (`C16.c16` asks for `r.enabled = modsBits mods`). -/
theorem getCosmeticOption_of_bits (r : NetRule) (mods : List CosMod) (hw : r.whitelist = true)
    (h4 : r.enabled.testBit 4 = mods.any (·.bits.testBit 4))
    (h5 : r.enabled.testBit 5 = mods.any (·.bits.testBit 5))
    (h7 : r.enabled.testBit 7 = mods.any (·.bits.testBit 7)) :
    getCosmeticOption (some r) = specCosmeticOption true mods := by
  obtain ⟨e4, e5, e7⟩ := isEnabled_cos_bits r
  rw [C16.c16_bits r hw, specCosmeticOption_flags, e4, e5, e7, h4, h5, h7]

/-- An enabled single-bit modifier is decoded, and every decoded modifier has all its bits set in the mask:
    the decoded list has a modifier with bit `k` iff the mask has bit `k`. -/
theorem cosModsOf_bit (r : NetRule) (k : Nat) (m : CosMod) (hm : m.bits = 2 ^ k) (hmem : m ∈ allCosMods) :
    r.enabled.testBit k = (cosModsOf r).any (·.bits.testBit k) := by
  cases hb : r.enabled.testBit k with
  | true =>
    refine (List.any_eq_true.2 ⟨m, List.mem_filter.2 ⟨hmem, ?_⟩, ?_⟩).symm
    · rw [hm, ← hb]; exact and_two_pow_beq r.enabled k
    · rw [hm]; exact Nat.testBit_two_pow_self
  | false =>
    refine (List.any_eq_false.2 fun m' hm' hk => ?_).symm
    have := (and_beq_iff_bits _ _).1 (List.mem_filter.1 hm').2 k hk
    rw [hb] at this
    cases this

/-- C16 without a hypothesis on the option mask: for EVERY exception rule record, `GetCosmeticOption` is
    the reference applied to the named modifiers the rule carries. -/
theorem getCosmeticOption_eq_spec (r : NetRule) (hw : r.whitelist = true) :
    getCosmeticOption (some r) = specCosmeticOption true (cosModsOf r) :=
  getCosmeticOption_of_bits r (cosModsOf r) hw (cosModsOf_bit r 4 .elemhide rfl (by decide))
    (cosModsOf_bit r 5 .generichide rfl (by decide)) (cosModsOf_bit r 7 .jsinject rfl (by decide))

/-- The reference option of a result: the basic rule's class and named modifiers. -/
def specOptionOf (basic : Option NetRule) : CosOpt :=
  match basic with
  | none => specCosmeticOption false []
  | some b => specCosmeticOption b.whitelist (cosModsOf b)

theorem getCosmeticOption_eq_specOptionOf (basic : Option NetRule) :
    getCosmeticOption basic = specOptionOf basic := by
  cases basic with
  | none => rfl
  | some b =>
    cases hw : b.whitelist with
    | true => simp only [specOptionOf, hw]; exact getCosmeticOption_eq_spec b hw
    | false => simp [specOptionOf, getCosmeticOption, specCosmeticOption, hw]

/-- `Engine.GetCosmeticResult(hostname, option)`: the element-hiding selectors `(generic, specific)`. -/
def engineCosmeticResult (px : E.ParseExt) (lists : List RList) (hostname : Bytes) (option : CosOpt) :
    List Bytes × List Bytes :=
  let flags := decodeCosmeticFlags option
  (CosTable.build (storageCosRules px lists)).matchHost px.ext hostname flags.1 flags.2.1 flags.2.2

/-- The reference: applicable, non-excepted selectors of the cosmetic rules parsed line by line, generic ones
    only with both the CSS and the generic-CSS bit, specific ones with the CSS bit. -/
def specCosmeticResult (px : E.ParseExt) (lists : List RList) (hostname : Bytes) (option : CosOpt) :
    List Bytes × List Bytes :=
  let flags := decodeCosmeticFlags option
  specCosmetic px.ext (cosRulesOf (specRules px lists)) hostname flags.1 flags.2.1 flags.2.2

/-- Fewer option bits, fewer selectors (reference level). -/
theorem specCosmetic_mono (ext : Ext) (L : List CosRule) (host : Bytes) (c j g c' j' g' : Bool)
    (hc : c' = true → c = true) (hg : g' = true → g = true) :
    (∀ s, s ∈ (specCosmetic ext L host c' j' g').1 → s ∈ (specCosmetic ext L host c j g).1) ∧
    (∀ s, s ∈ (specCosmetic ext L host c' j' g').2 → s ∈ (specCosmetic ext L host c j g).2) := by
  unfold specCosmetic
  dsimp only
  constructor <;> intro s hs <;> split at hs
  · next h =>
    rw [Bool.and_eq_true] at h
    rw [hc h.1, hg h.2]
    exact hs
  · cases hs
  · next h =>
    rw [hc h]
    exact hs
  · cases hs

/-- Bitwise inclusion of options gives implication of the decoded flags. -/
theorem decode_mono (o o' : CosOpt) (h : o' &&& o = o') :
    ((decodeCosmeticFlags o').1 = true → (decodeCosmeticFlags o).1 = true) ∧
    ((decodeCosmeticFlags o').2.1 = true → (decodeCosmeticFlags o).2.1 = true) ∧
    ((decodeCosmeticFlags o').2.2 = true → (decodeCosmeticFlags o).2.2 = true) := by
  have key : ∀ m : CosOpt, (o' &&& m == m) = true → (o &&& m == m) = true := by
    intro m hm
    have hm' : o' &&& m = m := by simpa using hm
    have : o &&& m = m := by
      rw [← hm', ← h]
      ext i
      simp only [BitVec.getElem_and]
      cases o'[i] <;> cases o[i] <;> cases m[i] <;> rfl
    simpa using this
  exact ⟨key cosCSS, key cosJS, key cosGenericCSS⟩

end UF.Compose3
