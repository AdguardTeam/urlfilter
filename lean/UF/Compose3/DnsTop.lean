import UF.Compose3.Agree
import UF.Compose3.WebTop
import UF.Model.Pool
import UF.Model.DnsRewrite
import UF.Spec.DnsRewrite
import UF.Proofs.DnsRewrite
import UF.Proofs.ProgBasic
import UF.Props.C02Compose
import UF.Props.C17
/-
  `DNSEngine.MatchRequest(dReq)` + `DNSResult.DNSRewrites()` from RAW inputs (list bytes, `urlfilter.DNSRequest`
  fields): the pooled request is refilled (`fillFromPool`) through `rules.FillRequestForHostname`; the network rules
  are `MatchAll` of the host-level rules, then `GetDNSBasicRule`, else the hosts table; then `dnsRewrites`.
  `FillRequestForHostname` is modelled twice (UF/Model/Pool.lean with `effectiveTLDPlusOne` as a function parameter,
  UF/Model/RequestNew.lean with checked indexing in `Except`); `fill_bridge` shows they agree for `etld1Of`.
-/
namespace UF.Compose3
open UF UF.B UF.Storage UF.Compose

/-- `H.effectiveTLDPlusOne` as the `etld1` parameter of `fillFromPool`. -/
def etld1Of (ext : Ext) (h : Bytes) : Bytes :=
  match H.effectiveTLDPlusOne ext h with
  | .ok e => e
  | .error _ => []

/-- The two models of `rules.FillRequestForHostname` (UF/Model/Pool.lean, UF/Model/RequestNew.lean) agree on every
    request and hostname. -/
theorem fill_bridge (ext : Ext) (r : Request) (hostname : Bytes) :
    H.fillRequestForHostname ext r hostname = .ok (UF.fillRequestForHostname (etld1Of ext) r hostname) := by
  obtain ⟨e, he, hf⟩ := H.fill_hostname ext r hostname
  rw [hf]
  unfold UF.fillRequestForHostname etld1Of
  simp only [he]
  cases e with
  | nil => rfl
  | cons c t => rfl

/-- `DNSEngine.getRequestFromPool(dReq)` applied to the pooled value `old`. -/
def dnsRequestOf (ext : Ext) (old : Request) (d : DReq) : Request := fillFromPool (etld1Of ext) old d

/-- The request in closed form: nothing of the pooled value is left. -/
theorem dnsRequestOf_closed (ext : Ext) (old : Request) (d : DReq) :
    dnsRequestOf ext old d =
      { url := lit "http://" ++ d.hostname, urlLower := lit "http://" ++ d.hostname, hostname := d.hostname,
        domain := if etld1Of ext d.hostname != [] then etld1Of ext d.hostname else d.hostname,
        sourceURL := [], sourceHostname := [], sourceDomain := [],
        sortedTags := d.sortedTags, reqType := Facts.TypeDocument, dnsType := d.dnsType,
        thirdParty := false, isHostnameRequest := true, clientName := d.clientName, clientIP := d.clientIP } := by
  unfold dnsRequestOf fillFromPool UF.fillRequestForHostname
  simp only
  split <;> rfl

theorem dnsRequestOf_hostname_isEmpty (ext : Ext) (old : Request) (d : DReq) (hd : d.hostname ≠ []) :
    (dnsRequestOf ext old d).hostname.isEmpty = false := by
  rw [dnsRequestOf_closed]
  cases h : d.hostname with
  | nil => exact absurd h hd
  | cons => rfl

/-- `DNSEngine.MatchRequest(dReq)` of the engine built from the lists, storage in cache state
    `reach … history`, pooled request `old`. -/
def dnsEngineMatchRequest (io : IO) (px : E.ParseExt) (lists : List RList) (st : RuleStorage)
    (history : List (BitVec 64)) (old : Request) (d : DReq) : DnsResult :=
  (DnsEngine.build djb2 Facts.shortcutLength (storageRulesI px lists)).matchRequest djb2 Facts.shortcutLength
    (retrieveAt io px (reach io px st history)) px.ext getDNSBasicRule (dnsRequestOf px.ext old d)

/-- `res.DNSRewrites()` (`none` = nil-pointer panic, excluded by C09). -/
def dnsEffectiveRewrites (res : DnsResult) : Option (List NetRule) := dnsRewrites res.networkRules

/-- The reference answer: `specDns` over the rules parsed line by line, for the request described by the
    DNS request fields alone. -/
def specDnsTop (px : E.ParseExt) (lists : List RList) (d : DReq) : DnsResult :=
  specDns px.ext getDNSBasicRule (specRules px lists) (dnsRequestOf px.ext default d)

/-- The DNS-applicable network rules of the lists that match the hostname request. -/
def dnsMatchingLines (px : E.ParseExt) (lists : List RList) (d : DReq) : List NetRule :=
  (netRulesOf (specRules px lists)).filter fun r =>
    dnsApplicable r && r.matches px.ext (dnsRequestOf px.ext default d)

theorem specDnsTop_networkRules (px : E.ParseExt) (lists : List RList) (d : DReq) (hd : d.hostname ≠ []) :
    (specDnsTop px lists d).networkRules = dnsMatchingLines px lists d := by
  unfold specDnsTop specDns dnsMatchingLines
  simp only [dnsRequestOf_hostname_isEmpty px.ext default d hd, Bool.false_eq_true, if_false]
  split <;> rfl

theorem specRemoveBad_agree {l l' : List NetRule} (h : ListsAgree l l') :
    ListsAgree (specRemoveBad l) (specRemoveBad l') := by
  unfold specRemoveBad
  apply filter_agree h
  intro r r' hr
  rw [congr_noID (fun x => x.badfilter) (fun _ => rfl) hr,
    any_agree h (fun b => b.badfilter && negatesBadfilter b r) (fun b => b.badfilter && negatesBadfilter b r')
      (fun b b' hb => congr_noID₂ (fun b r => b.badfilter && negatesBadfilter b r) (fun _ _ => rfl) (fun _ _ => rfl) hb hr)]

/-- The effective rewrites (reference of C09) of two lists of matched rules that agree up to order,
    multiplicities and list ids agree in the same sense. -/
theorem specRewrites_agree {l l' : List NetRule} (h : ListsAgree l l') :
    ListsAgree (specRewrites (dnsRewritesAll l)) (specRewrites (dnsRewritesAll l')) := by
  rw [dnsRewritesAll_eq, dnsRewritesAll_eq]
  have h1 : ListsAgree (l.filter (·.rewrite.isSome)) (l'.filter (·.rewrite.isSome)) :=
    filter_agree h _ _ (fun r r' hr => congr_noID (fun x => x.rewrite.isSome) (fun _ => rfl) hr)
  have h2 := specRemoveBad_agree h1
  unfold specRewrites specRewritesCore
  apply filter_agree h2
  intro r r' hr
  rw [congr_noID (fun x => x.whitelist) (fun _ => rfl) hr,
    any_agree h2 (fun e => e.whitelist && disables e r) (fun e => e.whitelist && disables e r')
      (fun e e' he => congr_noID₂ (fun e r => e.whitelist && disables e r) (fun _ _ => rfl) (fun _ _ => rfl) he hr)]

/-- The network rules `MatchRequest` reports are host-level rules of the storage. -/
theorem dnsEngine_networkRules_sub (io : IO) (px : E.ParseExt) (lists : List RList) (hok : StorageOK lists)
    (st : RuleStorage) (hnew : newRuleStorage lists = some st) (history : List (BitVec 64)) (q : Request) :
    ∀ r ∈ ((DnsEngine.build djb2 Facts.shortcutLength (storageRulesI px lists)).matchRequest djb2
        Facts.shortcutLength (retrieveAt io px (reach io px st history)) px.ext getDNSBasicRule q).networkRules,
      r ∈ allNet px lists := by
  intro r hr
  obtain ⟨h1, h2, _, _⟩ := C02.c02_storage_hyps io px lists hok st hnew history
  have hret : RetrievalOK (retrieveNet (retrieveAt io px (reach io px st history)))
      (hostLevelNet (storageRulesI px lists)) := by
    intro p hp
    have := h2 _ ((mem_hostLevelNet _ p.1 p.2).1 hp).1
    simp only at this
    simp [retrieveNet, this]
  have hlen : (hostLevelNet (storageRulesI px lists)).length < maxInt32 :=
    Nat.lt_of_le_of_lt (hostLevelNet_length _) h1
  unfold DnsEngine.matchRequest at hr
  split at hr
  · cases hr
  · rw [dns_build_net] at hr
    have hmem : r ∈ (Engine.build djb2 Facts.shortcutLength (hostLevelNet (storageRulesI px lists))).matchAll djb2
        Facts.shortcutLength (retrieveNet (retrieveAt io px (reach io px st history))) px.ext q := by
      simp only at hr
      split at hr
      · exact hr
      · split at hr <;> exact hr
    have := (C01.c01_sound djb2 Facts.shortcutLength _ px.ext _ q hlen hret r hmem).1
    obtain ⟨⟨r', i⟩, hp, rfl⟩ := List.mem_map.1 this
    have hin := ((mem_hostLevelNet _ r' i).1 hp).1
    unfold allNet
    rw [← storageRulesI_fst, mem_netRulesOf]
    exact List.mem_map.2 ⟨_, hin, rfl⟩

/-- Host rules are looked up only when `GetDNSBasicRule` found nothing. -/
theorem matchRequest_hosts_only (hf : HashFns) (k : Nat) (retrieve : Idx → Option Rule) (ext : Ext)
    (basic : List NetRule → Option NetRule) (e : DnsEngine) (q : Request)
    (h : (e.matchRequest hf k retrieve ext basic q).networkRule ≠ none) :
    (e.matchRequest hf k retrieve ext basic q).v4 = [] ∧ (e.matchRequest hf k retrieve ext basic q).v6 = [] ∧
    (e.matchRequest hf k retrieve ext basic q).matched = true := by
  unfold DnsEngine.matchRequest at h ⊢
  by_cases hq : q.hostname.isEmpty = true
  · rw [if_pos hq] at h; exact absurd rfl h
  · rw [if_neg hq] at h ⊢
    simp only at h ⊢
    cases hb : basic (e.net.matchAll hf k (retrieveNet retrieve) ext q) with
    | some r => exact ⟨rfl, rfl, rfl⟩
    | none =>
      rw [hb] at h
      simp only at h
      split at h <;> exact absurd rfl h

end UF.Compose3
