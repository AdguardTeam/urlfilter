import UF.Compose3.WebTop
import UF.Compose.Inert
/-
  The accepted network-rule TEXTS of a storage depend only on the SET OF LINES of its lists: the list id is stored in
  the parsed rule and read by nothing in `NewRule` (`newRule_net_id`).  `joinLines`: contents built from LF-free lines.
-/
namespace UF.Compose3
open UF UF.B UF.Storage UF.Compose UF.E Bytes

/-- Whether the hosts syntax accepts a line does not depend on the list id. -/
theorem hostRuleH_none_id (ext : Ext) (text : Bytes) (i j : Int) (h : hostRuleH ext text i = none) :
    hostRuleH ext text j = none := by
  unfold hostRuleH at h ⊢
  rw [H.newHostRule_eq_spec, H.specHostResult] at h ⊢
  cases hs : H.specHostLine ext dnE text with
  | none => rfl
  | some p => rw [hs] at h; cases h

/-- A line accepted as a network rule under the list id `i` is accepted under any id `j`, as the same rule up
    to the id. -/
theorem newRule_net_id {px : ParseExt} {piece : Bytes} {i j : Int} {r : NetRule}
    (h : newRule (realRx px) piece i = .ok (some (.net r))) :
    newRule (realRx px) piece j = .ok (some (.net (setID j r))) := by
  unfold newRule at h ⊢
  refine ite_ok_elim_c h ?_ ?_ <;> clear h <;> intro he h
  · cases pure_ok_elim h
  · obtain ⟨isc, hisc, h⟩ := bind_ok_elim h
    refine ite_ok_elim_c h ?_ ?_ <;> clear h <;> intro hc h
    · cases pure_ok_elim h
    · obtain ⟨mk, hmk, h⟩ := bind_ok_elim h
      cases mk with
      | some m =>
        simp only at h
        obtain ⟨c, _, h⟩ := bind_ok_elim h
        cases pure_ok_elim h
      | none =>
        simp only at h
        cases hh : (realRx px).newHostRule ((realRx px).trim piece) i with
        | some hr =>
          rw [hh] at h
          cases pure_ok_elim h
        | none =>
          rw [hh] at h
          simp only at h
          obtain ⟨n, hn, h⟩ := bind_ok_elim h
          cases pure_ok_elim h
          have hj : (realRx px).newHostRule ((realRx px).trim piece) j = none := hostRuleH_none_id px.ext _ i j hh
          have hp : parseNetRule (realRx px).px ((realRx px).trim piece) j = .ok (setID j r) := by
            rw [parseNetRule_setID (realRx px).px ((realRx px).trim piece) j i, hn]; rfl
          simp only [he, if_false, hisc, bind, Except.bind, hc, hmk, hj, hp, pure, Except.pure]

/-- The text of an accepted network rule does not depend on the list id either. -/
theorem setID_text (j : Int) (r : NetRule) : (setID j r).text = r.text := rfl

/-- All lines of a storage. -/
def allLines (lists : List RList) : List Bytes := lists.flatMap (fun l => splitLines l.content)

theorem mem_allLines {lists : List RList} {p : Bytes} :
    p ∈ allLines lists ↔ ∃ l ∈ lists, p ∈ splitLines l.content := by
  unfold allLines
  simp only [List.mem_flatMap]

/-- Inclusion of the line sets gives inclusion of the accepted network-rule texts (order, grouping into lists and
    list ids do not matter); used in both directions for storages with the same set of lines. -/
theorem netTexts_of_lines (px : ParseExt) (lists lists' : List RList)
    (hsub : ∀ p, p ∈ allLines lists → p ∈ allLines lists') :
    ∀ t, t ∈ (netRulesOf (specRules px lists)).map (·.text) → t ∈ (netRulesOf (specRules px lists')).map (·.text) := by
  intro t ht
  obtain ⟨r, hr, rfl⟩ := List.mem_map.1 ht
  rw [mem_netRulesOf, mem_specRules] at hr
  obtain ⟨l, hl, piece, hp, hn, _⟩ := hr
  obtain ⟨l', hl', hp'⟩ := mem_allLines.1 (hsub piece (mem_allLines.2 ⟨l, hl, hp⟩))
  refine List.mem_map.2 ⟨setID l'.id r, ?_, rfl⟩
  rw [mem_netRulesOf, mem_specRules]
  exact ⟨l', hl', piece, hp', newRule_net_id hn, by simp [isCos]⟩

/-- The content whose lines are `ls` (joined with LF). -/
def joinLines (ls : List Bytes) : Bytes := joinSep ls [10]

theorem splitLines_joinLines (ls : List Bytes) (hne : ls ≠ []) (hfree : ∀ l ∈ ls, (10 : UInt8) ∉ l) :
    splitLines (joinLines ls) = ls := by
  induction ls with
  | nil => exact absurd rfl hne
  | cons l rest ih =>
    cases rest with
    | nil =>
      show splitLines (joinSep [l] [10]) = [l]
      have : joinSep [l] [10] = l := by simp [joinSep]
      rw [this]
      exact splitLines_of_not_mem (hfree l List.mem_cons_self)
    | cons m ms =>
      have : joinLines (l :: m :: ms) = l ++ 10 :: joinLines (m :: ms) := by
        unfold joinLines
        simp [joinSep]
      rw [this, splitLines_append_nl, splitLines_of_not_mem (hfree l List.mem_cons_self),
        ih (by simp) (fun x hx => hfree x (List.mem_cons_of_mem _ hx))]
      rfl

end UF.Compose3
