import UF.Compose3.CosTop
import UF.Proofs.ParseBits
import UF.Proofs.ParseWF
import UF.Compose2.ParsePattern
/-
  The cosmetic option from the TEXT `@@pattern$opt1,opt2,…` of an exception rule.  The option parser (`loadOption`,
  every case of the Go `switch`) is followed for the three bits `GetCosmeticOption` reads: after the option loop bit
  4 / 5 / 7 is set iff one of the comma-separated option names denotes (`nameToMod`) a modifier that has it
  (`elemhide`, `document` / `generichide` / `jsinject`, `document`).  No other option touches these bits:
  `~extension` XORs bit 10 only, and on an exception rule no `setOptionEnabled` call of `$document` fails.
-/
namespace UF.Compose3
open UF UF.E Bytes

/-- The step keeps the exception flag and bits 4, 5, 7 of the enabled options. -/
structure Keeps (r r' : NetRule) : Prop where
  wl : r'.whitelist = r.whitelist
  b4 : r'.enabled.testBit 4 = r.enabled.testBit 4
  b5 : r'.enabled.testBit 5 = r.enabled.testBit 5
  b7 : r'.enabled.testBit 7 = r.enabled.testBit 7

abbrev NoCosBits (opt : Nat) : Prop := opt.testBit 4 = false ∧ opt.testBit 5 = false ∧ opt.testBit 7 = false

theorem Keeps.refl (r : NetRule) : Keeps r r := ⟨rfl, rfl, rfl, rfl⟩

theorem setOptionEnabled_keeps {r r' : NetRule} {opt : Nat} {en : Bool} (ho : NoCosBits opt)
    (h : setOptionEnabled r opt en = .ok r') : Keeps r r' := by
  unfold setOptionEnabled at h
  split at h
  · cases h
  · split at h
    · cases h
    · split at h <;> cases h
      · exact ⟨rfl, by rw [Nat.testBit_or, ho.1, Bool.or_false], by rw [Nat.testBit_or, ho.2.1, Bool.or_false],
          by rw [Nat.testBit_or, ho.2.2, Bool.or_false]⟩
      · exact ⟨rfl, rfl, rfl, rfl⟩

theorem keeps_xor (r : NetRule) {opt : Nat} (ho : NoCosBits opt) : Keeps r { r with enabled := r.enabled ^^^ opt } :=
  ⟨rfl, by rw [Nat.testBit_xor, ho.1, Bool.xor_false], by rw [Nat.testBit_xor, ho.2.1, Bool.xor_false],
    by rw [Nat.testBit_xor, ho.2.2, Bool.xor_false]⟩

theorem setRequestType_keeps (r : NetRule) (ty : Nat) (p : Bool) : Keeps r (setRequestType r ty p) := by
  unfold setRequestType
  split <;> exact ⟨rfl, rfl, rfl, rfl⟩

/-- Every option other than `elemhide`, `generichide`, `jsinject`, `document` keeps bits 4, 5, 7. -/
theorem loadOption_other {px : ParseExt} {r r' : NetRule} {name value : Bytes}
    (n1 : name ≠ lit "elemhide") (n2 : name ≠ lit "generichide") (n3 : name ≠ lit "jsinject")
    (n4 : name ≠ lit "document")
    (h : loadOption px r name value = .ok r') : Keeps r r' := by
  unfold loadOption at h
  iterate 6 (refine ite_ok_elim h (setOptionEnabled_keeps (by decide)) ?_; clear h; intro h)
  -- dnstype
  refine ite_ok_elim h ?_ ?_ <;> clear h <;> intro h
  · obtain ⟨⟨p, rs⟩, hx, h⟩ := bind_ok_elim h
    cases pure_ok_elim h
    exact ⟨rfl, rfl, rfl, rfl⟩
  -- dnsrewrite
  refine ite_ok_elim h ?_ ?_ <;> clear h <;> intro h
  · split at h
    · cases pure_ok_elim h
      exact ⟨rfl, rfl, rfl, rfl⟩
    · cases h
  -- domain
  refine ite_ok_elim h ?_ ?_ <;> clear h <;> intro h
  · obtain ⟨⟨p, rs⟩, hx, h⟩ := bind_ok_elim h
    cases pure_ok_elim h
    exact ⟨rfl, rfl, rfl, rfl⟩
  -- denyallow
  refine ite_ok_elim h ?_ ?_ <;> clear h <;> intro h
  · obtain ⟨⟨p, rs⟩, hx, h⟩ := bind_ok_elim h
    refine ite_ok_elim h ?_ ?_ <;> clear h <;> intro h
    · cases h
    · cases pure_ok_elim h
      exact ⟨rfl, rfl, rfl, rfl⟩
  -- ctag
  refine ite_ok_elim h ?_ ?_ <;> clear h <;> intro h
  · obtain ⟨⟨p, rs⟩, hx, h⟩ := bind_ok_elim h
    cases pure_ok_elim h
    exact ⟨rfl, rfl, rfl, rfl⟩
  -- client
  refine ite_ok_elim h ?_ ?_ <;> clear h <;> intro h
  · obtain ⟨⟨p, rs⟩, hx, h⟩ := bind_ok_elim h
    cases pure_ok_elim h
    exact ⟨rfl, rfl, rfl, rfl⟩
  -- elemhide
  refine ite_ok_elim_c h (fun hc _ => absurd (by simpa using hc) n1) ?_; clear h; intro _ h
  -- generichide
  refine ite_ok_elim_c h (fun hc _ => absurd (by simpa using hc) n2) ?_; clear h; intro _ h
  -- genericblock
  refine ite_ok_elim h (setOptionEnabled_keeps (by decide)) ?_; clear h; intro h
  -- jsinject
  refine ite_ok_elim_c h (fun hc _ => absurd (by simpa using hc) n3) ?_; clear h; intro _ h
  -- urlblock, content, extension
  iterate 3 (refine ite_ok_elim h (setOptionEnabled_keeps (by decide)) ?_; clear h; intro h)
  -- ~extension
  refine ite_ok_elim h ?_ ?_ <;> clear h <;> intro h
  · cases pure_ok_elim h
    exact keeps_xor r (by decide)
  -- document
  refine ite_ok_elim_c h (fun hc _ => absurd (by simpa using hc) n4) ?_; clear h; intro _ h
  iterate 4 (refine ite_ok_elim h (setOptionEnabled_keeps (by decide)) ?_; clear h; intro h)
  -- content types
  split at h
  · cases pure_ok_elim h
    exact setRequestType_keeps _ _ _
  · refine ite_ok_elim h ?_ ?_ <;> clear h <;> intro h
    · split at h
      · cases pure_ok_elim h
        exact setRequestType_keeps _ _ _
      · cases h
    · cases h

/-- On an exception rule enabling an option that is not blacklist-only succeeds and ORs the bit. -/
theorem setOptionEnabled_wl {r : NetRule} {opt : Nat} (hw : r.whitelist = true)
    (hb : ((opt &&& Facts.OptionBlacklistOnly) == opt) = false) :
    setOptionEnabled r opt true = .ok { r with enabled := r.enabled ||| opt } := by
  unfold setOptionEnabled
  simp [hw, hb, pure, Except.pure]

theorem setIgnoringError_wl {r : NetRule} {opt : Nat} (hw : r.whitelist = true)
    (hb : ((opt &&& Facts.OptionBlacklistOnly) == opt) = false) :
    setIgnoringError r opt = { r with enabled := r.enabled ||| opt } := by
  unfold setIgnoringError
  rw [setOptionEnabled_wl hw hb]

theorem document_wl (r : NetRule) (hw : r.whitelist = true) :
    setIgnoringError (setIgnoringError (setIgnoringError (setIgnoringError r
        Facts.OptionJsinject) Facts.OptionUrlblock) Facts.OptionContent) Facts.OptionExtension =
    { r with enabled := r.enabled ||| Facts.OptionJsinject ||| Facts.OptionUrlblock ||| Facts.OptionContent |||
        Facts.OptionExtension } := by
  simp +decide only [setIgnoringError_wl, hw]

/-- The nine modifiers of the property, by the name written in a rule text. -/
def nameToMod (n : Bytes) : Option CosMod :=
  if n == lit "elemhide" then some .elemhide
  else if n == lit "generichide" then some .generichide
  else if n == lit "jsinject" then some .jsinject
  else if n == lit "document" then some .document
  else if n == lit "urlblock" then some .urlblock
  else if n == lit "genericblock" then some .genericblock
  else if n == lit "content" then some .content
  else if n == lit "extension" then some .extension
  else if n == lit "important" then some .important
  else none

/-- Whether the option named `n` sets bit `k`, for `k` = 4, 5, 7: whether the modifier it names has that bit. -/
def cosBit (k : Nat) (n : Bytes) : Bool := (nameToMod n).any (·.bits.testBit k)

theorem ite_some_elim_c {α} {c : Prop} [Decidable c] {a b : Option α} {v : α} {P : Prop}
    (h : (if c then a else b) = some v) (h1 : c → a = some v → P) (h2 : ¬c → b = some v → P) : P :=
  ite_pred (fun x : Option α => x = some v → P) h1 h2 h

/-- Names other than the four below denote a modifier without bits 4, 5, 7, or no modifier. -/
theorem cosBit_other {n : Bytes} (n1 : n ≠ lit "elemhide") (n2 : n ≠ lit "generichide") (n3 : n ≠ lit "jsinject")
    (n4 : n ≠ lit "document") : cosBit 4 n = false ∧ cosBit 5 n = false ∧ cosBit 7 n = false := by
  unfold cosBit
  cases hm : nameToMod n with
  | none => exact ⟨rfl, rfl, rfl⟩
  | some m =>
    unfold nameToMod at hm
    rw [if_neg (by simpa using n1), if_neg (by simpa using n2), if_neg (by simpa using n3),
      if_neg (by simpa using n4)] at hm
    -- the five remaining names
    iterate 5 (refine ite_some_elim_c hm (fun _ e => by cases e; decide) ?_; clear hm; intro _ hm)
    cases hm

/-- The invariant of the option loop on an exception rule. -/
structure CosInv (e g j : Bool) (r : NetRule) : Prop where
  wl : r.whitelist = true
  b4 : r.enabled.testBit 4 = e
  b5 : r.enabled.testBit 5 = g
  b7 : r.enabled.testBit 7 = j

/-- OR-ing the bits of the modifier named `n` into the mask. -/
theorem CosInv.or {e g j : Bool} {r : NetRule} (hr : CosInv e g j r) {n : Bytes} {m : CosMod}
    (hn : nameToMod n = some m) :
    CosInv (e || cosBit 4 n) (g || cosBit 5 n) (j || cosBit 7 n) { r with enabled := r.enabled ||| m.bits } := by
  unfold cosBit
  rw [hn]
  exact ⟨hr.wl, by rw [← hr.b4]; exact Nat.testBit_or .., by rw [← hr.b5]; exact Nat.testBit_or ..,
    by rw [← hr.b7]; exact Nat.testBit_or ..⟩

/-- The dispatcher at the four names: the tests before the name's own fail, by evaluation of the literals. -/
theorem loadOption_elemhide (px : ParseExt) (r : NetRule) (value : Bytes) :
    loadOption px r (lit "elemhide") value = setOptionEnabled r Facts.OptionElemhide true := by
  unfold loadOption
  iterate 12 rw [if_neg (by decide +kernel)]
  rw [if_pos (by decide +kernel)]

theorem loadOption_generichide (px : ParseExt) (r : NetRule) (value : Bytes) :
    loadOption px r (lit "generichide") value = setOptionEnabled r Facts.OptionGenerichide true := by
  unfold loadOption
  iterate 13 rw [if_neg (by decide +kernel)]
  rw [if_pos (by decide +kernel)]

theorem loadOption_jsinject (px : ParseExt) (r : NetRule) (value : Bytes) :
    loadOption px r (lit "jsinject") value = setOptionEnabled r Facts.OptionJsinject true := by
  unfold loadOption
  iterate 15 rw [if_neg (by decide +kernel)]
  rw [if_pos (by decide +kernel)]

theorem loadOption_document (px : ParseExt) (r : NetRule) (value : Bytes) :
    loadOption px r (lit "document") value = (do
      let r ← setOptionEnabled r Facts.OptionElemhide true
      pure (setIgnoringError (setIgnoringError (setIgnoringError (setIgnoringError r
        Facts.OptionJsinject) Facts.OptionUrlblock) Facts.OptionContent) Facts.OptionExtension)) := by
  unfold loadOption
  iterate 20 rw [if_neg (by decide +kernel)]
  rw [if_pos (by decide +kernel)]

/-- One option on an exception rule: `elemhide`, `generichide`, `jsinject`, `document` OR the bits of their
    modifier into the mask (no `setOptionEnabled` call fails on an exception rule), every other option keeps
    bits 4, 5, 7. -/
theorem loadOption_cos {px : ParseExt} {r r' : NetRule} {name value : Bytes} {e g j : Bool}
    (hr : CosInv e g j r) (h : loadOption px r name value = .ok r') :
    CosInv (e || cosBit 4 name) (g || cosBit 5 name) (j || cosBit 7 name) r' := by
  by_cases n1 : name = lit "elemhide"
  · subst n1
    rw [loadOption_elemhide, setOptionEnabled_wl hr.wl (by decide)] at h
    cases h
    exact hr.or (m := .elemhide) (by decide +kernel)
  by_cases n2 : name = lit "generichide"
  · subst n2
    rw [loadOption_generichide, setOptionEnabled_wl hr.wl (by decide)] at h
    cases h
    exact hr.or (m := .generichide) (by decide +kernel)
  by_cases n3 : name = lit "jsinject"
  · subst n3
    rw [loadOption_jsinject, setOptionEnabled_wl hr.wl (by decide)] at h
    cases h
    exact hr.or (m := .jsinject) (by decide +kernel)
  by_cases n4 : name = lit "document"
  · subst n4
    rw [loadOption_document, setOptionEnabled_wl hr.wl (by decide)] at h
    simp only [bind, Except.bind, pure, Except.pure] at h
    rw [document_wl ({ r with enabled := r.enabled ||| Facts.OptionElemhide }) hr.wl] at h
    cases h
    have := hr.or (n := lit "document") (m := .document) (by decide +kernel)
    simpa only [CosMod.bits, Nat.or_assoc] using this
  obtain ⟨e4, e5, e7⟩ := cosBit_other n1 n2 n3 n4
  rw [e4, e5, e7, Bool.or_false, Bool.or_false, Bool.or_false]
  have hk := loadOption_other n1 n2 n3 n4 h
  exact ⟨by rw [hk.wl]; exact hr.wl, by rw [hk.b4]; exact hr.b4, by rw [hk.b5]; exact hr.b5, by rw [hk.b7]; exact hr.b7⟩

/-- The name `loadOptions` hands to `loadOption` for one comma-separated piece: the text before the first
    `=` unless that `=` is the first byte. -/
def optName (o : Bytes) : Bytes :=
  match indexByte o (ch '=') with
  | some i => if i > 0 then o.take i else o
  | none => o

theorem sliceC_zero {s n : Bytes} {i : Nat} (h : sliceC s 0 i = .ok n) : n = s.take i := by
  unfold sliceC Bytes.slice? at h
  split at h
  · next r hr =>
    split at hr
    · cases hr; cases h; simp
    · cases hr
  · cases h

theorem loadOptionsStep_cos {px : ParseExt} {r r' : NetRule} {o : Bytes} {e g j : Bool}
    (hr : CosInv e g j r) (h : loadOptionsStep px r o = .ok r') :
    CosInv (e || cosBit 4 (optName o)) (g || cosBit 5 (optName o)) (j || cosBit 7 (optName o)) r' := by
  unfold loadOptionsStep at h
  unfold optName
  split at h
  · next i hi =>
    rw [hi]
    simp only
    refine ite_ok_elim_c h ?_ ?_ <;> clear h <;> intro hc h
    · obtain ⟨name, hn, h⟩ := bind_ok_elim h
      obtain ⟨value, _, h⟩ := bind_ok_elim h
      rw [if_pos hc, ← sliceC_zero hn]
      exact loadOption_cos hr h
    · rw [if_neg hc]
      exact loadOption_cos hr h
  · next hi =>
    rw [hi]
    exact loadOption_cos hr h

theorem foldlM_cos {px : ParseExt} (parts : List Bytes) :
    ∀ (r r' : NetRule) (e g j : Bool), CosInv e g j r → parts.foldlM (loadOptionsStep px) r = .ok r' →
      CosInv (e || parts.any (fun o => cosBit 4 (optName o))) (g || parts.any (fun o => cosBit 5 (optName o)))
        (j || parts.any (fun o => cosBit 7 (optName o))) r' := by
  induction parts with
  | nil =>
    intro r r' e g j hr h
    simp only [List.foldlM, pure, Except.pure] at h
    cases h
    simpa using hr
  | cons o rest ih =>
    intro r r' e g j hr h
    simp only [List.foldlM] at h
    obtain ⟨r1, h1, h2⟩ := bind_ok_elim h
    have := ih r1 r' _ _ _ (loadOptionsStep_cos hr h1) h2
    simpa [Bool.or_assoc] using this

/-- The option names of the options part of a rule text, as `loadOptions` sees them. -/
def optionNames (opts : Bytes) : List Bytes :=
  if opts.isEmpty then [] else
  match splitWithEscapeCharacter opts (ch ',') (ch '\\') false with
  | .ok parts => parts.map optName
  | .error _ => []

theorem loadOptions_cos {px : ParseExt} {r r' : NetRule} {opts : Bytes} {e g j : Bool}
    (hr : CosInv e g j r) (h : loadOptions px r opts = .ok r') :
    CosInv (e || (optionNames opts).any (cosBit 4)) (g || (optionNames opts).any (cosBit 5))
      (j || (optionNames opts).any (cosBit 7)) r' := by
  unfold loadOptions at h
  unfold optionNames
  refine ite_ok_elim_c h ?_ ?_ <;> clear h <;> intro hc h
  · cases pure_ok_elim h
    rw [if_pos hc]
    simpa using hr
  · obtain ⟨parts, hp, h⟩ := bind_ok_elim h
    obtain ⟨r1, hf, h⟩ := bind_ok_elim h
    rw [if_neg hc, hp]
    simp only [List.any_map]
    have hr1 := foldlM_cos parts r r1 e g j hr hf
    refine ite_ok_elim h ?_ ?_ <;> clear h <;> intro h
    · cases pure_ok_elim h
      exact ⟨hr1.wl, hr1.b4, hr1.b5, hr1.b7⟩
    · cases pure_ok_elim h
      exact hr1

/-- The three bits of a parsed EXCEPTION rule, from its text. -/
theorem parseNetRule_cos_bits {px : ParseExt} {t : Bytes} {id : Int} {r : NetRule}
    (h : parseNetRule px t id = .ok r) (hw : r.whitelist = true) :
    ∃ pat opts, parseRuleText t = .ok (pat, opts, true) ∧
      r.enabled.testBit 4 = (optionNames opts).any (cosBit 4) ∧
      r.enabled.testBit 5 = (optionNames opts).any (cosBit 5) ∧
      r.enabled.testBit 7 = (optionNames opts).any (cosBit 7) := by
  have hfull := h
  unfold parseNetRule at h
  obtain ⟨⟨pattern, options, whitelist⟩, hprt, h⟩ := bind_ok_elim h
  obtain ⟨r1, hl, h⟩ := bind_ok_elim h
  -- the tail keeps `enabled` and `whitelist`
  have tail : r.enabled = r1.enabled ∧ r.whitelist = r1.whitelist := by
    extract_lets jp at h
    have hjp : ∀ r2, jp r2 = .ok r → r.enabled = r2.enabled ∧ r.whitelist = r2.whitelist := by
      intro r2 h
      simp only [jp] at h
      refine ite_ok_elim h ?_ ?_ <;> clear h <;> intro h
      · cases h
      · obtain ⟨sc, _, h⟩ := bind_ok_elim h
        refine ite_ok_elim h ?_ ?_ <;> clear h <;> intro h
        · cases pure_ok_elim h; exact ⟨rfl, rfl⟩
        · cases pure_ok_elim h; exact ⟨rfl, rfl⟩
    refine ite_ok_elim h ?_ ?_ <;> clear h <;> intro h
    · obtain ⟨p, _, h⟩ := bind_ok_elim h
      obtain ⟨r2, hp, h⟩ := bind_ok_elim h
      cases pure_ok_elim hp
      have := hjp _ h
      exact this
    · obtain ⟨r2, hp, h⟩ := bind_ok_elim h
      cases pure_ok_elim hp
      exact hjp _ h
  -- the exception flag is the one `parseRuleText` found
  have hwl : whitelist = true := by
    obtain ⟨pat', opts', wl', hp', _, hwl', _⟩ := I2.parseNetRule_pattern hfull
    rw [hprt] at hp'
    cases hp'
    rw [← hwl']; exact hw
  subst hwl
  have h0 : CosInv false false false
      ({ text := t, whitelist := true, listID := id, pattern := pattern } : NetRule) :=
    ⟨rfl, by simp, by simp, by simp⟩
  have hr1 := loadOptions_cos h0 hl
  exact ⟨pattern, options, hprt, by rw [tail.1, hr1.b4, Bool.false_or], by rw [tail.1, hr1.b5, Bool.false_or],
    by rw [tail.1, hr1.b7, Bool.false_or]⟩

/-- The named modifiers WRITTEN in the options part of a rule text, in order, with repetitions. -/
def textCosMods (opts : Bytes) : List CosMod := (optionNames opts).filterMap nameToMod

/-- C16 FROM THE TEXT: for every text `NewNetworkRule` accepts as an EXCEPTION rule, `GetCosmeticOption` is
    the reference applied to the named modifiers written in the text. -/
theorem getCosmeticOption_text {px : ParseExt} {t : Bytes} {id : Int} {r : NetRule}
    (h : parseNetRule px t id = .ok r) (hw : r.whitelist = true) :
    ∃ pat opts, parseRuleText t = .ok (pat, opts, true) ∧
      getCosmeticOption (some r) = specCosmeticOption true (textCosMods opts) := by
  obtain ⟨pat, opts, hp, h4, h5, h7⟩ := parseNetRule_cos_bits h hw
  have any_mods : ∀ k, (optionNames opts).any (cosBit k) = (textCosMods opts).any (·.bits.testBit k) :=
    fun k => List.any_filterMap.symm
  exact ⟨pat, opts, hp, getCosmeticOption_of_bits r _ hw (by rw [h4, any_mods]) (by rw [h5, any_mods])
    (by rw [h7, any_mods])⟩

end UF.Compose3
