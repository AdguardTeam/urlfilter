import UF.Compose3.CosText
/-
  Which NAMED modifiers switch which cosmetic option off: the three bits of the reference option
  `specCosmeticOption true mods`, read off the list of modifiers.
-/
namespace UF.Compose3
open UF

/-- Some modifier of the list has bit `k`, when `a` and `b` are the modifiers that have it. -/
theorem any_bit (mods : List CosMod) (k : Nat) (a b : CosMod) (h : ∀ m, m.bits.testBit k = true ↔ m = a ∨ m = b) :
    mods.any (·.bits.testBit k) = true ↔ (a ∈ mods ∨ b ∈ mods) := by
  rw [List.any_eq_true]
  constructor
  · rintro ⟨m, hm, hb⟩
    rcases (h m).1 hb with rfl | rfl
    · exact .inl hm
    · exact .inr hm
  · rintro (h' | h')
    · exact ⟨a, h', (h a).2 (.inl rfl)⟩
    · exact ⟨b, h', (h b).2 (.inr rfl)⟩

/-- THE THREE BITS of the reference option of an exception with the named modifiers `mods`:
    CSS is off iff `elemhide` or `document` is among them, generic CSS iff `elemhide`, `document` or
    `generichide` is, JS iff `jsinject` or `document` is.  Nothing else switches anything off. -/
theorem specCosmeticOption_bits (mods : List CosMod) :
    ((specCosmeticOption true mods &&& cosCSS ≠ cosCSS) ↔ (CosMod.elemhide ∈ mods ∨ CosMod.document ∈ mods)) ∧
    ((specCosmeticOption true mods &&& cosGenericCSS ≠ cosGenericCSS) ↔
      (CosMod.elemhide ∈ mods ∨ CosMod.document ∈ mods ∨ CosMod.generichide ∈ mods)) ∧
    ((specCosmeticOption true mods &&& cosJS ≠ cosJS) ↔ (CosMod.jsinject ∈ mods ∨ CosMod.document ∈ mods)) := by
  have b4 := any_bit mods 4 .elemhide .document (fun m => by cases m <;> decide)
  have b5 := any_bit mods 5 .generichide .generichide (fun m => by cases m <;> decide)
  have b7 := any_bit mods 7 .jsinject .document (fun m => by cases m <;> decide)
  rw [or_self] at b5
  rw [← or_assoc, ← b4, ← b5, ← b7, specCosmeticOption_flags]
  cases mods.any (·.bits.testBit 4) <;> cases mods.any (·.bits.testBit 5) <;> cases mods.any (·.bits.testBit 7) <;>
    decide

end UF.Compose3
