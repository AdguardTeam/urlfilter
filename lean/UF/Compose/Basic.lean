import UF.Compose.NetRules
import UF.Proofs.Result
import UF.Proofs.EngineDns
/-
  What gives `BasicRespectsTexts`, the hypothesis of C02 about `GetDNSBasicRule`, for the model
  `getDNSBasicRule` on every rule set in which the text determines the rule up to the list id
  (`listsAgree_of_texts`, `getDNSBasicRule_agree`; put together in Props/C02Compose.lean): effectiveness
  (`$badfilter` twins compare every field except text and list id), the candidate test and the class rank do
  not read the list id, so candidate lists that agree up to list ids and multiplicities have candidates of the same class
  ranks, and the class of a maximum of the priority order is the maximal rank.
-/
namespace UF.Compose
open UF UF.B

def SameButID (r r' : NetRule) : Prop := setID 0 r = setID 0 r'

/-- Two candidate lists that agree up to list ids, order and multiplicities. -/
def ListsAgree (l l' : List NetRule) : Prop :=
  (∀ r ∈ l, ∃ r' ∈ l', SameButID r r') ∧ (∀ r' ∈ l', ∃ r ∈ l, SameButID r r')

theorem sameButID_of_eq {r r' : NetRule} (h : r' = setID r'.listID r) : SameButID r r' := by
  unfold SameButID; rw [h]; rfl

theorem listsAgree_of_texts {S l l' : List NetRule} (hS : TextDet S) (hl : ∀ r ∈ l, r ∈ S) (hl' : ∀ r ∈ l', r ∈ S)
    (ht : ∀ t, t ∈ l.map (·.text) ↔ t ∈ l'.map (·.text)) : ListsAgree l l' := by
  constructor
  · intro r hr
    obtain ⟨r', hr', he⟩ := List.mem_map.1 ((ht r.text).1 (List.mem_map.2 ⟨r, hr, rfl⟩))
    exact ⟨r', hr', sameButID_of_eq (hS r (hl r hr) r' (hl' r' hr') he.symm)⟩
  · intro r' hr'
    obtain ⟨r, hr, he⟩ := List.mem_map.1 ((ht r'.text).2 (List.mem_map.2 ⟨r', hr', rfl⟩))
    exact ⟨r, hr, sameButID_of_eq (hS r (hl r hr) r' (hl' r' hr') he)⟩

/-- A function of a rule that does not read the list id agrees on rules equal up to the list id. -/
theorem congr_noID {α} (f : NetRule → α) (hf : ∀ r, f (setID 0 r) = f r) {r r' : NetRule} (h : SameButID r r') :
    f r = f r' := by
  rw [← hf r, ← hf r', h]

theorem isTwin_congr {b b' r r' : NetRule} (hb : SameButID b b') (hr : SameButID r r') :
    isTwin b r = isTwin b' r' := by
  have h1 : isTwin b r = isTwin b' r := congr_noID (fun x => isTwin x r) (fun _ => rfl) hb
  have h2 : isTwin b' r = isTwin b' r' := congr_noID (fun x => isTwin b' x) (fun _ => rfl) hr
  rw [h1, h2]

theorem any_agree {l l' : List NetRule} (h : ListsAgree l l') (f f' : NetRule → Bool)
    (hf : ∀ b b', SameButID b b' → f b = f' b') : l.any f = l'.any f' := by
  cases hx : l.any f with
  | true =>
    obtain ⟨b, hb, hfb⟩ := List.any_eq_true.1 hx
    obtain ⟨b', hb', hs⟩ := h.1 b hb
    exact (List.any_eq_true.2 ⟨b', hb', by rw [← hf b b' hs]; exact hfb⟩).symm
  | false =>
    symm
    apply List.any_eq_false.2
    intro b' hb'
    obtain ⟨b, hb, hs⟩ := h.2 b' hb'
    rw [← hf b b' hs]
    have := List.any_eq_false.1 hx b hb
    simpa using this

theorem effectiveIn_agree {l l' : List NetRule} (h : ListsAgree l l') {r r' : NetRule} (hr : SameButID r r') :
    effectiveIn l r = effectiveIn l' r' := by
  unfold effectiveIn
  rw [any_agree h (fun b => isTwin b r) (fun b => isTwin b r') (fun b b' hb => isTwin_congr hb hr),
    congr_noID (fun x => x.badfilter) (fun _ => rfl) hr,
    congr_noID (fun x => x.rewrite.isNone) (fun _ => rfl) hr]

/-- The candidates of the selection scan of `GetDNSBasicRule`. -/
def dnsCands (l : List NetRule) : List NetRule := (l.filter (effectiveIn l)).filter dnsLoopCandidate

theorem getDNSBasicRule_eq (l : List NetRule) :
    getDNSBasicRule l =
      if (l.filter (effectiveIn l)).any (fun r => r.isEnabled Facts.OptionReplace) then none
      else selectBest (dnsCands l) := by
  unfold getDNSBasicRule
  rw [effective_eq, dnsBasicLoop_eq]
  rfl

theorem dnsCands_agree {l l' : List NetRule} (h : ListsAgree l l') :
    ∀ r ∈ dnsCands l, ∃ r' ∈ dnsCands l', classRank r' = classRank r := by
  intro r hr
  unfold dnsCands at hr ⊢
  obtain ⟨h1, hc⟩ := List.mem_filter.1 hr
  obtain ⟨hm, he⟩ := List.mem_filter.1 h1
  obtain ⟨r', hm', hs⟩ := h.1 r hm
  refine ⟨r', List.mem_filter.2 ⟨List.mem_filter.2 ⟨hm', ?_⟩, ?_⟩, ?_⟩
  · rw [← effectiveIn_agree h hs]; exact he
  · rw [← congr_noID dnsLoopCandidate (fun _ => rfl) hs]; exact hc
  · exact (congr_noID classRank (fun _ => rfl) hs).symm

theorem ListsAgree.symm {l l' : List NetRule} (h : ListsAgree l l') : ListsAgree l' l := by
  refine ⟨fun r hr => ?_, fun r hr => ?_⟩
  · obtain ⟨x, hx, hs⟩ := h.2 r hr; exact ⟨x, hx, hs.symm⟩
  · obtain ⟨x, hx, hs⟩ := h.1 r hr; exact ⟨x, hx, hs.symm⟩

/-- `classRank` encodes the pair (exception, important) injectively. -/
theorem netCls_of_rank {w w' : NetRule} (h : classRank w = classRank w') : netCls w = netCls w' := by
  have key : ∀ a b c d : Bool,
      (if a && b then 3 else if b then 2 else if a then 1 else 0 : Nat) =
        (if c && d then 3 else if d then 2 else if c then 1 else 0) → (a, b) = (c, d) := by decide
  exact key _ _ _ _ h

/-- The class of the selected rule depends only on the class ranks present among the candidates. -/
theorem selectBest_cls_congr (C C' : List NetRule)
    (h1 : ∀ r ∈ C, ∃ r' ∈ C', classRank r' = classRank r)
    (h2 : ∀ r' ∈ C', ∃ r ∈ C, classRank r = classRank r') :
    (selectBest C).map netCls = (selectBest C').map netCls := by
  cases hs : selectBest C with
  | none =>
    have hC := (selectBest_none C).1 hs
    have hC' : C' = [] := by
      cases C' with
      | nil => rfl
      | cons x xs =>
        obtain ⟨r, hr, _⟩ := h2 x (by simp)
        rw [hC] at hr; cases hr
    rw [hC']; rfl
  | some w =>
    obtain ⟨hw, hmax⟩ := fold_max C w hs
    cases hs' : selectBest C' with
    | none =>
      have hC' := (selectBest_none C').1 hs'
      obtain ⟨r', hr', _⟩ := h1 w hw
      rw [hC'] at hr'; cases hr'
    | some w' =>
      obtain ⟨hw', hmax'⟩ := fold_max C' w' hs'
      simp only [Option.map_some, Option.some.injEq]
      apply netCls_of_rank
      obtain ⟨x', hx', hx⟩ := h1 w hw
      obtain ⟨x, hxm, hx2⟩ := h2 w' hw'
      have a : classRank x' ≤ classRank w' := by
        apply Nat.le_of_not_lt; intro hlt; exact hmax' x' hx' (Or.inl hlt)
      have b : classRank x ≤ classRank w := by
        apply Nat.le_of_not_lt; intro hlt; exact hmax x hxm (Or.inl hlt)
      omega

/-- `GetDNSBasicRule` decides alike, up to the class of the winner, on candidate lists that agree up to
    list ids, order and multiplicities. -/
theorem getDNSBasicRule_agree {l l' : List NetRule} (h : ListsAgree l l') :
    (getDNSBasicRule l).map netCls = (getDNSBasicRule l').map netCls := by
  rw [getDNSBasicRule_eq, getDNSBasicRule_eq]
  have ht : (l.filter (effectiveIn l)).any (fun r => r.isEnabled Facts.OptionReplace) =
      (l'.filter (effectiveIn l')).any (fun r => r.isEnabled Facts.OptionReplace) := by
    rw [List.any_filter, List.any_filter]
    apply any_agree h
    intro b b' hb
    rw [effectiveIn_agree h hb, congr_noID (fun x => x.isEnabled Facts.OptionReplace) (fun _ => rfl) hb]
  rw [ht]
  split
  · rfl
  · exact selectBest_cls_congr _ _ (dnsCands_agree h)
      (fun r' hr' => by
        obtain ⟨r, hr, he⟩ := dnsCands_agree h.symm r' hr'
        exact ⟨r, hr, he⟩)

theorem storageRulesI_fst (px : E.ParseExt) (lists : List Storage.RList) :
    (storageRulesI px lists).map (·.1) = specRules px lists := by
  rw [← storageRules_eq_spec]
  unfold storageRulesI
  rw [List.map_map]
  rfl

end UF.Compose
