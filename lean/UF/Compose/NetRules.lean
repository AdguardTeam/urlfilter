import UF.Compose.Scan
import UF.Compose.Domains
import UF.Compose.ListID
import UF.Spec.Engine
import UF.Spec.DnsEngine
import UF.Spec.Storage
import UF.Proofs.EngineDns
/-
  The rule lists the engines are built from, from the bytes of the filter lists (storage scan with the
  real parser model), what the engine theorems assume about them (`RetrievalOK`: `retrievalOK_rules`;
  every network rule is what `NewNetworkRule` returns on its own text: `storageNetRules_parse`, which gives
  `DomainsWF` by `parseNetRule_domainsWF`; `TextDeterminesRule` from `storage_textDet`; the `MaxInt32`
  bound in `StorageOK`), and the line-by-line reference `specRules` (split at newlines, `NewRule` on every
  piece).
-/
namespace UF.Compose
open UF UF.Storage

def netOf : Rule × Int → Option (NetRule × Int)
  | (.net r, i) => some (r, i)
  | _ => none

/-- What `NewNetworkEngine` is built from: the network rules the storage scan yields, with their indexes. -/
def storageNetRules (px : E.ParseExt) (lists : List RList) : List (NetRule × B.Idx) :=
  (storageRulesI px lists).filterMap netOf

theorem mem_storageNetRules {px : E.ParseExt} {lists : List RList} {r : NetRule} {i : Int} :
    (r, i) ∈ storageNetRules px lists ↔ (Rule.net r, i) ∈ storageRulesI px lists :=
  B.mem_filterMap_sel (f := netOf) (g := fun p => (Rule.net p.1, p.2))
    (fun a b => by obtain ⟨rule, j⟩ := a; cases rule <;> simp [netOf, Prod.ext_iff]) _ (r, i)

theorem mem_storageRulesI {px : E.ParseExt} {lists : List RList} {r : Rule} {i : Int}
    (h : (r, i) ∈ storageRulesI px lists) : ∃ k, (r, k) ∈ storageRules px lists ∧ i = idxOf k := by
  unfold storageRulesI at h
  obtain ⟨⟨r', k⟩, hm, he⟩ := List.mem_map.1 h
  simp only [Prod.mk.injEq] at he
  obtain ⟨rfl, rfl⟩ := he
  exact ⟨k, hm, rfl⟩

/-- C11 composed, in the engines' terms: in every reachable storage state every scanned rule (of any kind)
    is retrieved by its index. -/
theorem retrievalOK_rules (io : IO) (px : E.ParseExt) (lists : List RList) (hok : ListsOK lists)
    (st : RuleStorage) (hnew : newRuleStorage lists = some st) (history : List (BitVec 64)) :
    B.RetrievalOK (retrieveAt io px (reach io px st history)) (storageRulesI px lists) := by
  intro ⟨r, i⟩ hp
  obtain ⟨k, hk, rfl⟩ := mem_storageRulesI hp
  show (retrieveFull io px _ (BitVec.ofInt 64 (idxOf k))).1 = some r
  rw [ofInt_idxOf]
  exact retrieveFull_scanned io px lists hok st hnew history hk

theorem storageNetRules_parse {px : E.ParseExt} {lists : List RList} {r : NetRule} {i : Int}
    (h : (r, i) ∈ storageNetRules px lists) :
    E.parseNetRule px r.text r.listID = .ok r ∧ ∃ l ∈ lists, r.listID = l.id := by
  obtain ⟨k, hk, _⟩ := mem_storageRulesI (mem_storageNetRules.1 h)
  obtain ⟨l, hl, idx, line, _, hn, _, _⟩ := storageRules_line hk
  have hp := newRule_net hn
  have ht := E.parseNetRule_text hp
  simp only [realRx] at hp ht
  refine ⟨?_, l, hl, ht.2⟩
  rw [ht.1, ht.2]; exact hp

/-- Two network rules parsed from the same text differ in the list id only. -/
theorem parse_same_text {px : E.ParseExt} {r r' : NetRule}
    (h : E.parseNetRule px r.text r.listID = .ok r) (h' : E.parseNetRule px r'.text r'.listID = .ok r')
    (ht : r.text = r'.text) : r' = { r with listID := r'.listID } := by
  rw [← ht, parseNetRule_setID px r.text r'.listID r.listID, h] at h'
  exact (Except.ok.inj h').symm

/-- In `S` the text determines the rule up to the list id. -/
def TextDet (S : List NetRule) : Prop :=
  ∀ r ∈ S, ∀ r' ∈ S, r.text = r'.text → r' = setID r'.listID r

theorem textDetermines_of_textDet {S : List NetRule} {L : List (NetRule × B.Idx)} (hS : TextDet S)
    (hL : ∀ p ∈ L, p.1 ∈ S) : B.TextDeterminesRule L :=
  fun p hp p' hp' ht => hS p.1 (hL p hp) p'.1 (hL p' hp') ht

/-- All network rules of a storage come from the same parser. -/
theorem storage_textDet (px : E.ParseExt) (lists : List Storage.RList) :
    TextDet (B.netRulesOf ((storageRulesI px lists).map (·.1))) := by
  intro r hr r' hr' ht
  rw [B.mem_netRulesOf] at hr hr'
  obtain ⟨⟨x, i⟩, hm, rfl⟩ := List.mem_map.1 hr
  obtain ⟨⟨x', i'⟩, hm', rfl⟩ := List.mem_map.1 hr'
  exact parse_same_text (storageNetRules_parse (mem_storageNetRules.2 hm)).1
    (storageNetRules_parse (mem_storageNetRules.2 hm')).1 ht

theorem dropLine_cons_length_le (c : UInt8) (r : Bytes) : (dropLine (c :: r)).length ≤ r.length := by
  simp only [dropLine]
  split
  · exact Nat.le_refl _
  · exact dropLine_length_le r

theorem scanLinesFrom_length_le (pos : Nat) (s : Bytes) : (scanLinesFrom pos s).length ≤ s.length := by
  induction pos, s using scanLinesFrom.induct with
  | case1 pos => simp [scanLinesFrom]
  | case2 pos c r line' ih =>
    rw [scanLinesFrom]
    have := dropLine_cons_length_le c r
    simp only [List.length_cons]
    have ih' : (scanLinesFrom (pos + line'.length) (dropLine (c :: r))).length ≤ (dropLine (c :: r)).length := ih
    exact Nat.succ_le_succ (Nat.le_trans ih' this)

def totalSize (lists : List RList) : Nat := (lists.map (·.content.length)).sum

theorem storageRulesX_length_le (rx : E.RuleExt) (lists : List RList) :
    (storageRulesX rx lists).length ≤ totalSize lists := by
  unfold storageRulesX totalSize
  induction lists with
  | nil => simp
  | cons l ls ih =>
    simp only [List.flatMap_cons, List.length_append, List.length_map, List.map_cons, List.sum_cons]
    have h1 : (scanRules rx l).length ≤ (scanLines l.content).length := List.length_filterMap_le _ _
    have h2 := scanLinesFrom_length_le 0 l.content
    unfold scanLines at h1
    exact Nat.add_le_add (Nat.le_trans h1 h2) ih

theorem storageRulesI_length_le (px : E.ParseExt) (lists : List Storage.RList) :
    (storageRulesI px lists).length ≤ totalSize lists := by
  unfold storageRulesI storageRules
  rw [List.length_map]
  exact storageRulesX_length_le (realRx px) lists

/-- The well-formedness the composed statements quantify over: distinct ids that fit int32 and contents
    of fewer than `MaxInt32` bytes in total (so that every offset fits int32 and `TryAdd`'s minimum search,
    which starts at `math.MaxInt32`, is exact). -/
structure StorageOK (lists : List RList) : Prop where
  distinct : hasDupIds lists [] = false
  ids : ∀ l ∈ lists, -2147483648 ≤ l.id ∧ l.id < 2147483648
  size : totalSize lists < B.maxInt32

theorem le_totalSize {lists : List RList} {l : RList} (h : l ∈ lists) : l.content.length ≤ totalSize lists := by
  unfold totalSize
  induction lists with
  | nil => cases h
  | cons a t ih =>
    simp only [List.map_cons, List.sum_cons]
    rcases List.mem_cons.1 h with rfl | h
    · omega
    · have := ih h; omega

theorem StorageOK.listsOK {lists : List RList} (h : StorageOK lists) : ListsOK lists :=
  ⟨h.distinct, h.ids, fun l hl => by
    have := le_totalSize hl; have := h.size; unfold B.maxInt32 at this; omega⟩

theorem StorageOK.new {lists : List RList} (h : StorageOK lists) : newRuleStorage lists = some ⟨lists, []⟩ := by
  unfold newRuleStorage; rw [h.distinct]; rfl

/-- Reference: split the content at newlines and hand every piece to `NewRule`; keep what it accepts
    (minus cosmetic rules for an `IgnoreCosmetic` list). -/
def specRulesOf (rx : E.RuleExt) (l : RList) : List Rule :=
  (splitLines l.content).filterMap fun piece =>
    match E.acceptedOf rx l.id piece with
    | some r => if l.ignoreCosmetic && isCos r then none else some r
    | none => none

def specRules (px : E.ParseExt) (lists : List RList) : List Rule := lists.flatMap (specRulesOf (realRx px))

theorem filterMap_withOffsets {β} (f : Bytes → Option β) (hf : f [] = none) (pos : Nat) (ps : List Bytes) :
    (withOffsets pos ps).filterMap (fun p => f p.2) = ps.filterMap f := by
  induction ps generalizing pos with
  | nil => rfl
  | cons p qs ih =>
    cases qs with
    | nil =>
      simp only [withOffsets]
      cases p with
      | nil => simp [hf]
      | cons a t => simp [List.filterMap_cons]
    | cons q ps =>
      simp only [withOffsets, List.filterMap_cons]
      rw [ih]
      rfl

theorem acceptedOf_nil (px : E.ParseExt) (id : Int) : E.acceptedOf (realRx px) id [] = none := by
  unfold E.acceptedOf
  rw [E.newRule_blank (rx := realRx px) (line := []) rfl id]

theorem acceptedOf_untilNL (px : E.ParseExt) {content : Bytes} {idx : Nat} {line : Bytes}
    (h : (idx, line) ∈ scanLines content) (id : Int) :
    E.acceptedOf (realRx px) id (untilNL line) = E.acceptedOf (realRx px) id line := by
  apply acceptedOf_congr_trim
  rw [(scanLines_mem h).2, untilNL_takeLine, trimSpace_takeLine]

/-- The scan (offset bookkeeping of `readNextLine`, lines with their newline) yields, in order, exactly
    the rules of the reference. -/
theorem scanRules_eq_spec (px : E.ParseExt) (l : RList) :
    (scanRules (realRx px) l).map (·.1) = specRulesOf (realRx px) l := by
  unfold scanRules specRulesOf
  rw [← filterMap_withOffsets _ (by rw [acceptedOf_nil]) 0 (splitLines l.content)]
  show _ = (specLines l.content).filterMap _
  rw [← scanLines_eq_spec, List.filterMap_map, List.map_filterMap]
  apply filterMap_congr_mem
  intro ⟨idx, line⟩ hm
  simp only [Function.comp, acceptedOf_untilNL px hm]
  cases E.acceptedOf (realRx px) l.id line with
  | none => rfl
  | some r => simp only; split <;> rfl

theorem storageRules_eq_spec (px : E.ParseExt) (lists : List RList) :
    (storageRules px lists).map (·.1) = specRules px lists := by
  unfold storageRules storageRulesX specRules
  rw [List.map_flatMap]
  congr 1
  funext l
  rw [List.map_map, ← scanRules_eq_spec]
  rfl

/-- The network rules the engine is built from are, in order, the network rules of the reference. -/
theorem storageNetRules_eq_spec (px : E.ParseExt) (lists : List RList) :
    (storageNetRules px lists).map (·.1) = B.netRulesOf (specRules px lists) := by
  rw [← storageRules_eq_spec]
  unfold storageNetRules storageRulesI B.netRulesOf
  rw [List.map_filterMap, List.filterMap_map, List.filterMap_map]
  apply filterMap_congr_mem
  intro ⟨r, k⟩ _
  cases r <;> rfl

/-- A rule of the reference, spelled out: a piece of a list between newlines that `NewRule` accepts. -/
theorem mem_specRules {px : E.ParseExt} {lists : List RList} {r : Rule} :
    r ∈ specRules px lists ↔ ∃ l ∈ lists, ∃ piece ∈ splitLines l.content,
      E.newRule (realRx px) piece l.id = .ok (some r) ∧ (l.ignoreCosmetic && isCos r) = false := by
  unfold specRules specRulesOf
  simp only [List.mem_flatMap, List.mem_filterMap]
  constructor
  · rintro ⟨l, hl, piece, hp, h⟩
    obtain ⟨r', hn, hc, rfl⟩ := (keep_eq_some (realRx px) l.id l.ignoreCosmetic piece (fun r => r) r).1 h
    exact ⟨l, hl, piece, hp, hn, hc⟩
  · rintro ⟨l, hl, piece, hp, hn, hc⟩
    exact ⟨l, hl, piece, hp, (keep_eq_some (realRx px) l.id l.ignoreCosmetic piece (fun r => r) r).2 ⟨r, hn, hc, rfl⟩⟩

end UF.Compose

namespace UF.Compose
open UF UF.Storage

def cosRulesOf (L : List Rule) : List CosRule :=
  L.filterMap fun | .cos c => some c | _ => none

theorem mem_cosRulesOf (L : List Rule) (c : CosRule) : c ∈ cosRulesOf L ↔ Rule.cos c ∈ L :=
  B.mem_filterMap_sel (fun a b => by cases a <;> simp) L c

/-- What `NewCosmeticEngine` is built from: the cosmetic rules the storage scan yields, in storage order
    (none from an `IgnoreCosmetic` list). -/
def storageCosRules (px : E.ParseExt) (lists : List RList) : List CosRule :=
  cosRulesOf ((storageRules px lists).map (·.1))

end UF.Compose
