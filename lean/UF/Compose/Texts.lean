import UF.Compose.NetRules
import UF.Proofs.EngineDns
/-
  What makes the reference answer depend only on the set of texts of the accepted network rules: `Match`
  does not read the list id, and a network rule of the reference is what `NewNetworkRule` returns on its
  own text.
-/
namespace UF.Compose
open UF UF.B UF.Storage

/-- `Match` never reads the list id. -/
theorem matches_setID (ext : Ext) (i : Int) (r : NetRule) (q : Request) :
    (setID i r).matches ext q = r.matches ext q := rfl

theorem specRules_net_parse {px : E.ParseExt} {lists : List RList} {r : NetRule}
    (h : r ∈ netRulesOf (specRules px lists)) : E.parseNetRule px r.text r.listID = .ok r := by
  rw [← storageNetRules_eq_spec] at h
  obtain ⟨⟨r', i⟩, hm, rfl⟩ := List.mem_map.1 h
  exact (storageNetRules_parse hm).1

end UF.Compose
