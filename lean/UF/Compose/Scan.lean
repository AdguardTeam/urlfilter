import UF.Compose.Parser
import UF.Proofs.StorageMain
import UF.Proofs.StorageRef
/-
  The storage scan and retrieval run with the real parser model and yielding the full rule objects (the
  storage model's `SRule` is their projection `toS`): `storageRules` is what `RuleStorageScanner` yields
  from the bytes of the lists, `retrieveFull` is `RuleStorage.RetrieveRule` (cache included) followed by
  `materialize`, the rule object `NewRule` builds from the retrieved text.
-/
namespace UF.Compose
open UF UF.Storage

def isCos : Rule → Bool
  | .cos _ => true
  | _ => false

theorem isCos_kind (r : Rule) : (kindOf r == Kind.cosmetic) = isCos r := by
  cases r <;> rfl

/-- `RuleScanner.Scan` with the modelled parser, keeping the rule objects. -/
def scanRules (rx : E.RuleExt) (l : RList) : List (Rule × Nat) :=
  (scanLines l.content).filterMap fun (idx, line) =>
    match E.acceptedOf rx l.id line with
    | some r => if l.ignoreCosmetic && isCos r then none else some (r, idx)
    | none => none

/-- `RuleStorageScanner`: every rule of every list with its storage index. -/
def storageRulesX (rx : E.RuleExt) (lists : List RList) : List (Rule × BitVec 64) :=
  lists.flatMap fun l =>
    (scanRules rx l).map fun (r, idx) => (r, pack (BitVec.ofInt 32 l.id) (BitVec.ofNat 32 idx))

def storageRules (px : E.ParseExt) (lists : List RList) : List (Rule × BitVec 64) :=
  storageRulesX (realRx px) lists

/-- What the scan and the line-by-line reference keep of a line: the rule `NewRule` accepts, unless it is
    cosmetic and the list ignores cosmetic rules. -/
theorem keep_eq_some {β} (rx : E.RuleExt) (id : Int) (ign : Bool) (line : Bytes) (g : Rule → β) (y : β) :
    (match E.acceptedOf rx id line with
      | some r => if ign && isCos r then none else some (g r)
      | none => none) = some y ↔
    ∃ r, E.newRule rx line id = .ok (some r) ∧ (ign && isCos r) = false ∧ y = g r := by
  unfold E.acceptedOf
  cases hn : E.newRule rx line id with
  | error e => simp
  | ok o =>
    cases o with
    | none => simp
    | some r =>
      show (if ign && isCos r then none else some (g r)) = some y ↔ _
      constructor
      · intro h
        split at h
        · cases h
        · next hc => exact ⟨r, rfl, by simpa using hc, (Option.some.inj h).symm⟩
      · rintro ⟨r', h, hc, rfl⟩
        cases h
        rw [if_neg (by simp [hc])]

theorem mem_scanRules_iff {rx : E.RuleExt} {l : RList} {r : Rule} {idx : Nat} :
    (r, idx) ∈ scanRules rx l ↔ ∃ line, (idx, line) ∈ scanLines l.content ∧
      E.newRule rx line l.id = .ok (some r) ∧ (l.ignoreCosmetic && isCos r) = false := by
  unfold scanRules
  simp only [List.mem_filterMap, keep_eq_some, Prod.exists, Prod.mk.injEq]
  constructor
  · rintro ⟨i, line, hm, r', hn, hc, rfl, rfl⟩; exact ⟨line, hm, hn, hc⟩
  · rintro ⟨line, hm, hn, hc⟩; exact ⟨idx, line, hm, r, hn, hc, rfl, rfl⟩

theorem mem_scanRules {rx : E.RuleExt} {l : RList} {r : Rule} {idx : Nat} {line : Bytes}
    (hm : (idx, line) ∈ scanLines l.content) (hn : E.newRule rx line l.id = .ok (some r))
    (hc : (l.ignoreCosmetic && isCos r) = false) : (r, idx) ∈ scanRules rx l :=
  mem_scanRules_iff.2 ⟨line, hm, hn, hc⟩

/-- The projection of the full scan of one list is the storage model's scan with the projected parser. -/
theorem scanList_parserOf (rx : E.RuleExt) (hh : HostKeeps rx.newHostRule) (l : RList) :
    scanList (parserOf rx) l.id l.ignoreCosmetic l.content = (scanRules rx l).map fun p => (toS p.1, p.2) := by
  unfold scanList scanRules
  rw [List.map_filterMap]
  apply filterMap_congr_mem
  intro ⟨idx, line⟩ _
  simp only [parserOf, E.acceptedOf]
  cases hn : E.newRule rx line l.id with
  | error e => rfl
  | ok o =>
    cases o with
    | none => rfl
    | some r =>
      simp only [isCos_kind]
      have hid := (E.newRule_text hh hn).2
      cases hc : (l.ignoreCosmetic && isCos r)
      · simp [toS, hid]
      · simp

theorem storageScan_parserOf (rx : E.RuleExt) (hh : HostKeeps rx.newHostRule) (lists : List RList) :
    storageScan (parserOf rx) lists = (storageRulesX rx lists).map fun p => (toS p.1, p.2) := by
  unfold storageScan storageRulesX
  rw [List.map_flatMap]
  congr 1
  funext l
  rw [scanList_parserOf rx hh l, List.map_map, List.map_map]
  apply List.map_congr_left
  intro ⟨r, idx⟩ hm
  obtain ⟨line, _, hn, _⟩ := mem_scanRules_iff.1 hm
  have hid := (E.newRule_text hh hn).2
  simp [toS, hid]

theorem storageScan_real (px : E.ParseExt) (lists : List RList) :
    storageScan (realParser px) lists = (storageRules px lists).map fun p => (toS p.1, p.2) :=
  storageScan_parserOf (realRx px) (hostRuleH_keeps px.ext) lists

/-- Every yielded rule comes from a line of a list: `NewRule(line, id)` produced it. -/
theorem storageRules_line {px : E.ParseExt} {lists : List RList} {r : Rule} {k : BitVec 64}
    (h : (r, k) ∈ storageRules px lists) :
    ∃ l ∈ lists, ∃ idx line, (idx, line) ∈ scanLines l.content ∧
      E.newRule (realRx px) line l.id = .ok (some r) ∧ (l.ignoreCosmetic && isCos r) = false ∧
      k = pack (BitVec.ofInt 32 l.id) (BitVec.ofNat 32 idx) := by
  unfold storageRules storageRulesX at h
  obtain ⟨l, hl, hm⟩ := List.mem_flatMap.1 h
  obtain ⟨⟨r', idx⟩, hm', he⟩ := List.mem_map.1 hm
  cases he
  obtain ⟨line, h1, h2, h3⟩ := mem_scanRules_iff.1 hm'
  exact ⟨l, hl, idx, line, h1, h2, h3, rfl⟩

/-- The rule object behind a retrieved `SRule`: `NewRule(text, listID)` (the text is the trimmed line the
    retriever handed to `NewRule`; `NewRule` trims again, which changes nothing). -/
def materialize (rx : E.RuleExt) (s : SRule) : Option Rule := E.acceptedOf rx s.listID s.text

theorem materialize_toS {px : E.ParseExt} {line : Bytes} {id : Int} {r : Rule}
    (h : E.newRule (realRx px) line id = .ok (some r)) : materialize (realRx px) (toS r) = some r := by
  obtain ⟨ht, hid⟩ := realRx_text h
  unfold materialize toS E.acceptedOf
  simp only [ht, hid, newRule_trim, h]

/-- `RuleStorage.RetrieveRule` returning the rule object (`none` = nil or an error). -/
def retrieveFull (io : IO) (px : E.ParseExt) (st : RuleStorage) (k : BitVec 64) : Option Rule × RuleStorage :=
  let res := retrieveRule io (realParser px) st k
  (match res.1 with
   | .rule s => materialize (realRx px) s
   | _ => none, res.2)

/-- The same without the cache: what the lists answer. -/
def lookupFull (io : IO) (px : E.ParseExt) (lists : List RList) (k : BitVec 64) : Option Rule :=
  match lookupRule io (realParser px) lists k with
  | .rule s => materialize (realRx px) s
  | _ => none

/-- The cache is invisible: in every state that is a cache of the lists, retrieval of ANY index (scanned or
    not) returns the object the lists give.  (A failed parse is `bad` uncached and `nilRule` cached; both
    are "no rule".) -/
theorem retrieveFull_eq_lookup (io : IO) (px : E.ParseExt) (st : RuleStorage)
    (hinv : CacheInv io (realParser px) st) (k : BitVec 64) :
    (retrieveFull io px st k).1 = lookupFull io px st.lists k := by
  obtain ⟨_, _, h3⟩ := retrieveRule_spec io (realParser px) st k hinv
  unfold retrieveFull lookupFull
  simp only
  rcases h3 with h3 | ⟨h3, h4⟩
  · rw [h3]
  · rw [h3, h4]

/-- States reachable from a new storage by any history of retrievals. -/
def reach (io : IO) (px : E.ParseExt) (st : RuleStorage) (history : List (BitVec 64)) : RuleStorage :=
  history.foldl (fun s j => (retrieveRule io (realParser px) s j).2) st

theorem reach_inv (io : IO) (px : E.ParseExt) (lists : List RList) (st : RuleStorage)
    (hnew : newRuleStorage lists = some st) (history : List (BitVec 64)) :
    CacheInv io (realParser px) (reach io px st history) ∧ (reach io px st history).lists = lists := by
  obtain ⟨hinv, hl⟩ := cacheInv_new io (realParser px) hnew
  have key : ∀ (hs : List (BitVec 64)) (s : RuleStorage), CacheInv io (realParser px) s → s.lists = lists →
      CacheInv io (realParser px) (reach io px s hs) ∧ (reach io px s hs).lists = lists := by
    intro hs
    induction hs with
    | nil => intro s h1 h2; exact ⟨h1, h2⟩
    | cons j js ih =>
      intro s h1 h2
      obtain ⟨g1, g2, _⟩ := retrieveRule_spec io (realParser px) s j h1
      exact ih _ g1 (g2.trans h2)
  exact key history st hinv hl

/-- C11 for the rule objects: in every reachable storage state a scanned rule is retrieved by its index. -/
theorem retrieveFull_scanned (io : IO) (px : E.ParseExt) (lists : List RList) (hok : ListsOK lists)
    (st : RuleStorage) (hnew : newRuleStorage lists = some st) (history : List (BitVec 64))
    {r : Rule} {k : BitVec 64} (h : (r, k) ∈ storageRules px lists) :
    (retrieveFull io px (reach io px st history) k).1 = some r := by
  have hs : (toS r, k) ∈ storageScan (realParser px) lists := by
    rw [storageScan_real]; exact List.mem_map.2 ⟨(r, k), h, rfl⟩
  obtain ⟨h1, h2⟩ := reach_inv io px lists st hnew history
  rw [retrieveFull_eq_lookup io px _ h1 k, h2]
  unfold lookupFull
  rw [lookupRule_of_scan io (realParser_trimsFirst px) hok hs]
  obtain ⟨_, _, _, line, _, hn, _, _⟩ := storageRules_line h
  exact materialize_toS hn

/-- The engines' storage index is a Go `int64`: the storage model's bit vector read as a signed number. -/
def idxOf (k : BitVec 64) : Int := k.toInt

theorem ofInt_idxOf (k : BitVec 64) : BitVec.ofInt 64 (idxOf k) = k := by
  unfold idxOf; exact BitVec.ofInt_toInt

theorem idxOf_inj {a b : BitVec 64} (h : idxOf a = idxOf b) : a = b := by
  rw [← ofInt_idxOf a, ← ofInt_idxOf b, h]

/-- `retrieve` of the engine model: `RetrieveRule(int64)` in storage state `st`. -/
def retrieveAt (io : IO) (px : E.ParseExt) (st : RuleStorage) (i : Int) : Option Rule :=
  (retrieveFull io px st (BitVec.ofInt 64 i)).1

/-- The rules of the storage with `int64` indexes. -/
def storageRulesI (px : E.ParseExt) (lists : List RList) : List (Rule × Int) :=
  (storageRules px lists).map fun p => (p.1, idxOf p.2)

end UF.Compose
