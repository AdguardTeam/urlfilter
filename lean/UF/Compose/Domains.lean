import UF.Compose.Parser
import UF.Proofs.MatchDomain
import UF.Spec.Engine
import UF.Spec.Cosmetic
/-
  The parser guarantees the engine theorems assume about `$domain` values (`DomainsWF`, `CosDomainsWF`):
  `loadDomains` accepts a value only if `IsDomainName` holds or it ends in `.*`, so a permitted domain is
  never empty and never ends in a dot.
-/
namespace UF.Compose
open UF UF.E Bytes

/-- What the lookup tables need of a permitted domain. -/
def GoodDom (d : Bytes) : Prop := d ≠ [] ∧ d.getLast? ≠ some (ch '.')

theorem dnStep_dot {s s' : DNState} (h : dnStep s (ch '.') = .cont s') : s'.st ≠ 2 := by
  unfold dnStep at h
  by_cases h01 : (s.st == 0 || s.st == 1) = true
  · simp only [h01, if_true] at h
    have h1 : isAlpha (ch '.') = false := by decide
    have h2 : isDigit (ch '.') = false := by decide
    simp [h1, h2] at h
  · simp only [h01, Bool.false_eq_true, if_false] at h
    by_cases h2 : (s.st == 2) = true
    · simp only [h2, if_true, beq_self_eq_true] at h
      split at h
      · cases h
      · cases h; simp
    · simp only [h2, Bool.false_eq_true, if_false] at h
      cases h
      simpa using h2

/-- A run that ends in state 2 did not end on a dot. -/
theorem dnRun_last {s s' : DNState} {d : Bytes} (h : dnRun s d = .ok (some s')) (hst : s'.st = 2)
    (hd : d ≠ []) : d.getLast? ≠ some (ch '.') := by
  induction d generalizing s with
  | nil => exact absurd rfl hd
  | cons c t ih =>
    unfold dnRun at h
    split at h
    · next s1 hs =>
      cases t with
      | nil =>
        cases pure_ok_elim h
        intro hl
        cases hl
        exact dnStep_dot hs hst
      | cons c' t' =>
        rw [List.getLast?_cons_cons]
        exact ih h (List.cons_ne_nil _ _)
    · cases h
    · cases h

/-- `IsDomainName(d)` ⇒ `d` is not empty and does not end in a dot. -/
theorem isDomainName_good {d : Bytes} (h : isDomainNameC d = .ok true) : GoodDom d := by
  unfold isDomainNameC at h
  refine ite_ok_elim h (fun h => by cases h) fun h => ?_
  obtain ⟨o, hr, h⟩ := bind_ok_elim h
  cases o with
  | none => cases h
  | some s =>
    have hst : s.st = 2 := by
      have := pure_ok_elim h
      simp only [Bool.not_eq_true', Bool.or_eq_false_iff, bne_eq_false_iff_eq] at this
      exact this.1.1
    have hne : d ≠ [] := by
      rintro rfl
      cases pure_ok_elim hr
      cases hst
    exact ⟨hne, dnRun_last hr hst hne⟩

theorem dotStar_good {d : Bytes} (h : hasSuffix d (lit ".*") = true) : GoodDom d := by
  obtain ⟨t, rfl⟩ := (hasSuffix_iff d (lit ".*")).1 h
  refine ⟨by simp [lit], ?_⟩
  have : lit ".*" = [ch '.'] ++ [ch '*'] := by decide
  rw [this, ← List.append_assoc, List.getLast?_append]
  simp only [List.getLast?_singleton, Option.some_or, ne_eq, Option.some.injEq]
  decide

theorem loadDomainsStep_good {acc acc' : List Bytes × List Bytes} {d : Bytes}
    (hacc : ∀ x ∈ acc.1, GoodDom x) (h : loadDomainsStep acc d = .ok acc') : ∀ x ∈ acc'.1, GoodDom x := by
  unfold loadDomainsStep at h
  extract_lets jp at h
  have hjp : ∀ x : Bool × Bytes, jp x = .ok acc' → ∀ x ∈ acc'.1, GoodDom x := by
    intro x h
    obtain ⟨restricted, d'⟩ := x
    simp only [jp] at h
    obtain ⟨isName, hn, h⟩ := bind_ok_elim h
    by_cases hcond : (!isName && !hasSuffix d' (lit ".*")) = true
    · simp only [hcond, if_true] at h
      cases h
    · simp only [hcond, Bool.false_eq_true, if_false] at h
      refine ite_ok_elim h ?_ ?_ <;> clear h <;> intro h
      · cases pure_ok_elim h
        exact hacc
      · cases pure_ok_elim h
        intro x hx
        simp only [List.mem_append, List.mem_singleton] at hx
        rcases hx with hx | rfl
        · exact hacc x hx
        · cases hname : isName with
          | true => subst hname; exact isDomainName_good hn
          | false =>
            subst hname
            exact dotStar_good (by simpa using hcond)
  refine ite_ok_elim h ?_ ?_ <;> clear h <;> intro h
  · obtain ⟨d', _, h⟩ := bind_ok_elim h
    obtain ⟨x, hx, h⟩ := bind_ok_elim h
    exact hjp x h
  · obtain ⟨x, hx, h⟩ := bind_ok_elim h
    exact hjp x h

/-- Every permitted domain `loadDomains` returns is non-empty and has no trailing dot (any separator). -/
theorem loadDomains_good {v : Bytes} {sep : UInt8} {p rs : List Bytes} (h : loadDomains v sep = .ok (p, rs)) :
    ∀ d ∈ p, GoodDom d := by
  unfold loadDomains at h
  refine ite_ok_elim h ?_ ?_ <;> clear h <;> intro h
  · cases h
  · exact foldlM_inv (fun acc : List Bytes × List Bytes => ∀ x ∈ acc.1, GoodDom x) loadDomainsStep
      (fun _ _ _ hb hs => loadDomainsStep_good hb hs) _ ([], []) (p, rs) (by intro x hx; cases hx) h

theorem domainsWF_loopInv (px : ParseExt) : LoopInv px B.DomainsWF where
  enable := fun _ _ _ h => h
  disable := fun _ _ _ h => h
  noExtension := fun _ h => h
  permType := fun _ _ _ h => h
  restrType := fun _ _ _ h => h
  documentOnly := fun _ h => h
  dns := fun _ _ _ h => h
  domains := fun _ _ _ _ hx _ => loadDomains_good hx
  denyallow := fun _ _ h => h
  tags := fun _ _ _ _ _ h => h
  clients := fun _ _ _ _ _ h => h
  rewrite := fun _ _ _ _ h => h

/-- `DomainsWF` holds of every network rule `NewNetworkRule` produces. -/
theorem parseNetRule_domainsWF {px : ParseExt} {t : Bytes} {id : Int} {r : NetRule}
    (h : parseNetRule px t id = .ok r) : B.DomainsWF r :=
  parseNetRule_loopInv (domainsWF_loopInv px) (fun _ _ h => h) (fun _ _ h => h) (fun _ _ => nofun) h

theorem newRule_net {rx : RuleExt} {line : Bytes} {id : Int} {r : NetRule}
    (h : newRule rx line id = .ok (some (.net r))) : parseNetRule rx.px (rx.trim line) id = .ok r := by
  rcases newRule_ok_elim h with ⟨_, hc, _⟩ | ⟨_, hh, _⟩ | ⟨_, hn, hp⟩
  · cases hc
  · cases hh
  · cases hn
    exact hp

theorem newRule_cos {rx : RuleExt} {line : Bytes} {id : Int} {c : CosRule}
    (h : newRule rx line id = .ok (some (.cos c))) : newCosmeticRule rx.trim (rx.trim line) id = .ok c := by
  rcases newRule_ok_elim h with ⟨_, hc, hp⟩ | ⟨_, hh, _⟩ | ⟨_, hn, _⟩
  · cases hc
    exact hp
  · cases hh
  · cases hn

theorem newCosmeticRule_good {trim : Bytes → Bytes} {t : Bytes} {id : Int} {c : CosRule}
    (h : newCosmeticRule trim t id = .ok c) : ∀ d ∈ c.permDomains, GoodDom d := by
  rcases (newCosmeticRule_ok_elim h).2.2 with e | ⟨v, rs, hv⟩
  · rw [e]
    nofun
  · exact loadDomains_good hv

end UF.Compose
