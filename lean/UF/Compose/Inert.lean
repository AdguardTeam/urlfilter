import UF.Compose.NetRules
import UF.Proofs.TrimSpace
import UF.Proofs.StorageRef
/-
  Noise in the bytes of a filter list leaves the line-by-line reference `specRules` unchanged: a newline
  splits the list of pieces (`splitLines_append_nl`), so a block of lines none of which yields a rule can be
  inserted at any line boundary; and LF → CR LF (`crlf`) only adds a trailing CR to the pieces, which
  `strings.TrimSpace` removes.
-/
namespace UF.Compose
open UF UF.Storage Bytes

def consHead (p : Bytes) : List Bytes → List Bytes
  | [] => [p]
  | l :: ls => (p ++ l) :: ls

theorem splitLines_cons_ne (c : UInt8) (r : Bytes) (h : (c == 10) = false) :
    splitLines (c :: r) = consHead [c] (splitLines r) := by
  rw [splitLines]
  simp only [h, Bool.false_eq_true, if_false]
  cases splitLines r <;> rfl

theorem splitLines_cons_nl (r : Bytes) : splitLines (10 :: r) = [] :: splitLines r := by
  rw [splitLines]; simp

theorem consHead_append (p : Bytes) (L M : List Bytes) (h : L ≠ []) :
    consHead p (L ++ M) = consHead p L ++ M := by
  cases L with
  | nil => exact absurd rfl h
  | cons l ls => rfl

theorem consHead_consHead (p q : Bytes) (L : List Bytes) : consHead p (consHead q L) = consHead (p ++ q) L := by
  cases L with
  | nil => rfl
  | cons l ls => simp [consHead]

theorem consHead_nil_of_ne (L : List Bytes) (h : L ≠ []) : consHead [] L = L := by
  cases L with
  | nil => exact absurd rfl h
  | cons l ls => rfl

/-- A newline is a boundary of the list of pieces. -/
theorem splitLines_append_nl (x y : Bytes) : splitLines (x ++ 10 :: y) = splitLines x ++ splitLines y := by
  induction x with
  | nil => simp [splitLines_cons_nl, splitLines]
  | cons c r ih =>
    cases hc : c == 10 with
    | true =>
      have : c = 10 := by simpa using hc
      subst this
      simp only [List.cons_append, splitLines_cons_nl, ih]
    | false =>
      simp only [List.cons_append]
      rw [splitLines_cons_ne c _ hc, splitLines_cons_ne c r hc, ih,
        consHead_append _ _ _ (splitLines_ne_nil r)]

def crlf : Bytes → Bytes
  | [] => []
  | c :: r => if c == 10 then 13 :: 10 :: crlf r else c :: crlf r

theorem filterMap_consHead_crlf {β} (f : Bytes → Option β) (hf : ∀ l, f (l ++ [13]) = f l) (s : Bytes) :
    ∀ p, (consHead p (splitLines (crlf s))).filterMap f = (consHead p (splitLines s)).filterMap f := by
  induction s with
  | nil => intro p; rfl
  | cons c r ih =>
    intro p
    cases hc : c == 10 with
    | true =>
      have : c = 10 := by simpa using hc
      subst this
      have h13 : ((13 : UInt8) == 10) = false := by decide
      have e1 : splitLines (crlf (10 :: r)) = [13] :: splitLines (crlf r) := by
        simp only [crlf, beq_self_eq_true, if_true]
        rw [splitLines_cons_ne 13 _ h13, splitLines_cons_nl]
        rfl
      rw [e1, splitLines_cons_nl]
      simp only [consHead, List.filterMap_cons, List.append_nil, hf]
      have := ih []
      rw [consHead_nil_of_ne _ (splitLines_ne_nil _), consHead_nil_of_ne _ (splitLines_ne_nil _)] at this
      rw [this]
    | false =>
      have e1 : crlf (c :: r) = c :: crlf r := by simp [crlf, hc]
      rw [e1, splitLines_cons_ne c _ hc, splitLines_cons_ne c r hc, consHead_consHead, consHead_consHead]
      exact ih (p ++ [c])

theorem specRulesOf_append_nl (rx : E.RuleExt) (l : RList) (x y : Bytes) :
    specRulesOf rx { l with content := x ++ 10 :: y } =
      specRulesOf rx { l with content := x } ++ specRulesOf rx { l with content := y } := by
  unfold specRulesOf
  simp only [splitLines_append_nl, List.filterMap_append]

/-- A block of lines none of which yields a rule (blank, comment, rejected). -/
def NoiseBlock (rx : E.RuleExt) (id : Int) (n : Bytes) : Prop :=
  ∀ piece ∈ splitLines n, E.acceptedOf rx id piece = none

theorem specRulesOf_noise (rx : E.RuleExt) (l : RList) (n : Bytes) (h : NoiseBlock rx l.id n) :
    specRulesOf rx { l with content := n } = [] := by
  unfold specRulesOf
  rw [List.filterMap_eq_nil_iff]
  intro piece hp
  simp only [h piece hp]

theorem specRulesOf_crlf (px : E.ParseExt) (l : RList) :
    specRulesOf (realRx px) { l with content := crlf l.content } = specRulesOf (realRx px) l := by
  unfold specRulesOf
  have := filterMap_consHead_crlf (fun piece => match E.acceptedOf (realRx px) l.id piece with
    | some r => if l.ignoreCosmetic && isCos r then none else some r
    | none => none) (fun piece => by rw [acceptedOf_congr_trim px l.id (trimSpace_cr piece)]) l.content []
  rwa [consHead_nil_of_ne _ (splitLines_ne_nil _), consHead_nil_of_ne _ (splitLines_ne_nil _)] at this

theorem specRules_replace (px : E.ParseExt) (pre post : List RList) (l l' : RList)
    (h : specRulesOf (realRx px) l' = specRulesOf (realRx px) l) :
    specRules px (pre ++ l' :: post) = specRules px (pre ++ l :: post) := by
  unfold specRules
  simp only [List.flatMap_append, List.flatMap_cons, h]

end UF.Compose
