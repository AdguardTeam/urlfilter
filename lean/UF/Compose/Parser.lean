import UF.Model.Storage
import UF.Model.NewRule
import UF.Model.HostRule
import UF.Model.DnsRewriteParse
import UF.Proofs.TrimSpace
import UF.Proofs.TrimSpaceIdem
import UF.Proofs.ParseWF
import UF.Proofs.ParseTotal
import UF.Proofs.HostRule
/-
  The parser parameter of the storage model (`Storage.Parser`, assumption `TrimsFirst`) instantiated with
  the model of `rules.NewRule` (`E.newRule`) over the modelled `strings.TrimSpace` and `NewHostRule`.
  `px.loadDNSRewrite` and `px.regexpShortcut` stay parameters: every theorem holds for all values of them.
  The storage model keeps only (kind, text, list id) of a rule, the parser returns the full `Rule`: `toS`
  projects, `realParser` is the projection of `E.newRule`.
-/
namespace UF.Compose
open UF

/-- Dynamic type of a rule (the storage model's `Kind`). -/
def kindOf : Rule → Storage.Kind
  | .net _ => .network
  | .host _ => .host
  | .cos _ => .cosmetic

/-- What the storage model keeps of a rule. -/
def toS (r : Rule) : Storage.SRule := ⟨kindOf r, r.text, r.listID⟩

/-- `filterutil.IsDomainName` as a Bool function (the checked model never panics: `c12_total_isDomainName`). -/
def dnE (n : Bytes) : Bool :=
  match E.isDomainNameC n with
  | .ok b => b
  | .error _ => false

/-- The model of `NewHostRule` in the shape of `RuleExt.newHostRule` (`none` = error). -/
def hostRuleH (ext : Ext) (text : Bytes) (listID : Int) : Option HostRule :=
  match H.newHostRule ext dnE text listID with
  | .ok r => some r
  | .error _ => none

/-- The parameters of `E.newRule` with everything that is modelled plugged in. -/
def realRx (px : E.ParseExt) : E.RuleExt :=
  { px := px, trim := trimSpace, newHostRule := hostRuleH px.ext }

/-- `$dnsrewrite` through the model of `loadDNSRewrite`. -/
def modelPx (ext : Ext) (regexpShortcut : Bytes → Bytes) : E.ParseExt :=
  { ext := ext
    loadDNSRewrite := fun s => match H.loadDNSRewrite ext s with | .ok d => some d | .error _ => none
    regexpShortcut := regexpShortcut }

/-- The storage model's parser parameter, instantiated: the projection of `NewRule`. -/
def parserOf (rx : E.RuleExt) : Storage.Parser := fun line id =>
  match E.newRule rx line id with
  | .ok none => .nothing
  | .ok (some r) => .rule (kindOf r) r.text
  | .error _ => .error

/-- The storage parser of the composed model. -/
def realParser (px : E.ParseExt) : Storage.Parser := parserOf (realRx px)

/-- What `E.newRule_text` assumes about `NewHostRule`. -/
def HostKeeps (f : Bytes → Int → Option HostRule) : Prop :=
  ∀ t i h, f t i = some h → h.text = t ∧ h.listID = i

theorem hostRuleH_keeps (ext : Ext) : HostKeeps (hostRuleH ext) := by
  intro t i h hh
  unfold hostRuleH at hh
  rw [H.newHostRule_eq_spec] at hh
  unfold H.specHostResult at hh
  -- the reference result is built from the text and the id as given
  cases hs : H.specHostLine ext dnE t with
  | none => rw [hs] at hh; cases hh
  | some na =>
    rw [hs] at hh
    cases hh
    exact ⟨rfl, rfl⟩

theorem trimSpace_cr (l : Bytes) : trimSpace (l ++ [13]) = trimSpace l :=
  trimSpace_append_sp (by intro c hc; simp at hc; subst hc; decide) l

/-- `TrimsFirst` for every parser of the shape "`NewRule` over `TrimSpace`". -/
theorem parserOf_trimsFirst (rx : E.RuleExt) (ht : rx.trim = trimSpace) (hh : HostKeeps rx.newHostRule) :
    Storage.TrimsFirst (parserOf rx) where
  trim := by
    intro l id
    unfold parserOf
    rw [E.newRule_congr_trim rx id
      (show rx.trim l = rx.trim (trimSpace l) by rw [ht]; exact (trimSpace_idem l).symm)]
  blank := by
    intro l id h
    unfold parserOf
    rw [E.newRule_blank (by rw [ht]; exact h) id]
  text := by
    intro l id k t h
    unfold parserOf at h
    split at h
    · cases h
    · next r hr =>
      cases h
      rw [(E.newRule_text hh hr).1, ht]
    · cases h

theorem realParser_trimsFirst (px : E.ParseExt) : Storage.TrimsFirst (realParser px) :=
  parserOf_trimsFirst (realRx px) rfl (hostRuleH_keeps px.ext)

/-- A produced rule: text = trimmed line, list id = the list's. -/
theorem realRx_text {px : E.ParseExt} {line : Bytes} {id : Int} {r : Rule}
    (h : E.newRule (realRx px) line id = .ok (some r)) : r.text = trimSpace line ∧ r.listID = id :=
  E.newRule_text (rx := realRx px) (hostRuleH_keeps px.ext) h

/-- `NewRule` reads its line only through `TrimSpace`. -/
theorem newRule_trim (px : E.ParseExt) (line : Bytes) (id : Int) :
    E.newRule (realRx px) (trimSpace line) id = E.newRule (realRx px) line id :=
  E.newRule_congr_trim (realRx px) id (trimSpace_idem line)

/-- Hence two lines with the same trimmed text are accepted alike. -/
theorem acceptedOf_congr_trim (px : E.ParseExt) (id : Int) {a b : Bytes} (h : trimSpace a = trimSpace b) :
    E.acceptedOf (realRx px) id a = E.acceptedOf (realRx px) id b := by
  unfold E.acceptedOf
  rw [← newRule_trim px a, ← newRule_trim px b, h]

end UF.Compose
