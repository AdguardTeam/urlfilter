import UF.Compose.Parser
/-
  `NewNetworkRule` never reads the list id, it only stores it: two rules parsed from the same text in
  different lists differ in the list id only (`TextDeterminesRule`).
-/
namespace UF.Compose
open UF UF.E Bytes

def setID (i : Int) (r : NetRule) : NetRule := { r with listID := i }

def mapE {α β} (f : α → β) : PE α → PE β
  | .ok a => .ok (f a)
  | .error e => .error e

theorem ite_mapE {α β} {c : Prop} [Decidable c] {a' b' : PE β} {a b : PE α} {f : α → β}
    (h1 : a' = mapE f a) (h2 : b' = mapE f b) :
    (if c then a' else b') = mapE f (if c then a else b) := by
  split <;> assumption

theorem bind_mapE {α β γ} {x : PE γ} {g' : γ → PE β} {g : γ → PE α} {f : α → β}
    (h : ∀ a, g' a = mapE f (g a)) : (x >>= g') = mapE f (x >>= g) := by
  cases x with
  | error e => rfl
  | ok a => exact h a

theorem bind_mapE2 {α β} {x' : PE β} {x : PE α} {g' : β → PE β} {g : α → PE α} {f : α → β}
    (hx : x' = mapE f x) (h : ∀ a, g' (f a) = mapE f (g a)) : (x' >>= g') = mapE f (x >>= g) := by
  subst hx
  cases x with
  | error e => rfl
  | ok a => exact h a

theorem setOptionEnabled_setID (i : Int) (r : NetRule) (opt : Nat) (en : Bool) :
    setOptionEnabled (setID i r) opt en = mapE (setID i) (setOptionEnabled r opt en) := by
  unfold setOptionEnabled
  exact ite_mapE rfl (ite_mapE rfl (ite_mapE rfl rfl))

theorem setIgnoringError_setID (i : Int) (r : NetRule) (opt : Nat) :
    setIgnoringError (setID i r) opt = setID i (setIgnoringError r opt) := by
  unfold setIgnoringError
  rw [setOptionEnabled_setID]
  cases setOptionEnabled r opt true <;> rfl

theorem OptionKind.run_setID (px : ParseExt) (i : Int) (r : NetRule) (value : Bytes) (k : OptionKind) :
    k.run px (setID i r) value = mapE (setID i) (k.run px r value) := by
  cases k with
  | flag opt en => exact setOptionEnabled_setID ..
  | dnstype => exact bind_mapE fun ⟨p, rs⟩ => rfl
  | dnsrewrite =>
    unfold OptionKind.run
    cases px.loadDNSRewrite value <;> rfl
  | domain => exact bind_mapE fun ⟨p, rs⟩ => rfl
  | denyallow => exact bind_mapE fun ⟨p, rs⟩ => ite_mapE rfl rfl
  | ctag => exact bind_mapE fun ⟨p, rs⟩ => rfl
  | client => exact bind_mapE fun ⟨p, rs⟩ => rfl
  | noExtension => rfl
  | document =>
    refine bind_mapE2 (setOptionEnabled_setID ..) fun a => ?_
    simp only [setIgnoringError_setID]
    rfl
  | reqType t permitted => cases permitted <;> rfl
  | unknown => rfl

theorem loadOption_setID (px : ParseExt) (i : Int) (r : NetRule) (name value : Bytes) :
    loadOption px (setID i r) name value = mapE (setID i) (loadOption px r name value) := by
  rw [loadOption_eq, loadOption_eq]
  exact OptionKind.run_setID ..

theorem loadOptionsStep_setID (px : ParseExt) (i : Int) (r : NetRule) (o : Bytes) :
    loadOptionsStep px (setID i r) o = mapE (setID i) (loadOptionsStep px r o) := by
  unfold loadOptionsStep
  cases indexByte o (ch '=') with
  | none => exact loadOption_setID ..
  | some eqIdx =>
    simp only
    refine ite_mapE ?_ (loadOption_setID ..)
    exact bind_mapE (fun name => bind_mapE (fun value => loadOption_setID ..))

theorem foldlM_setID {α} (step : NetRule → α → PE NetRule) (i : Int)
    (hs : ∀ r a, step (setID i r) a = mapE (setID i) (step r a)) (l : List α) (r : NetRule) :
    l.foldlM step (setID i r) = mapE (setID i) (l.foldlM step r) := by
  induction l generalizing r with
  | nil => rfl
  | cons a t ih =>
    simp only [List.foldlM]
    exact bind_mapE2 (hs r a) (fun r1 => ih r1)

theorem loadOptions_setID (px : ParseExt) (i : Int) (r : NetRule) (opts : Bytes) :
    loadOptions px (setID i r) opts = mapE (setID i) (loadOptions px r opts) := by
  unfold loadOptions
  refine ite_mapE rfl ?_
  refine bind_mapE (fun parts => ?_)
  refine bind_mapE2 (foldlM_setID _ i (fun r a => loadOptionsStep_setID px i r a) parts r) ?_
  intro r1
  exact ite_mapE rfl rfl

theorem parseNetRule_setID (px : ParseExt) (t : Bytes) (i j : Int) :
    parseNetRule px t i = mapE (setID i) (parseNetRule px t j) := by
  unfold parseNetRule
  refine bind_mapE (fun ⟨pattern, options, whitelist⟩ => ?_)
  refine bind_mapE2 (loadOptions_setID px i { text := t, whitelist := whitelist, listID := j, pattern := pattern } options) ?_
  intro r1
  -- the validation and the shortcut after the `/*` rewrite (a join point of the `do` block)
  extract_lets jp
  have tail : ∀ r2, jp (setID i r2) = mapE (setID i) (jp r2) := fun r2 => by
    simp only [jp]
    exact ite_mapE rfl (bind_mapE fun sc => ite_mapE rfl rfl)
  refine ite_mapE ?_ ?_
  · exact bind_mapE fun p => bind_mapE2 (f := setID i) rfl tail
  · exact bind_mapE2 (f := setID i) rfl tail

end UF.Compose
