import UF.Proofs.Shortcut
import UF.Proofs.MaskMain
import UF.Spec.Shortcut
/-
  The hypothesis `hcompiled` of `c05_mask_rule` ("the compiled expression is
  `mkCat (as ++ litAtoms fold w ++ bs)`") discharged from `maskAst`: the literal run chosen by
  `findShortcut` appears as consecutive literal atoms of `maskAst (tokenize p) mc`.
-/
namespace UF.I2
open UF Bytes Re MaskSpec Mask

/-! ### A run free of `|` survives `splitMask` -/

theorem strip_head {r x w z : Bytes} (h : (124 : UInt8) :: r = x ++ w ++ z) (hw : w ≠ [])
    (h124 : (124 : UInt8) ∉ w) : ∃ x1, x = 124 :: x1 ∧ r = x1 ++ w ++ z := by
  cases x with
  | nil =>
    cases w with
    | nil => exact absurd rfl hw
    | cons a w =>
      simp only [List.nil_append, List.cons_append, List.cons.injEq] at h
      exact absurd (h.1 ▸ List.mem_cons_self) h124
  | cons a x1 =>
    simp only [List.cons_append, List.cons.injEq] at h
    exact ⟨x1, by rw [h.1], h.2⟩

theorem strip_last {r x w z : Bytes} (h : r = x ++ w ++ z) (hl : r.getLast? = some 124) (hw : w ≠ [])
    (h124 : (124 : UInt8) ∉ w) : ∃ z1, z = z1 ++ [124] ∧ r.dropLast = x ++ w ++ z1 := by
  rcases List.eq_nil_or_concat z with rfl | ⟨z1, c, rfl⟩
  · exfalso
    rcases List.eq_nil_or_concat w with rfl | ⟨w1, d, rfl⟩
    · exact hw rfl
    · simp only [List.concat_eq_append] at *
      have e : x ++ (w1 ++ [d]) ++ [] = (x ++ w1) ++ [d] := by simp
      rw [h, e, List.getLast?_concat] at hl
      cases hl
      exact h124 (by simp)
  · simp only [List.concat_eq_append] at *
    have e : x ++ w ++ (z1 ++ [c]) = (x ++ w ++ z1) ++ [c] := by simp
    rw [h, e, List.getLast?_concat] at hl
    cases hl
    exact ⟨z1, rfl, by rw [h, e, List.dropLast_concat]⟩

theorem splitEnd_run {r x w z : Bytes} (h : r = x ++ w ++ z) (hw : w ≠ []) (h124 : (124 : UInt8) ∉ w) :
    ∃ z', (splitEnd r).1 = x ++ w ++ z' := by
  unfold splitEnd
  split
  · rename_i hl
    obtain ⟨z1, _, hd⟩ := strip_last h (by simpa using hl) hw h124
    exact ⟨z1, hd⟩
  · exact ⟨z, h⟩

/-- The body bytes of a pattern contain every non-empty pipe-free run of the pattern. -/
theorem splitMask_run {p x w z : Bytes} (h : p = x ++ w ++ z) (hw : w ≠ []) (h124 : (124 : UInt8) ∉ w) :
    ∃ x' z', (splitMask p).2.1 = x' ++ w ++ z' := by
  unfold splitMask
  split
  · rename_i r
    obtain ⟨x1, _, h1⟩ := strip_head h hw h124
    obtain ⟨x2, _, h2⟩ := strip_head h1 hw h124
    obtain ⟨z', hz⟩ := splitEnd_run h2 hw h124
    exact ⟨x2, z', hz⟩
  · rename_i r _
    obtain ⟨x1, _, h1⟩ := strip_head h hw h124
    obtain ⟨z', hz⟩ := splitEnd_run h1 hw h124
    exact ⟨x1, z', hz⟩
  · obtain ⟨z', hz⟩ := splitEnd_run h hw h124
    exact ⟨x, z', hz⟩

/-- The atoms of a run free of `*` and `^` are its literal atoms. -/
theorem run_atoms (w : Bytes) (hs : ∀ c ∈ w, isMaskSpecial c = false) :
    (w.map tokOfByte).map tokAtom = litAtoms false w := by
  induction w with
  | nil => rfl
  | cons c w ih =>
    have hc := hs c List.mem_cons_self
    simp only [isMaskSpecial, Bool.or_eq_false_iff, beq_eq_false_iff_ne] at hc
    have h1 : tokOfByte c = .lit c := by
      simp [tokOfByte, hc.1.1, hc.1.2]
    simp only [List.map_cons, h1, tokAtom, litAtom, litAtoms] at ih ⊢
    rw [ih (fun d hd => hs d (List.mem_cons_of_mem _ hd))]

/-- A maximal run of the pattern shows as consecutive literal atoms of the pattern's expression. -/
theorem maskAtoms_run {p w : Bytes} (hrun : IsMaskRun p w) (hw : w ≠ []) :
    ∃ as bs, maskAtoms (tokenize p) = as ++ litAtoms false w ++ bs := by
  obtain ⟨x, z, hp, hs, _, _⟩ := hrun
  have h124 : (124 : UInt8) ∉ w := by
    intro hm
    have := hs 124 hm
    simp [isMaskSpecial] at this
  obtain ⟨x', z', hb⟩ := splitMask_run hp hw h124
  refine ⟨startAtoms (tokenize p).start ++ (x'.map tokOfByte).map tokAtom,
          (z'.map tokOfByte).map tokAtom ++ endAtoms (tokenize p).endPipe, ?_⟩
  unfold maskAtoms
  rw [show (tokenize p).body = (splitMask p).2.1.map tokOfByte from rfl, hb]
  simp only [List.map_append, run_atoms w hs, List.append_assoc]

/-- … with or without `$match-case`. -/
theorem maskAst_run {p w : Bytes} (mc : Bool) (hrun : IsMaskRun p w) (hw : w ≠ []) :
    ∃ as bs fold, maskAst (tokenize p) mc = mkCat (as ++ litAtoms fold w ++ bs) := by
  obtain ⟨as, bs, h⟩ := maskAtoms_run hrun hw
  cases mc with
  | true => exact ⟨as, bs, false, by simp [maskAst, h]⟩
  | false =>
    refine ⟨as.map foldCase, bs.map foldCase, true, ?_⟩
    simp only [maskAst, Bool.false_eq_true, if_false, foldCase_mkCat, h, List.map_append,
      foldCase_litAtoms]

/-! ### Any-URL patterns have no shortcut -/

theorem findShortcut_any {p w : Bytes} (h : isAnyPattern p = true) (hf : findShortcut p = some w) : w = [] := by
  have hall : ∀ q ∈ [Facts.MaskStartURL, Facts.MaskPipe, Facts.MaskAnyCharacter, []],
      findShortcut q = some [] := by decide
  have hp : p ∈ [Facts.MaskStartURL, Facts.MaskPipe, Facts.MaskAnyCharacter, []] := by
    simpa [isAnyPattern, or_assoc] using h
  exact (Option.some.inj ((hall p hp).symm.trans hf)).symm

/-- The interface lemma: whatever the compiled matcher of an ASCII mask pattern accepts is accepted by
    a concatenation in which the run chosen by `findShortcut` appears as literal atoms. -/
theorem compiled_has_run {p w : Bytes} (mc : Bool) (u : Bytes) (hp : ∀ b ∈ p, b < 128)
    (h2 : UF.isRegexPattern p = false) (hf : findShortcut p = some w)
    (h : compiledAccepts p mc u = true) :
    ∃ as bs fold, search (mkCat (as ++ litAtoms fold w ++ bs)) u = true := by
  by_cases hw : w = []
  · subst hw
    exact ⟨[], [], false, by cases u <;> simp [litAtoms, search, searchFrom, mkCat, Re.m]⟩
  · have h1 : isAnyPattern p = false := by
      cases ha : isAnyPattern p with
      | false => rfl
      | true => exact absurd (findShortcut_any ha hf) hw
    obtain ⟨r, hr, hrun⟩ := findShortcut_inv p
    rw [hf] at hr
    cases hr
    rcases hrun with h0 | hrun
    · exact absurd h0 hw
    · obtain ⟨as, bs, fold, hast⟩ := maskAst_run mc hrun hw
      obtain ⟨t, ht, hparse⟩ := prepare_parse p hp h1 h2 mc
      simp only [compiledAccepts, ht, hparse] at h
      exact ⟨as, bs, fold, hast ▸ h⟩

end UF.I2
