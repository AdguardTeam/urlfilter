import UF.Compose.Domains
import UF.Spec.HostLine
/-
  `filterutil.IsDomainName` (`E`'s state machine) accepts only letters, digits, '.' and '-': so a
  bare domain name of a hosts line contains no '$' and does not start with '!' (`H.isPlainToken`), and
  the side condition of `c18_dispatch_bare` is discharged in the complete model (Props/C18Full.lean).
-/
namespace UF.Compose
open UF UF.E Bytes

def dnChar (c : UInt8) : Bool := isAlpha c || isDigit c || c == ch '.' || c == ch '-'

theorem dnStep_reject_of_not_char (s : DNState) (c : UInt8) (hs : s.st = 0 ∨ s.st = 2)
    (hc : dnChar c = false) : dnStep s c = .reject := by
  simp only [dnChar, Bool.or_eq_false_iff] at hc
  obtain ⟨⟨⟨ha, hd⟩, hdot⟩, hdash⟩ := hc
  unfold dnStep
  rcases hs with hs | hs <;> simp [hs, ha, hd, hdot, hdash]

theorem dnStep_st {s s' : DNState} {c : UInt8} (hs : s.st = 0 ∨ s.st = 2) (h : dnStep s c = .cont s') :
    s'.st = 0 ∨ s'.st = 2 := by
  have := dnStep_good s c
  rw [h] at this
  rcases this with h0 | h2 | he
  · exact .inl h0
  · exact .inr h2
  · rwa [he]

theorem dnRun_chars {s s' : DNState} {n : Bytes} (hs : s.st = 0 ∨ s.st = 2)
    (h : dnRun s n = .ok (some s')) : ∀ c ∈ n, dnChar c = true := by
  induction n generalizing s with
  | nil => intro c hc; cases hc
  | cons a t ih =>
    simp only [dnRun] at h
    cases hstep : dnStep s a with
    | cont s1 =>
      rw [hstep] at h
      simp only at h
      have ha : dnChar a = true := by
        cases hd : dnChar a with
        | true => rfl
        | false => rw [dnStep_reject_of_not_char s a hs hd] at hstep; cases hstep
      intro c hc
      rcases List.mem_cons.1 hc with rfl | hc
      · exact ha
      · exact ih (dnStep_st hs hstep) h c hc
    | reject => rw [hstep] at h; simp [pure, Except.pure] at h
    | panic => rw [hstep] at h; simp [throw, throwThe, MonadExceptOf.throw] at h

theorem isDomainName_chars {d : Bytes} (h : isDomainNameC d = .ok true) : ∀ c ∈ d, dnChar c = true := by
  unfold isDomainNameC at h
  split at h
  · cases h
  · simp only [bind, Except.bind] at h
    cases hr : dnRun {} d with
    | error e => rw [hr] at h; cases h
    | ok o =>
      rw [hr] at h
      cases o with
      | none => simp [pure, Except.pure] at h
      | some s => exact dnRun_chars (Or.inl rfl) hr

theorem dnChar_plain (c : UInt8) (h : dnChar c = true) : c ≠ ch '$' ∧ c ≠ ch '!' := by
  constructor <;> (intro hc; subst hc; revert h; decide)

theorem isPlainToken_of_isDomainName {d : Bytes} (h : isDomainNameC d = .ok true) : H.isPlainToken d = true := by
  have hch := isDomainName_chars h
  unfold H.isPlainToken H.dollarFree
  simp only [Bool.and_eq_true, List.all_eq_true, bne_iff_ne, ne_eq, Bool.not_eq_eq_eq_not, Bool.not_true,
    beq_eq_false_iff_ne]
  refine ⟨fun c hc => (dnChar_plain c (hch c hc)).1, ?_⟩
  cases d with
  | nil => simp
  | cons a t =>
    simp only [List.head?_cons, Option.some.injEq]
    exact (dnChar_plain a (hch a (by simp))).2
end UF.Compose
