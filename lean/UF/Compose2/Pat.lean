import UF.Model.Mask
import UF.Model.RegexParse
import UF.Model.Match
import UF.Proofs.MaskMain
import UF.Proofs.RegexFast
/-
  The pattern oracle `Ext.pat pattern matchCase target` of the model of `NetworkRule.Match`, defined
  from the models: `regexPat` for a `/regex/` pattern (`parseRE` of the text between the slashes, with
  `(?i)` unless `$match-case`, then unanchored search), `compiledAccepts` for any other pattern (the text
  rewriting of `patternToRegexp` / `preparePattern`, then `parseRE` and search).

  `modelPat` answers `none` outside the domain on which these models are exact with respect to Go:
  a non-ASCII pattern or target (Go's engine works on runes, the model on bytes), a line feed in the
  target of a mask pattern (`.` of `.*` does not match it), a regular expression outside the parser's
  subset (which includes the ones Go rejects, and a `$match-case` expression that has a source of
  case-folded literals — a class `[xX]`, an alternation `x|X` — together with a `(?:` or a `}?`: there
  Go's flag-blind factoring of alternation prefixes depends on grouping the parse tree does not record).
  For every other `$match-case` `/regex/` the expression searched is Go's tree, not the textbook reading
  of the text (`Re.goTree`; they differ e.g. for `/A.|[aA]/`).
-/
namespace UF.I2
open UF Bytes

def hasLF (u : Bytes) : Bool := u.any (· == 10)

/-- The copies of `isRegexPattern` in the models are one function. -/
theorem isRegexPattern_mask (p : Bytes) : Mask.isRegexPattern p = UF.isRegexPattern p := rfl

/-- The pattern oracle, from the models.  `pattern` is the pattern AS STORED in the rule (after the
    `/*` rewrite of `NewNetworkRule`), which is what `matchPattern` passes. -/
def modelPat (pattern : Bytes) (matchCase : Bool) (target : Bytes) : Option Bool :=
  if UF.isRegexPattern pattern then regexPat pattern matchCase target
  else if isAscii pattern && isAscii target && !hasLF target then
    some (Mask.compiledAccepts pattern matchCase target)
  else none

/-- The total function put into `Ext.pat` (`false` outside the domain; theorems and ops that use it
    state / check the domain separately). -/
def modelPatD (pattern : Bytes) (matchCase : Bool) (target : Bytes) : Bool :=
  (modelPat pattern matchCase target).getD false

theorem modelPatD_true {p u : Bytes} {mc : Bool} : modelPatD p mc u = true ↔ modelPat p mc u = some true := by
  unfold modelPatD
  cases modelPat p mc u <;> simp

/-- `ext` with the pattern oracle replaced by the model. -/
def withModelPat (ext : Ext) : Ext := { ext with pat := modelPatD }

@[simp] theorem withModelPat_pat (ext : Ext) : (withModelPat ext).pat = modelPatD := rfl
@[simp] theorem withModelPat_psl (ext : Ext) : (withModelPat ext).psl = ext.psl := rfl
@[simp] theorem withModelPat_parseAddr (ext : Ext) : (withModelPat ext).parseAddr = ext.parseAddr := rfl
@[simp] theorem withModelPat_parsePrefix (ext : Ext) : (withModelPat ext).parsePrefix = ext.parsePrefix := rfl

theorem isAscii_iff (s : Bytes) : isAscii s = true ↔ ∀ b ∈ s, b < 128 := by
  simp [isAscii, List.all_eq_true]

theorem hasLF_false_iff (u : Bytes) : hasLF u = false ↔ Mask.NoNL u := by
  unfold hasLF Mask.NoNL
  rw [← Bool.not_eq_true, List.any_eq_true]
  constructor
  · intro h b hb hb10; exact h ⟨b, hb, by simp [hb10]⟩
  · rintro h ⟨b, hb, hb10⟩; exact h b hb (by simpa using hb10)

/-- The mask domain: a pattern that is not a `/regex/`, ASCII pattern and target, no line feed. -/
structure MaskDomain (pattern target : Bytes) : Prop where
  notRegex : UF.isRegexPattern pattern = false
  patAscii : ∀ b ∈ pattern, b < 128
  tgtAscii : ∀ b ∈ target, b < 128
  noLF : Mask.NoNL target

/-- On the mask domain `modelPat` is total and is the compiled matcher … -/
theorem modelPat_mask_compiled {p u : Bytes} (mc : Bool) (h : MaskDomain p u) :
    modelPat p mc u = some (Mask.compiledAccepts p mc u) := by
  have h1 : isAscii p = true := (isAscii_iff p).2 h.patAscii
  have h2 : isAscii u = true := (isAscii_iff u).2 h.tgtAscii
  have h3 : hasLF u = false := (hasLF_false_iff u).2 h.noLF
  simp [modelPat, h.notRegex, h1, h2, h3]

/-- … hence (C03) the documented mask language of the stored pattern. -/
theorem modelPat_mask {p u : Bytes} (mc : Bool) (h : MaskDomain p u) :
    modelPat p mc u = some (MaskSpec.maskAccepts (MaskSpec.tokenize p) mc u) := by
  rw [modelPat_mask_compiled mc h,
    Mask.compiledAccepts_eq p mc u h.patAscii (by rw [isRegexPattern_mask]; exact h.notRegex) h.noLF]

theorem modelPatD_mask {p u : Bytes} (mc : Bool) (h : MaskDomain p u) :
    modelPatD p mc u = MaskSpec.maskAccepts (MaskSpec.tokenize p) mc u := by
  simp [modelPatD, modelPat_mask mc h]

/-- Whenever `modelPat` answers on a pattern that is not a `/regex/`, the input is in the mask domain
    and the answer is the compiled matcher's (outside the domain it does not answer). -/
theorem modelPat_mask_inv {p u : Bytes} {mc b : Bool} (hre : UF.isRegexPattern p = false)
    (h : modelPat p mc u = some b) : MaskDomain p u ∧ Mask.compiledAccepts p mc u = b := by
  unfold modelPat at h
  rw [hre] at h
  simp only [Bool.false_eq_true, if_false] at h
  split at h
  · rename_i hd
    simp only [Bool.and_eq_true, Bool.not_eq_true'] at hd
    exact ⟨⟨hre, (isAscii_iff p).1 hd.1.1, (isAscii_iff u).1 hd.1.2, (hasLF_false_iff u).1 hd.2⟩,
      Option.some.inj h⟩
  · cases h

/-- … hence the documented mask language, with no further hypothesis. -/
theorem modelPat_mask_some {p u : Bytes} {mc b : Bool} (hre : UF.isRegexPattern p = false)
    (h : modelPat p mc u = some b) : b = MaskSpec.maskAccepts (MaskSpec.tokenize p) mc u := by
  obtain ⟨hd, rfl⟩ := modelPat_mask_inv hre h
  exact Mask.compiledAccepts_eq p mc u hd.patAscii hre hd.noLF

theorem modelPat_total_mask {p u : Bytes} (mc : Bool) (h : MaskDomain p u) : (modelPat p mc u).isSome = true := by
  rw [modelPat_mask_compiled mc h]; rfl

/-- For the pattern as WRITTEN in the rule (`example.org/*` form included): the stored pattern is
    `normalize p` and the oracle answers `ruleAccepts p`. -/
theorem modelPat_written {p u : Bytes} (mc : Bool) (h : MaskDomain (MaskSpec.normalize p) u) :
    Mask.rewriteSlashStar p = some (MaskSpec.normalize p) ∧
    modelPat (MaskSpec.normalize p) mc u = some (MaskSpec.ruleAccepts p mc u) :=
  ⟨Mask.rewriteSlashStar_eq p, by rw [modelPat_mask mc h]; rfl⟩

theorem modelPat_regex {p : Bytes} (mc : Bool) (u : Bytes) (h : UF.isRegexPattern p = true) :
    modelPat p mc u = regexPat p mc u := by
  simp [modelPat, h]

theorem modelPat_of_parse {p u : Bytes} {mc : Bool} {r : Re} (hre : UF.isRegexPattern p = true)
    (hu : isAscii u = true) (hp : Re.parseRE (regexRuleText p mc) = some r) :
    modelPat p mc u = some (Re.search r u) := by
  rw [modelPat_regex mc u hre, regexPat, hre, hu, hp]
  simp [searchFast_eq]

theorem modelPat_regex_some {p u : Bytes} {mc b : Bool} (hre : UF.isRegexPattern p = true)
    (h : modelPat p mc u = some b) :
    ∃ r, Re.parseRE (regexRuleText p mc) = some r ∧ b = Re.search r u ∧ isAscii u = true :=
  regexPat_some (modelPat_regex mc u hre ▸ h)

/-! ### The two models of `preparePattern` agree on `/regex/` patterns

  `compiledAccepts` also covers `/regex/` patterns (`patternToRegexpText` has the `isRegexPattern`
  branch), through `search`; `regexPat` goes through `searchFast` and does not single out the text `.*`.
  Whenever `regexPat` answers, `compiledAccepts` gives the same answer. -/

theorem slice_inner (p : Bytes) (h : UF.isRegexPattern p = true) :
    Mask.sliceZ? p 1 (Mask.lenZ p - 1) = some ((p.drop 1).dropLast) := by
  have hl := Mask.isRegexPattern_len h
  rw [Mask.sliceZ_regex p hl, List.dropLast_eq_take, List.length_drop, List.take_drop,
    show 1 + (p.length - 1 - 1) = p.length - 1 by omega]

theorem starAny_search (u : Bytes) : Re.search (.star .any) u = true := by
  have key : ∀ s : St, Re.m (.star .any) s (fun _ => true) = true := by
    intro s
    simp only [Re.m]
    cases s.post.length <;> simp [Re.starLoop]
  cases u with
  | nil => simp [Re.search, Re.searchFrom, key]
  | cons b u => simp [Re.search, Re.searchFrom, key]

theorem regex_not_any (p : Bytes) (h : UF.isRegexPattern p = true) : Mask.isAnyPattern p = false := by
  simp only [UF.isRegexPattern, Bool.and_eq_true, decide_eq_true_eq] at h
  match p, h with
  | [], h => simp at h
  | [_], h => simp at h
  | a :: b :: r, h =>
    have ha : a = 47 := by simpa using h.1.2
    subst ha
    simp [Mask.isAnyPattern, Facts.MaskStartURL, Facts.MaskPipe, Facts.MaskAnyCharacter]

/-- Whenever `regexPat` answers, `compiledAccepts` (the `isRegexPattern` branch of
    `patternToRegexpText`, the `.*` short-cut, `(?i)`) gives that answer. -/
theorem regexPat_compiled {p u : Bytes} {mc b : Bool} (hre : UF.isRegexPattern p = true)
    (h : regexPat p mc u = some b) : Mask.compiledAccepts p mc u = b := by
  have hci : lit "(?i)" = Re.ciPrefix := by decide
  have hp2r : Mask.patternToRegexpText p = some ((p.drop 1).dropLast) := by
    simp only [Mask.patternToRegexpText, regex_not_any p hre, Bool.false_eq_true, if_false]
    rw [isRegexPattern_mask, hre, if_pos rfl, slice_inner p hre]
  obtain ⟨r, hp, rfl, _⟩ := regexPat_some h
  unfold Mask.compiledAccepts Mask.preparePatternText
  rw [hp2r]
  simp only
  by_cases hany : ((p.drop 1).dropLast == Facts.RegexAnyCharacter) = true
  · -- the text `.*` is not compiled at all; its expression accepts everything
    rw [if_pos hany]
    have e : (p.drop 1).dropLast = [46, 42] := by simpa [Facts.RegexAnyCharacter] using hany
    have hr : some r = some (.star .any) := by
      rw [← hp, regexRuleText, e]
      cases mc <;> decide
    rw [Option.some.inj hr, starAny_search]
  · rw [if_neg hany]
    have ht : (if mc = true then Mask.Prepared.text ((p.drop 1).dropLast)
        else .text (lit "(?i)" ++ (p.drop 1).dropLast)) = .text (regexRuleText p mc) := by
      cases mc <;> simp [regexRuleText, hci]
    rw [ht]
    simp only [hp]

/-- … so on its whole domain `modelPat` is the single function `compiledAccepts` (the shape of
    `preparePattern` + `MatchString`), for masks and regular expressions alike. -/
theorem modelPat_some_compiled {p u : Bytes} {mc b : Bool} (h : modelPat p mc u = some b) :
    Mask.compiledAccepts p mc u = b := by
  cases hre : UF.isRegexPattern p with
  | true => rw [modelPat_regex mc u hre] at h; exact regexPat_compiled hre h
  | false => exact (modelPat_mask_inv hre h).2

end UF.I2
