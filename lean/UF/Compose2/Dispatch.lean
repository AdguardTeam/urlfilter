import UF.Compose2.NewRuleFull
/-
  The complete model of `NewRule` against `H`'s dispatch statement (`newRuleKind`, theorems
  `c18_dispatch*`): since the checked and the plain models of `isComment` / `findCosmeticRuleMarker` are the
  same functions (`isComment_eq`, `findCosmeticRuleMarker_eq`, UF/Proofs/ParseTotal.lean), `newRuleFull` does
  for each dispatch outcome what `kindResult` says.
-/
namespace UF.I2
open UF Bytes

/-- What the complete model does for each dispatch outcome. -/
def kindResult (ext : Ext) (reShortcut : Bytes → Bytes) (l : Bytes) (id : Int) : H.RuleKind → E.PE (Option Rule)
  | .skipped => .ok none
  | .cosmetic => (E.newCosmeticRule trimSpace l id).map fun c => some (.cos c)
  | .host h => .ok (some (.host h))
  | .network => (parseNetRuleFull ext reShortcut l id).map fun r => some (.net r)
  | .crash => .error .panic

theorem newRuleFull_kind (ext : Ext) (reShortcut : Bytes → Bytes) (line : Bytes) (id : Int) :
    newRuleFull ext reShortcut line id =
      kindResult ext reShortcut (trimSpace line) id (H.newRuleKind ext isDomainNameB (trimSpace line) id) := by
  unfold newRuleFull E.newRule H.newRuleKind
  simp only [fullRuleExt, isComment_eq, findCosmeticRuleMarker_eq, bind, Except.bind, pure, Except.pure]
  generalize trimSpace line = l
  cases he : l.isEmpty with
  | true => rfl
  | false =>
    simp only [Bool.false_eq_true, if_false, Bool.false_or]
    cases hc : H.isCommentLine l with
    | true => rfl
    | false =>
      simp only [Bool.false_eq_true, if_false, H.isCosmeticLine]
      split
      · rename_i val hm
        simp only [hm, Option.isSome_some, if_true, kindResult]
        cases E.newCosmeticRule trimSpace l id <;> rfl
      · rename_i hm
        simp only [hm, Option.isSome_none, Bool.false_eq_true, if_false, hostParam]
        cases hh : H.newHostRule ext isDomainNameB l id with
        | ok h => rfl
        | error e =>
          cases e with
          | panic => exact absurd hh (H.c18_total ext isDomainNameB l id)
          | reject =>
            simp only [kindResult, parseNetRuleFull]
            cases E.parseNetRule (fullParseExt ext reShortcut) l id <;> rfl

end UF.I2
