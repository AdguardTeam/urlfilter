import UF.Compose2.NewRuleFull
import UF.Compose2.ShortcutMask
/-
  What `NewNetworkRule` (`E`'s `parseNetRule`) stores as the
  pattern and the shortcut — the two fields the composition with the regex and mask models needs:

      pattern  = `normalize` (the `/*` → `^` rewrite) of the pattern `parseRuleText` returns,
      shortcut = `loadShortcut` of `UF.findShortcut pattern` for mask rules,
                 `loadShortcut` of the `/regex/` shortcut oracle for regex rules.

  `E.findShortcut` and `UF.findShortcut` (written independently, `PE` vs `Option`) are shown
  to be the same function.
-/
namespace UF.I2
open UF Bytes E

def peOfOpt {α} : Option α → PE α
  | some a => .ok a
  | none => .error .panic

theorem sliceC_eq (s : Bytes) (i j : Nat) : sliceC s i j = peOfOpt (slice? s i j) := by
  unfold sliceC peOfOpt
  cases slice? s i j <;> rfl

theorem lit_specials : lit "*^|" = maskSpecials := by decide

theorem findShortcutLoop_eq (fuel : Nat) (p s : Bytes) :
    E.findShortcutLoop fuel p s = peOfOpt (UF.findShortcutLoop fuel p s) := by
  induction fuel generalizing p s with
  | zero => rfl
  | succ fuel ih =>
    simp only [E.findShortcutLoop, UF.findShortcutLoop, lit_specials]
    split
    · rfl
    · cases indexAny p maskSpecials with
      | none => simp only; split <;> rfl
      | some i =>
        simp only [sliceC_eq]
        by_cases hi : i > s.length
        · simp only [hi, if_true]
          cases slice? p 0 i with
          | none => rfl
          | some s' =>
            simp only [peOfOpt, bind, Except.bind, Option.bind]
            cases slice? p (i + 1) p.length with
            | none => rfl
            | some rest => exact ih rest s'
        · simp only [hi, if_false]
          simp only [peOfOpt, bind, Except.bind, Option.bind, pure, Except.pure]
          cases slice? p (i + 1) p.length with
          | none => rfl
          | some rest => exact ih rest s

theorem findShortcut_eq (p : Bytes) : E.findShortcut p = peOfOpt (UF.findShortcut p) :=
  findShortcutLoop_eq _ p []

theorem findShortcut_ok_iff (p w : Bytes) : E.findShortcut p = .ok w ↔ UF.findShortcut p = some w := by
  rw [findShortcut_eq]
  cases UF.findShortcut p <;> simp [peOfOpt]

theorem isRegexPattern_E (p : Bytes) : E.isRegexPattern p = UF.isRegexPattern p := rfl

structure KInv (pat : Bytes) (wl : Bool) (r : NetRule) : Prop where
  pattern : r.pattern = pat
  whitelist : r.whitelist = wl
  shortcut : r.shortcut = []

theorem kinv_loopInv (px : ParseExt) (pat : Bytes) (wl : Bool) : LoopInv px (KInv pat wl) where
  enable := fun _ _ _ ⟨h1, h2, h3⟩ => ⟨h1, h2, h3⟩
  disable := fun _ _ _ ⟨h1, h2, h3⟩ => ⟨h1, h2, h3⟩
  noExtension := fun _ ⟨h1, h2, h3⟩ => ⟨h1, h2, h3⟩
  permType := fun _ _ _ ⟨h1, h2, h3⟩ => ⟨h1, h2, h3⟩
  restrType := fun _ _ _ ⟨h1, h2, h3⟩ => ⟨h1, h2, h3⟩
  documentOnly := fun _ ⟨h1, h2, h3⟩ => ⟨h1, h2, h3⟩
  dns := fun _ _ _ ⟨h1, h2, h3⟩ => ⟨h1, h2, h3⟩
  domains := fun _ _ _ _ _ ⟨h1, h2, h3⟩ => ⟨h1, h2, h3⟩
  denyallow := fun _ _ ⟨h1, h2, h3⟩ => ⟨h1, h2, h3⟩
  tags := fun _ _ _ _ _ ⟨h1, h2, h3⟩ => ⟨h1, h2, h3⟩
  clients := fun _ _ _ _ _ ⟨h1, h2, h3⟩ => ⟨h1, h2, h3⟩
  rewrite := fun _ _ _ _ ⟨h1, h2, h3⟩ => ⟨h1, h2, h3⟩

/-- What `loadShortcut` stores, in terms of `UF.findShortcut`. -/
def ShortcutOK (px : ParseExt) (r : NetRule) : Prop :=
  (UF.isRegexPattern r.pattern = true ∧ r.shortcut = loadShortcut (px.regexpShortcut r.pattern)) ∨
  (UF.isRegexPattern r.pattern = false ∧ ∃ w, UF.findShortcut r.pattern = some w ∧ r.shortcut = loadShortcut w)

theorem loadShortcut_def (sc : Bytes) : (if sc.length > 1 then toLower sc else []) = loadShortcut sc := rfl

/-- The rewrite of a trailing `/*` in `NewNetworkRule` is the reference's `normalize`. -/
theorem normalize_eq (p : Bytes) :
    MaskSpec.normalize p = if hasSuffix p (lit "/*") then p.take (p.length - 2) ++ lit "^" else p := by
  have hl : lit "/*" = [47, 42] := by decide
  have hc : lit "^" = [94] := by decide
  rw [hl, hc]
  rfl

/-- The parsed rule's pattern is the normalised pattern of the text, its whitelist flag the `@@` of
    the text, its shortcut what `loadShortcut` computes from the STORED pattern. -/
theorem parseNetRule_pattern {px : ParseExt} {t : Bytes} {id : Int} {r : NetRule}
    (h : parseNetRule px t id = .ok r) :
    ∃ pat opts wl, parseRuleText t = .ok (pat, opts, wl) ∧ r.pattern = MaskSpec.normalize pat ∧
      r.whitelist = wl ∧ ShortcutOK px r := by
  obtain ⟨pat, opts, wl, r1, r2, sc, hprt, hl, hr2, hsc, hr⟩ := parseNetRule_ok_elim h
  obtain ⟨k1, k2, k3⟩ : KInv pat wl r1 :=
    loadOptions_loopInv (kinv_loopInv px pat wl) ⟨rfl, rfl, rfl⟩ hl
  have h2 : r2.pattern = MaskSpec.normalize pat ∧ r2.whitelist = wl ∧ r2.shortcut = [] := by
    rw [hr2, normalize_eq, ← k1]
    split <;> exact ⟨rfl, k2, k3⟩
  have hfinal : r.pattern = r2.pattern ∧ r.whitelist = r2.whitelist ∧ r.shortcut = loadShortcut sc := by
    rw [hr]
    unfold loadShortcut
    split
    · exact ⟨rfl, rfl, rfl⟩
    · exact ⟨rfl, rfl, h2.2.2⟩
  obtain ⟨f1, f2, f3⟩ := hfinal
  refine ⟨pat, opts, wl, hprt, f1.trans h2.1, f2.trans h2.2.1, ?_⟩
  unfold ShortcutOK
  rw [f1]
  unfold shortcutCandidate at hsc
  rw [isRegexPattern_E] at hsc
  cases hre : UF.isRegexPattern r2.pattern with
  | true =>
    rw [hre, if_pos rfl] at hsc
    cases pure_ok_elim hsc
    exact .inl ⟨rfl, f3⟩
  | false =>
    rw [hre] at hsc
    exact .inr ⟨rfl, sc, (findShortcut_ok_iff _ _).1 hsc, f3⟩

end UF.I2
