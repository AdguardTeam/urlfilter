import UF.Compose2.RegexShortcut
import UF.Proofs.Regex
import UF.Proofs.Shortcut
import UF.Proofs.ShortcutBytes
import UF.Proofs.RegexQuirk
import UF.Proofs.RegexParse
/-
  Soundness of the text-level model of `findRegexpShortcut` (UF/Compose2/RegexShortcut.lean), first
  half — the items `goItems` assigns to an expression describe every match of it: the lower-cased matched text splits into one piece per item, the piece of a literal
  item being that literal, the piece of any other item containing every literal the item requires (and,
  for a class item, being one character of the class).  Stated for the expression compiled with ANY
  fold flags (`FoldRel`: the rule compiles `(?i)` + text unless `$match-case`, the literals are collected
  from the text as written).
-/
namespace UF.I2
open UF Bytes Re

theorem lower_lower : ∀ b : UInt8, lowerByte (lowerByte b) = lowerByte b := by
  apply forall_u8; decide +kernel

theorem lower_upper : ∀ b : UInt8, lowerByte (upperByte b) = lowerByte b := by
  apply forall_u8; decide +kernel

/-- The two cases of a letter (the test by which `parser.push` turns `[aA]` into a folded literal) have
    the same lower case. -/
theorem lower_pair {a b : Nat} (h : (65 ≤ a && a ≤ 90 && b == a + 32 && a != 75 && a != 83) = true) :
    lowerByte b.toUInt8 = lowerByte a.toUInt8 := by
  simp only [Bool.and_eq_true, decide_eq_true_eq, beq_iff_eq] at h
  obtain ⟨⟨⟨⟨h65, h90⟩, rfl⟩, _⟩, _⟩ := h
  have : ∀ i ∈ List.range 26, lowerByte (i + 65 + 32).toUInt8 = lowerByte (i + 65).toUInt8 := by decide
  have := this (a - 65) (List.mem_range.2 (by omega))
  rwa [show a - 65 + 65 = a by omega] at this

theorem toLower_idem (s : Bytes) : toLower (toLower s) = toLower s := by
  simp [toLower, lower_lower]

/-! ### Same expression, other fold flags -/

inductive FoldRel : Re → Re → Prop
  | empty : FoldRel .empty .empty
  | lit (bs : Bytes) (f f' : Bool) : FoldRel (.lit bs f) (.lit bs f')
  | any : FoldRel .any .any
  | anyNL : FoldRel .anyNL .anyNL
  | cls (neg : Bool) (rs : List (UInt8 × UInt8)) (f f' : Bool) : FoldRel (.cls neg rs f) (.cls neg rs f')
  | bol : FoldRel .bol .bol
  | eol : FoldRel .eol .eol
  | wordB : FoldRel .wordB .wordB
  | nwordB : FoldRel .nwordB .nwordB
  | cat {a a' b b'} : FoldRel a a' → FoldRel b b' → FoldRel (.cat a b) (.cat a' b')
  | alt {a a' b b'} : FoldRel a a' → FoldRel b b' → FoldRel (.alt a b) (.alt a' b')
  | star {a a'} : FoldRel a a' → FoldRel (.star a) (.star a')
  | plus {a a'} : FoldRel a a' → FoldRel (.plus a) (.plus a')
  | quest {a a'} : FoldRel a a' → FoldRel (.quest a) (.quest a')
  | rep {a a'} (m : Nat) (mx : Option Nat) : FoldRel a a' → FoldRel (.rep a m mx) (.rep a' m mx)
  | grp {a a'} : FoldRel a a' → FoldRel (.grp a) (.grp a')
  /-- a class of one character, or of the two cases of a letter, compiled as the literal
      `parser.push` makes of it, with whatever flag `parser.factor` left on it
      (UF/Model/RegexQuirk.lean: `[aA]` merged under a case-sensitive `A` is the literal `A`) -/
  | clsLit (neg : Bool) (rs : List (UInt8 × UInt8)) (f : Bool) (c : UInt8) (g f' : Bool) :
      clsLit? neg rs = some (c, g) → FoldRel (.cls neg rs f) (.lit [c] f')

theorem FoldRel.refl (r : Re) : FoldRel r r := by
  induction r <;> constructor <;> assumption

theorem FoldRel.foldCase (r : Re) : FoldRel r r.foldCase := by
  induction r <;> constructor <;> assumption

/-- Rewriting the fold flags of leaves (`applyFlags`, the shape Go's tree of a case-sensitive
    expression is given in) stays inside the relation, whatever the table. -/
theorem FoldRel.applyFlags (m : FlagMap) (r : Re) : ∀ off, FoldRel r (Re.applyFlags m r off) := by
  induction r with
  | lit bs f =>
    intro off
    simp only [Re.applyFlags, fixLeaf]
    split <;> constructor
  | cls n rs f =>
    intro off
    simp only [Re.applyFlags, fixLeaf]
    split
    · rename_i fl c f0 _ hc
      split
      · exact .cls n rs f f
      · exact .clsLit n rs f c f0 fl hc
    · exact .cls n rs f f
  | _ => intro off; constructor <;> apply_assumption

/-- Go's tree of a case-sensitive expression is the textbook tree up to the fold flags of its leaves. -/
theorem FoldRel.goTree {p : Bytes} {t c : Re} (h : goTree p t = some c) : FoldRel t c := by
  rcases goTree_cases h with rfl | ⟨m, rfl⟩
  · exact FoldRel.refl c
  · exact FoldRel.applyFlags m t 0

/-- The expression a `/regex/` rule compiles (`(?i)` + text unless `$match-case`) is the parse of the
    text between the slashes up to fold flags, whenever that text parses.  (A `$match-case` text that
    itself starts with `(?i)` does not: `parseCore` has no flag groups.) -/
theorem FoldRel.regexRule {p : Bytes} {mc : Bool} {t c : Re} (hp : parseCore ((p.drop 1).dropLast) = some t)
    (h : parseRE (regexRuleText p mc) = some c) : FoldRel t c := by
  unfold regexRuleText at h
  cases mc with
  | false =>
    simp only [Bool.false_eq_true, if_false, parseRE_ci, hp, Option.map_some, Option.some.injEq] at h
    exact h ▸ FoldRel.foldCase t
  | true =>
    cases hci : hasPrefix ((p.drop 1).dropLast) ciPrefix with
    | true => rw [parseCore_of_hasPrefix_ci hci] at hp; cases hp
    | false =>
      simp only [if_true, parseRE, hci, Bool.false_eq_true, if_false, hp, Option.bind_some] at h
      exact FoldRel.goTree h

/-- What an expression requires it requires under any other fold flags (a literal requires its
    lower-cased bytes; a class compiled as a literal only adds one). -/
theorem FoldRel.requiredLits {t c : Re} (h : FoldRel t c) : ∀ l ∈ requiredLits t, l ∈ requiredLits c := by
  induction h with
  | cat _ _ iha ihb =>
    intro l hl
    simp only [Re.requiredLits, List.mem_append] at hl ⊢
    exact hl.imp (iha l) (ihb l)
  | grp _ ih | plus _ ih => exact ih
  | rep m mx _ ih =>
    intro l hl
    simp only [Re.requiredLits] at hl ⊢
    split at hl
    · rename_i hm; rw [if_pos hm]; exact ih l hl
    · cases hl
  | lit => exact fun _ hl => hl
  | _ => intro l hl; cases hl

theorem FoldRel.litsCovered {t c : Re} (h : FoldRel t c) : litsCovered t c = true := by
  simp only [UF.litsCovered, List.all_eq_true, List.any_eq_true]
  exact fun l hl => ⟨l, h.requiredLits l hl, hasSub_refl _⟩

/-! ### What the items say about a match -/

/-- The piece of the (lower-cased) matched text that belongs to a non-literal item. -/
def PieceOK (key : Option (Nat × List Nat)) (req : List Bytes) (x : Bytes) : Prop :=
  (∀ l ∈ req, hasSub x l = true) ∧
  (∀ k, key = some (0, 0 :: k) → ∃ n ∈ k, n < 256 ∧ x = [lowerByte n.toUInt8])

/-- `Sat items lw`: the lower-cased matched text `lw` is the concatenation of one piece per item. -/
inductive Sat : List Item → Bytes → Prop
  | nil : Sat [] []
  | lit {bs f rest lw} : Sat rest lw → Sat (.lit bs f :: rest) (toLower bs ++ lw)
  | other {key req x rest lw} : PieceOK key req x → Sat rest lw → Sat (.other key req :: rest) (x ++ lw)

theorem Sat.append {a b : List Item} {x y : Bytes} (ha : Sat a x) (hb : Sat b y) : Sat (a ++ b) (x ++ y) := by
  induction ha with
  | nil => simpa using hb
  | lit _ ih => simpa [List.append_assoc] using Sat.lit ih
  | other hp _ ih => simpa [List.append_assoc] using Sat.other hp ih

theorem Sat.single_other {key req x} (h : PieceOK key req x) : Sat [.other key req] x := by
  simpa using Sat.other h Sat.nil

theorem Sat.single_lit (bs : Bytes) (f : Bool) : Sat [.lit bs f] (toLower bs) := by
  simpa using Sat.lit (bs := bs) (f := f) Sat.nil

theorem Sat.lit_inv {bs f rest lw} (h : Sat (.lit bs f :: rest) lw) :
    ∃ lw', lw = toLower bs ++ lw' ∧ Sat rest lw' := by
  cases h with
  | lit h => exact ⟨_, rfl, h⟩

theorem Sat.other_inv {key req rest lw} (h : Sat (.other key req :: rest) lw) :
    ∃ x lw', lw = x ++ lw' ∧ PieceOK key req x ∧ Sat rest lw' := by
  cases h with
  | other hp h => exact ⟨_, _, rfl, hp, h⟩

theorem Sat.nil_inv {lw} (h : Sat [] lw) : lw = [] := by
  cases h; rfl

/-- Merging adjacent literals does not change what the items say. -/
theorem Sat.merge {items : List Item} {lw : Bytes} (h : Sat items lw) : Sat (mergeItems items) lw := by
  induction h with
  | nil => exact .nil
  | @lit bs f rest lw _ ih =>
    simp only [mergeItems]
    split
    · rename_i b fb rest' heq
      rw [heq] at ih
      obtain ⟨lw', e, hr⟩ := ih.lit_inv
      split
      · rename_i hf
        have : f = fb := by simpa using hf
        subst this
        rw [e, ← List.append_assoc, ← toLower_append]
        exact .lit hr
      · rw [e]
        exact .lit (.lit hr)
    · exact .lit ih
  | @other key req x rest lw hp _ ih =>
    simp only [mergeItems]
    exact .other hp ih

/-- Every literal the items require is a factor of the text. -/
theorem Sat.req {items : List Item} {lw : Bytes} (h : Sat items lw) :
    ∀ l ∈ itemsReq items, hasSub lw l = true := by
  induction h with
  | nil => intro l hl; simp [itemsReq] at hl
  | @lit bs f rest lw _ ih =>
    intro l hl
    simp only [itemsReq, List.flatMap_cons, itemReq, List.mem_append, List.mem_singleton] at hl
    rcases hl with rfl | hl
    · exact hasSub_append_left _ (hasSub_refl _)
    · exact hasSub_append_right _ (ih l (by simpa [itemsReq] using hl))
  | @other key req x rest lw hp _ ih =>
    intro l hl
    simp only [itemsReq, List.flatMap_cons, itemReq, List.mem_append] at hl
    rcases hl with hl | hl
    · exact hasSub_append_left _ (hp.1 l hl)
    · exact hasSub_append_right _ (ih l (by simpa [itemsReq] using hl))

/-- Some branch describes the text. -/
def BranchSat (bs : List (List Item)) (lw : Bytes) : Prop := ∃ b ∈ bs, Sat b lw

theorem clsMatch_unfold (neg : Bool) (rs : List (UInt8 × UInt8)) (f : Bool) (b : UInt8)
    (h : clsMatch neg rs f b = true) :
    ∃ b', clsMatch neg rs false b' = true ∧ lowerByte b' = lowerByte b := by
  unfold clsMatch at h ⊢
  cases neg with
  | false =>
    simp only [bne_iff_ne, ne_eq, Bool.not_eq_false, Bool.or_eq_true, Bool.and_eq_true] at h
    rcases h with h | ⟨_, h | h⟩
    · exact ⟨b, by simp [h], rfl⟩
    · exact ⟨lowerByte b, by simp [h], lower_lower b⟩
    · exact ⟨upperByte b, by simp [h], lower_upper b⟩
  | true =>
    refine ⟨b, ?_, rfl⟩
    simp only [bne_iff_ne, ne_eq, Bool.not_eq_true, Bool.or_eq_false_iff] at h
    simp [h.1]

theorem mem_clsKey {neg : Bool} {rs : List (UInt8 × UInt8)} {b : UInt8}
    (h : clsMatch neg rs false b = true) : b.toNat ∈ clsKey neg rs := by
  unfold clsKey
  rw [List.mem_filter]
  refine ⟨List.mem_range.2 b.toNat_lt, ?_⟩
  simpa using h

/-- The item of a class describes every character the class matches, whatever the fold flag. -/
theorem cls_sat (neg : Bool) (rs : List (UInt8 × UInt8)) (f : Bool) (b : UInt8)
    (h : clsMatch neg rs f b = true) : Sat [clsItem neg rs] [lowerByte b] := by
  obtain ⟨b', hb', hl⟩ := clsMatch_unfold neg rs f b h
  have hm := mem_clsKey hb'
  have hb'' : b'.toNat.toUInt8 = b' := by simp
  unfold clsItem
  split
  · rename_i c hk
    rw [hk] at hm
    have : b'.toNat = c := by simpa using hm
    rw [← this, hb'', ← hl]
    exact Sat.single_lit [b'] false
  · rename_i a b2 hk
    rw [hk] at hm
    split
    · rename_i hcond
      have hcase : b'.toNat = a ∨ b'.toNat = b2 := by simpa using hm
      have key : lowerByte a.toUInt8 = lowerByte b' := by
        rw [← hb'']
        rcases hcase with e | e
        · rw [e]
        · rw [e, lower_pair hcond]
      have : toLower [a.toUInt8] = [lowerByte b] := by simp [toLower, key, hl]
      rw [← this]
      exact Sat.single_lit [a.toUInt8] true
    · refine Sat.single_other ⟨fun _ hl' => by simp at hl', ?_⟩
      intro k hk'
      have : k = [a, b2] := by simpa using hk'.symm
      subst this
      exact ⟨b'.toNat, hm, b'.toNat_lt, by rw [hb'', hl]⟩
  · rename_i k _ _
    refine Sat.single_other ⟨fun _ hl' => by simp at hl', ?_⟩
    intro k' hk'
    have : k' = clsKey neg rs := by simpa using hk'.symm
    subst this
    exact ⟨b'.toNat, hm, b'.toNat_lt, by rw [hb'', hl]⟩

/-- `clsItem` (the item the shortcut model gives a class) and `clsLit?` (the literal the matching model
    gives it) are the same table. -/
theorem clsItem_of_clsLit {neg : Bool} {rs : List (UInt8 × UInt8)} {c : UInt8} {g : Bool}
    (h : clsLit? neg rs = some (c, g)) : clsItem neg rs = .lit [c] g := by
  unfold clsLit? at h
  unfold clsItem
  have hk : clsKey neg rs = clsBytes neg rs := rfl
  rw [hk]
  split at h
  · rename_i x hx
    rw [hx]
    simp only [Option.some.injEq, Prod.mk.injEq] at h
    obtain ⟨rfl, rfl⟩ := h
    rfl
  · rename_i a b hx
    rw [hx]
    split at h
    · rename_i hc
      simp only [Option.some.injEq, Prod.mk.injEq] at h
      obtain ⟨rfl, rfl⟩ := h
      simp only [hc, if_true]
    · cases h
  · cases h

end UF.I2

namespace UF.Re
open UF Bytes

/-- Go's tree of a case-sensitive expression (`goTree`) requires every literal the textbook tree requires: it
    is the textbook tree up to the fold flags of its leaves (`FoldRel`). -/
theorem litsCovered_goTree {p : Bytes} {t c : Re} (h : goTree p t = some c) : litsCovered t c = true :=
  (I2.FoldRel.goTree h).litsCovered

end UF.Re
