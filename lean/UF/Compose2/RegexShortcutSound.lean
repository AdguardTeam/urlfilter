import UF.Compose2.RegexShortcutFactor
/-
  Soundness of the text-level model of `findRegexpShortcut`, second half.

  `sem`: for the expression `r` parsed from the text and the expression `c` actually compiled (the same
  with other fold flags), every match of `c` is described by the items / branches of `r`, and every
  literal `goReq r` requires is a factor of the lower-cased matched text (`goReq_search` for a whole search).
  `modelRegexpShortcut_some` reduces an answer of the shortcut model to `goReq`; the two meet in
  `c05_regex_text` (Props/C05Full.lean): the shortcut is a factor of every lower-cased target the pattern
  model accepts.
-/
namespace UF.I2
open UF Bytes Re

theorem goItems_empty : goItems .empty = [] := by simp [goItems]
theorem goItems_lit (bs f) : goItems (.lit bs f) = [.lit bs f] := by simp [goItems]
theorem goItems_any : goItems .any = [.other (some (0, [1])) []] := by simp [goItems]
theorem goItems_anyNL : goItems .anyNL = [.other (some (0, [2])) []] := by simp [goItems]
theorem goItems_cls (n rs f) : goItems (.cls n rs f) = [clsItem n rs] := by simp [goItems]
theorem goItems_bol : goItems .bol = [.other none []] := by simp [goItems]
theorem goItems_eol : goItems .eol = [.other none []] := by simp [goItems]
theorem goItems_wordB : goItems .wordB = [.other none []] := by simp [goItems]
theorem goItems_nwordB : goItems .nwordB = [.other none []] := by simp [goItems]
theorem goItems_star (a) : goItems (.star a) = [.other none []] := by simp [goItems]
theorem goItems_quest (a) : goItems (.quest a) = [.other none []] := by simp [goItems]
theorem goItems_cat (a b) : goItems (.cat a b) = goItems a ++ goItems b := by simp [goItems]
theorem goItems_grp (a) : goItems (.grp a) = [.other none (goReq a)] := by simp [goItems]
theorem goItems_plus (a) : goItems (.plus a) = [.other none (goReq a)] := by simp [goItems]
theorem goItems_alt (a b) : goItems (.alt a b) = [.other none (altTopReq (mergeItems (goItems a) :: goBranches b))] := by
  simp [goItems]
theorem goReq_alt (a b) : goReq (.alt a b) = altTopReq (mergeItems (goItems a) :: goBranches b) := by simp [goReq]
theorem goBranches_alt (a b) : goBranches (.alt a b) = mergeItems (goItems a) :: goBranches b := by simp [goBranches]

theorem goReq_nonalt (r : Re) (h : ∀ a b, r ≠ .alt a b) : goReq r = itemsReq (mergeItems (goItems r)) := by
  cases r with
  | alt a b => exact absurd rfl (h a b)
  | _ => simp [goReq]

theorem goBranches_nonalt (r : Re) (h : ∀ a b, r ≠ .alt a b) : goBranches r = [mergeItems (goItems r)] := by
  cases r with
  | alt a b => exact absurd rfl (h a b)
  | _ => simp [goBranches]

/-- From the items to the other two statements, for an expression that is not an alternation. -/
theorem wrap (r : Re) (h : ∀ a b, r ≠ .alt a b) {lw : Bytes} (h1 : Sat (goItems r) lw) :
    Sat (goItems r) lw ∧ BranchSat (goBranches r) lw ∧ (∀ l ∈ goReq r, hasSub lw l = true) := by
  refine ⟨h1, ?_, ?_⟩
  · rw [goBranches_nonalt r h]
    exact ⟨_, List.mem_singleton_self _, h1.merge⟩
  · rw [goReq_nonalt r h]
    exact h1.merge.req

theorem req_piece {req : List Bytes} {x : Bytes} (h : ∀ l ∈ req, hasSub x l = true) :
    Sat [Item.other none req] x :=
  Sat.single_other ⟨h, fun _ hk => by simp at hk⟩

theorem rep_items (a : Re) (m : Nat) (mx : Option Nat) :
    ∃ key, goItems (.rep a m mx) = [.other key (if m > 0 then goReq a else [])] ∧
      ∀ k, key ≠ some (0, 0 :: k) := by
  cases mx with
  | none => exact ⟨none, by simp [goItems], fun _ h => by simp at h⟩
  | some n =>
    cases hb : baseKey a with
    | none => exact ⟨none, by simp [goItems, hb], fun _ h => by simp at h⟩
    | some k =>
      by_cases hmn : m = n
      · exact ⟨some (m + 1, k), by simp [goItems, hb, hmn], fun _ h => by simp at h⟩
      · exact ⟨none, by simp [goItems, hb, hmn], fun _ h => by simp at h⟩

theorem rep_sat (a : Re) (m : Nat) (mx : Option Nat) {x : Bytes}
    (h : m > 0 → ∀ l ∈ goReq a, hasSub x l = true) : Sat (goItems (.rep a m mx)) x := by
  obtain ⟨key, e, hk⟩ := rep_items a m mx
  rw [e]
  apply Sat.single_other
  refine ⟨?_, fun k hk' => absurd hk' (hk k)⟩
  intro l hl
  by_cases hm : m > 0
  · rw [if_pos hm] at hl; exact h hm l hl
  · rw [if_neg hm] at hl; simp at hl

theorem sem (r : Re) : ∀ c, FoldRel r c → ∀ s t w, Den c s t → s.post = w ++ t.post →
    Sat (goItems r) (toLower w) ∧ BranchSat (goBranches r) (toLower w) ∧
      (∀ l ∈ goReq r, hasSub (toLower w) l = true) := by
  induction r with
  | empty =>
    intro c hrel s t w hd hw
    cases hrel; cases hd
    rw [nil_of_post_eq hw]
    exact wrap .empty (fun _ _ h => nomatch h) (by rw [goItems_empty]; exact Sat.nil)
  | lit bs f =>
    intro c hrel s t w hd hw
    cases hrel
    refine wrap (.lit bs f) (fun _ _ h => nomatch h) ?_
    rw [hd.lit_word hw, goItems_lit]
    exact Sat.single_lit bs f
  | cls neg rs f =>
    intro c hrel s t w hd hw
    refine wrap (.cls neg rs f) (fun _ _ h => nomatch h) ?_
    rw [goItems_cls]
    cases hrel with
    | cls =>
      cases hd with
      | @cls _ _ _ pre b post hm =>
        obtain rfl : w = [b] := List.append_cancel_right (bs := post) (by simpa using hw.symm)
        exact cls_sat neg rs _ b hm
    | clsLit _ _ _ ch g f' hc =>
      -- compiled as the literal `push` makes of the class: the item of the class IS that literal
      rw [hd.lit_word hw, clsItem_of_clsLit hc]
      exact Sat.single_lit [ch] g
  | any | anyNL | bol | eol | wordB | nwordB | star _ | quest _ =>
    -- one piece of which nothing is required (and which is no class item)
    intro c hrel s t w hd hw
    exact wrap _ (fun _ _ h => by cases h)
      (by simp only [goItems]; exact Sat.single_other ⟨fun _ hl => by simp at hl, fun _ hk => by simp at hk⟩)
  | cat a b iha ihb =>
    intro c hrel s u w hd hw
    cases hrel with
    | cat ra rb =>
      cases hd with
      | cat h1 h2 =>
        obtain ⟨w1, w2, rfl, e1, e2⟩ := h1.split h2 hw
        refine wrap (.cat a b) (fun _ _ h => nomatch h) ?_
        rw [toLower_append, goItems_cat]
        exact Sat.append (iha _ ra _ _ _ h1 e1).1 (ihb _ rb _ _ _ h2 e2).1
  | alt a b iha ihb =>
    intro c hrel s t w hd hw
    cases hrel with
    | alt ra rb =>
      have hbr : BranchSat (mergeItems (goItems a) :: goBranches b) (toLower w) := by
        cases hd with
        | altL h => exact ⟨_, List.mem_cons_self, (iha _ ra _ _ _ h hw).1.merge⟩
        | altR h =>
          obtain ⟨br, hbr, hs⟩ := (ihb _ rb _ _ _ h hw).2.1
          exact ⟨br, List.mem_cons_of_mem _ hbr, hs⟩
      have hreq := altTopReq_sound hbr
      rw [goItems_alt, goBranches_alt, goReq_alt]
      exact ⟨req_piece hreq, hbr, hreq⟩
  | plus a iha =>
    intro c hrel s u w hd hw
    cases hrel with
    | plus ra =>
      cases hd with
      | plus h1 h2 =>
        obtain ⟨w1, w2, rfl, e1, _⟩ := h1.split h2 hw
        refine wrap (.plus a) (fun _ _ h => nomatch h) ?_
        rw [goItems_plus, toLower_append]
        exact req_piece fun l hl => hasSub_append_left _ ((iha _ ra _ _ _ h1 e1).2.2 l hl)
  | rep a m mx iha =>
    intro c hrel s u w hd hw
    cases hrel with
    | rep _ _ ra =>
      refine wrap (.rep a m mx) (fun _ _ h => nomatch h) ?_
      apply rep_sat
      intro hm l hl
      cases hd with
      | repU0 _ | repB0 | repBO _ _ => omega
      | repUS h1 h2 | repBS h1 h2 =>
        obtain ⟨w1, w2, rfl, e1, _⟩ := h1.split h2 hw
        rw [toLower_append]
        exact hasSub_append_left _ ((iha _ ra _ _ _ h1 e1).2.2 l hl)
  | grp a iha =>
    intro c hrel s t w hd hw
    cases hrel with
    | grp ra =>
      cases hd with
      | grp h =>
        refine wrap (.grp a) (fun _ _ h => nomatch h) ?_
        rw [goItems_grp]
        exact req_piece (iha _ ra _ _ _ h hw).2.2

/-- Every literal Go's tree of the text requires is a factor of the lower-cased subject of every
    successful search of the compiled expression (`c` = the tree with any fold flags). -/
theorem goReq_search {r c : Re} (hrel : FoldRel r c) {u : Bytes} (h : search c u = true) :
    ∀ l ∈ goReq r, hasSub (toLower u) l = true := by
  intro l hl
  obtain ⟨x, y, z, rfl, hd⟩ := (search_iff c _).1 h
  have := (sem r c hrel _ _ y hd rfl).2.2 l hl
  rw [toLower_append, toLower_append]
  exact hasSub_append_left _ (hasSub_append_right _ this)

/-- Whenever the text-level shortcut model answers, the answer is empty or the candidate selected
    against `goReq` of the parsed text (the text has no `?`, hence no flag prefix). -/
theorem modelRegexpShortcut_some {p sc : Bytes} (h : modelRegexpShortcut p = some sc) :
    sc = [] ∨ (((p.drop 1).dropLast).any (· == 63) = false ∧
      ∃ tree, parseCore ((p.drop 1).dropLast) = some tree ∧
        sc = pickLongest (regexParts ((p.drop 1).dropLast)) (goReq tree)) := by
  unfold modelRegexpShortcut at h
  simp only at h
  split at h
  · cases h
  · split at h
    · cases h; exact .inl rfl
    · rename_i hq
      right
      refine ⟨by simpa using Bool.eq_false_iff.2 hq, ?_⟩
      cases hp : parseCore ((p.drop 1).dropLast) with
      | none => rw [hp] at h; cases h
      | some tree =>
        rw [hp] at h
        refine ⟨tree, rfl, ?_⟩
        simp only at h
        split at h
        · split at h
          · split at h
            · cases h; rfl
            · cases h
          · cases h
        · cases h; rfl

end UF.I2
