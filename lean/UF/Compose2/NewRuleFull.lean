import UF.Model.NewRule
import UF.Model.HostRule
import UF.Model.DnsRewriteParse
import UF.Model.TrimSpace
import UF.Model.Shortcut
import UF.Proofs.TrimSpace
import UF.Proofs.TrimSpaceIdem
import UF.Proofs.HostRule
import UF.Proofs.ParseWF
import UF.Proofs.ParseTotal
import UF.Props.C10
import UF.Props.C18
import UF.Compose2.RegexShortcut
import UF.Compose.Parser
/-
  The complete model of `rules.NewRule`: the parameters of `E.newRule` / `E.parseNetRule` instantiated with
  `trimSpace`, `H.newHostRule` (over `E.isDomainNameC`) and `H.loadDNSRewrite`; `ext.parseAddr`,
  `ext.parsePrefix`, `ext.psl` stay external.  `newRuleFull` / `parseNetRuleFull` keep the shortcut of
  `/regex/` rules as a parameter `reShortcut` (theorems hold for every such function); `newRuleM` /
  `parseNetRuleM` instantiate it with `modelRegexpShortcut` (UF/Compose2/RegexShortcut.lean: the textual
  candidates of `findRegexpShortcut` filtered against the required literals of Go's own, simplified, parse
  tree), exact on ASCII texts inside the subset of `parseRE`.  Mask rules need no oracle in either.
-/
namespace UF.I2
open UF Bytes

/-- `filterutil.IsDomainName` as a Boolean function (the state machine `E.isDomainNameC`; its only checked
    index expression never fails: `E.isDomainNameC_noPanic`). -/
def isDomainNameB (name : Bytes) : Bool :=
  match E.isDomainNameC name with
  | .ok b => b
  | .error _ => false

/-- `H.loadDNSRewrite` as the parameter of the option parser (`none` = error). -/
def rewriteParam (ext : Ext) (v : Bytes) : Option DnsRewrite :=
  match H.loadDNSRewrite ext v with
  | .ok rw => some rw
  | .error _ => none

/-- `H.newHostRule` as the parameter of `E.newRule` (`none` = error). -/
def hostParam (ext : Ext) (text : Bytes) (listID : Int) : Option HostRule :=
  match H.newHostRule ext isDomainNameB text listID with
  | .ok h => some h
  | .error _ => none

/-- The parser parameters, instantiated; `reShortcut` is the remaining oracle for `/regex/` rules. -/
def fullParseExt (ext : Ext) (reShortcut : Bytes → Bytes) : E.ParseExt where
  ext := ext
  loadDNSRewrite := rewriteParam ext
  regexpShortcut := reShortcut

def fullRuleExt (ext : Ext) (reShortcut : Bytes → Bytes) : E.RuleExt where
  px := fullParseExt ext reShortcut
  trim := trimSpace
  newHostRule := hostParam ext

/-- The complete model of `rules.NewNetworkRule`. -/
def parseNetRuleFull (ext : Ext) (reShortcut : Bytes → Bytes) (text : Bytes) (listID : Int) : E.PE NetRule :=
  E.parseNetRule (fullParseExt ext reShortcut) text listID

/-- The complete model of `rules.NewRule`: `.ok none` = blank line or comment, `.error .err` = the
    line is rejected, `.error .panic` = a run-time panic (excluded by `c12_outcomes_full`). -/
def newRuleFull (ext : Ext) (reShortcut : Bytes → Bytes) (line : Bytes) (listID : Int) : E.PE (Option Rule) :=
  E.newRule (fullRuleExt ext reShortcut) line listID

def scanAcceptedFull (ext : Ext) (reShortcut : Bytes → Bytes) (listID : Int) (lines : List Bytes) : List Rule :=
  E.scanAccepted (fullRuleExt ext reShortcut) listID lines

/-! ### With the regex shortcut modelled too (UF/Compose2/RegexShortcut.lean): no parameter left but `ext` -/

/-- `findRegexpShortcut` from the text (`[]` outside the domain of the model; `regexShortcutInDomain`
    says when the model answers). -/
def reShortcutM (pattern : Bytes) : Bytes := (modelRegexpShortcut pattern).getD []

def regexShortcutInDomain (pattern : Bytes) : Bool := (modelRegexpShortcut pattern).isSome

/-- The complete model of `rules.NewNetworkRule`, no oracle but `netip`. -/
def parseNetRuleM (ext : Ext) (text : Bytes) (listID : Int) : E.PE NetRule :=
  parseNetRuleFull ext reShortcutM text listID

/-- The complete model of `rules.NewRule`, no oracle but `netip`. -/
def newRuleM (ext : Ext) (line : Bytes) (listID : Int) : E.PE (Option Rule) :=
  newRuleFull ext reShortcutM line listID

/-- Is the model exact on this outcome?  A `/regex/` rule needs the shortcut model to be in its domain. -/
def ruleShortcutInDomain : E.PE (Option Rule) → Bool
  | .ok (some (.net r)) => !UF.isRegexPattern r.pattern || regexShortcutInDomain r.pattern
  | _ => true

theorem trim_cr (l : Bytes) : trimSpace (l ++ [13]) = trimSpace l := Compose.trimSpace_cr l

theorem trim_lf (l : Bytes) : trimSpace (l ++ [10]) = trimSpace l := trimSpace_nl' l

theorem trim_crlf (l : Bytes) : trimSpace (l ++ [13, 10]) = trimSpace l := trimSpace_crnl' l

theorem trim_idem (l : Bytes) : trimSpace (trimSpace l) = trimSpace l := trimSpace_idem l

theorem hostParam_text {ext : Ext} {t : Bytes} {i : Int} {h : HostRule}
    (hh : hostParam ext t i = some h) : h.text = t ∧ h.listID = i :=
  Compose.hostRuleH_keeps ext t i h hh

/-- Turning `H`'s three-valued result into an `Option` loses nothing: a panic is impossible
    (`c18_total`), so `none` means "rejected with an error". -/
theorem hostParam_none_iff (ext : Ext) (t : Bytes) (i : Int) :
    hostParam ext t i = none ↔ H.newHostRule ext isDomainNameB t i = .error .reject := by
  unfold hostParam
  cases h : H.newHostRule ext isDomainNameB t i with
  | ok r => simp
  | error e =>
    cases e with
    | panic => exact absurd h (H.c18_total ext isDomainNameB t i)
    | reject => simp

theorem hostParam_some_iff (ext : Ext) (t : Bytes) (i : Int) (r : HostRule) :
    hostParam ext t i = some r ↔ H.newHostRule ext isDomainNameB t i = .ok r := by
  unfold hostParam
  cases h : H.newHostRule ext isDomainNameB t i <;> simp

theorem rewriteParam_none_iff (ext : Ext) (v : Bytes) :
    rewriteParam ext v = none ↔ H.loadDNSRewrite ext v = .error .reject := by
  unfold rewriteParam
  cases h : H.loadDNSRewrite ext v with
  | ok r => simp
  | error e =>
    cases e with
    | panic => exact absurd h (H.c10_total ext v)
    | reject => simp

theorem rewriteParam_some_iff (ext : Ext) (v : Bytes) (rw : DnsRewrite) :
    rewriteParam ext v = some rw ↔ H.loadDNSRewrite ext v = .ok rw := by
  unfold rewriteParam
  cases h : H.loadDNSRewrite ext v <;> simp

/-- `IsDomainName` never takes the error branch of `isDomainNameB`. -/
theorem isDomainNameB_spec (name : Bytes) : E.isDomainNameC name = .ok (isDomainNameB name) := by
  obtain ⟨b, hb⟩ := E.isDomainNameC_ok name
  unfold isDomainNameB
  rw [hb]

end UF.I2
