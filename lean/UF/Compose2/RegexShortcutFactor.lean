import UF.Compose2.RegexShortcutSem
/-
  Soundness of the model of `parser.factor` / `alternate()` in
  UF/Compose2/RegexShortcut.lean — whatever `altTopReq branches` requires is a factor of every text
  described by SOME branch (`BranchSat`).
-/
namespace UF.I2
open UF Bytes Re

/-- What a node of the factored list says about the text. -/
def NodeSat : Node → Bytes → Prop
  | .br items, lw => Sat items lw
  | .fact _ req, lw => ∀ l ∈ req, hasSub lw l = true
  | .cls none, _ => True
  | .cls (some k), lw => ∃ n ∈ k, n < 256 ∧ lw = [lowerByte n.toUInt8]

def NodesSat (nodes : List Node) (lw : Bytes) : Prop := ∃ nd ∈ nodes, NodeSat nd lw

/-- The recursion hypothesis: what `rec` requires of an alternation is implied by each branch. -/
def RecSound (rec : List (List Item) → List Bytes) : Prop :=
  ∀ bs lw, BranchSat bs lw → ∀ l ∈ rec bs, hasSub lw l = true

theorem nodesSat_cons {a : Node} {l : List Node} {lw : Bytes} :
    NodesSat (a :: l) lw ↔ NodeSat a lw ∨ NodesSat l lw := by
  simp [NodesSat]

theorem nodesSat_append {a b : List Node} {lw : Bytes} :
    NodesSat (a ++ b) lw ↔ NodesSat a lw ∨ NodesSat b lw := by
  simp [NodesSat, or_and_right, exists_or]

theorem branchSat_append {a b : List (List Item)} {lw : Bytes} :
    BranchSat (a ++ b) lw ↔ BranchSat a lw ∨ BranchSat b lw := by
  simp [BranchSat, or_and_right, exists_or]

/-! ### Round 1 -/

theorem commonPrefix_spec : ∀ (a b : Bytes), ∃ a' b', a = commonPrefix a b ++ a' ∧ b = commonPrefix a b ++ b'
  | [], b => ⟨[], b, by simp [commonPrefix]⟩
  | x :: a, [] => ⟨x :: a, [], by simp [commonPrefix]⟩
  | x :: a, y :: b => by
    simp only [commonPrefix]
    split
    · rename_i h
      obtain ⟨a', b', ha, hb⟩ := commonPrefix_spec a b
      exact ⟨a', b', by simp [← ha], by simp [← hb, ← eq_of_beq h]⟩
    · exact ⟨x :: a, y :: b, by simp⟩

/-- Removing a prefix of the leading literal removes its lower-casing from the text. -/
theorem dropLit_sat {m : List Item} {pre s' : Bytes} {lw : Bytes}
    (hl : (leadOf m).1 = pre ++ s') (h : Sat m lw) :
    ∃ lw', lw = toLower pre ++ lw' ∧ Sat (dropLitB pre.length m) lw' := by
  match m, hl, h with
  | [], hl, h | .other _ _ :: _, hl, h =>
    -- no leading literal: the prefix is empty
    obtain rfl : pre = [] := (List.append_eq_nil_iff.1 hl.symm).1
    exact ⟨lw, rfl, h⟩
  | .lit bs f :: rest, hl, h =>
    simp only [leadOf] at hl
    subst hl
    obtain ⟨lw0, e, hr⟩ := h.lit_inv
    simp only [dropLitB]
    split
    · rename_i hle
      obtain rfl : s' = [] := List.eq_nil_of_length_eq_zero (by simp only [List.length_append] at hle; omega)
      exact ⟨lw0, by simpa using e, hr⟩
    · refine ⟨toLower s' ++ lw0, by rw [e, toLower_append, List.append_assoc], ?_⟩
      rw [List.drop_left]
      exact .lit hr

/-- Invariant of the run of round 1: every member's leading literal has the flag of the run and
    starts with the common prefix. -/
def Inv1 (pre : Bytes) (fold : Bool) (members : List (List Item)) : Prop :=
  ∀ m ∈ members, (leadOf m).2 = fold ∧ ∃ s', (leadOf m).1 = pre ++ s'

theorem close1_sound {rec} (hrec : RecSound rec) {pre : Bytes} {fold : Bool} {members : List (List Item)}
    (hinv : Inv1 pre fold members) {lw : Bytes} (h : ∃ m ∈ members, Sat m lw) :
    NodesSat (close1 rec pre fold members) lw := by
  obtain ⟨m, hm, hs⟩ := h
  match members, hm, hinv with
  | [m0], hm, _ =>
    have : m = m0 := by simpa using hm
    subst this
    exact ⟨.br m, by simp [close1], hs⟩
  | m1 :: m2 :: ms, hm, hinv =>
    unfold NodesSat
    simp only [close1, List.mem_singleton, exists_eq_left, NodeSat]
    obtain ⟨_, s', hl⟩ := hinv m hm
    obtain ⟨lw', e, hd⟩ := dropLit_sat hl hs
    intro l hl'
    simp only [List.mem_cons] at hl'
    rcases hl' with rfl | hl'
    · rw [e]; exact hasSub_append_left _ (hasSub_refl _)
    · rw [e]
      apply hasSub_append_right
      exact hrec _ lw' ⟨_, List.mem_map_of_mem hm, hd⟩ l hl'

theorem round1_sound {rec} (hrec : RecSound rec) {lw : Bytes} :
    ∀ (rest : List (List Item)) (pre : Bytes) (fold : Bool) (members : List (List Item)),
      Inv1 pre fold members → BranchSat (members ++ rest) lw →
      NodesSat (round1 rec pre fold members rest) lw := by
  intro rest
  induction rest with
  | nil =>
    intro pre fold members hinv h
    rw [List.append_nil] at h
    simpa [round1] using close1_sound hrec hinv h
  | cons b rest ih =>
    intro pre fold members hinv h
    simp only [round1]
    split
    · rename_i hc
      simp only [Bool.and_eq_true, beq_iff_eq, Bool.not_eq_true', List.isEmpty_eq_false_iff] at hc
      refine ih _ _ _ ?_ (by rwa [List.append_assoc])
      intro m hm
      rcases List.mem_append.1 hm with hm | hm
      · obtain ⟨h1, s', h2⟩ := hinv m hm
        obtain ⟨p', _, hp', _⟩ := commonPrefix_spec pre (leadOf b).1
        exact ⟨h1, p' ++ s', by rw [h2]; conv => lhs; rw [hp']; simp⟩
      · obtain rfl := List.mem_singleton.1 hm
        obtain ⟨_, b', _, hb'⟩ := commonPrefix_spec pre (leadOf m).1
        exact ⟨hc.1, b', hb'⟩
    · refine nodesSat_append.2 ((branchSat_append.1 h).imp (close1_sound hrec hinv)
        (ih (leadOf b).1 (leadOf b).2 [b] ?_))
      intro m hm
      obtain rfl := List.mem_singleton.1 hm
      exact ⟨rfl, [], by simp⟩

/-! ### Round 2 -/

def Inv2 (first : Option Item) (members : List Node) : Prop :=
  ∀ f, first = some f → ∀ m ∈ members, ∃ i, leadingItem m = some i ∧ itemEq f i = true

theorem itemEq_refl (f : Item) : itemEq f f = true := by
  cases f <;> simp [itemEq]

/-- Items that `Regexp.Equal` identifies require the same literals (a literal requires its
    lower-cased bytes whatever its flag). -/
theorem itemEq_req {f i : Item} (h : itemEq f i = true) : itemReq f = itemReq i := by
  cases f with
  | lit a fa =>
    cases i with
    | lit b fb =>
      have : a = b := by simpa [itemEq] using h
      subst this; rfl
    | other k r => simp [itemEq] at h
  | other k r =>
    cases i with
    | lit b fb => simp [itemEq] at h
    | other k' r' =>
      have : Item.other k r = Item.other k' r' := by simpa [itemEq] using h
      rw [this]

theorem lead_sat {m : Node} {f i : Item} {lw : Bytes} (hl : leadingItem m = some i) (he : itemEq f i = true)
    (h : NodeSat m lw) :
    ∃ x lw', lw = x ++ lw' ∧ (∀ l ∈ itemReq f, hasSub x l = true) ∧ Sat (dropLead m) lw' := by
  rw [itemEq_req he]
  match m, hl, h with
  | .br (.lit bs fl :: rest), hl, h =>
    obtain rfl := Option.some.inj hl
    obtain ⟨lw', e, hr⟩ := Sat.lit_inv h
    exact ⟨toLower bs, lw', e, fun l hl' => List.mem_singleton.1 hl' ▸ hasSub_refl _, hr⟩
  | .br (.other key req :: rest), hl, h =>
    obtain rfl := Option.some.inj hl
    obtain ⟨x, lw', e, hp, hr⟩ := Sat.other_inv h
    exact ⟨x, lw', e, hp.1, hr⟩

theorem close2_sound {rec} (hrec : RecSound rec) {first : Option Item} {members : List Node}
    (hinv : Inv2 first members) {lw : Bytes} (h : ∃ m ∈ members, NodeSat m lw) :
    NodesSat (close2 rec first members) lw := by
  obtain ⟨m, hm, hs⟩ := h
  match members, hm, hinv with
  | [m0], hm, _ =>
    have : m = m0 := by simpa using hm
    subst this
    exact ⟨m, by simp [close2], hs⟩
  | m1 :: m2 :: ms, hm, hinv =>
    cases first with
    | none => exact ⟨m, by simpa [close2] using hm, hs⟩
    | some f =>
      unfold NodesSat
      simp only [close2, List.mem_singleton, exists_eq_left, NodeSat]
      obtain ⟨i, hli, hei⟩ := hinv f rfl m hm
      obtain ⟨x, lw', e, hx, hd⟩ := lead_sat hli hei hs
      intro l hl
      rcases List.mem_append.1 hl with hl | hl
      · rw [e]; exact hasSub_append_left _ (hx l hl)
      · rw [e]
        apply hasSub_append_right
        exact hrec _ lw' ⟨_, List.mem_map_of_mem hm, hd⟩ l hl

theorem round2_sound {rec} (hrec : RecSound rec) {lw : Bytes} :
    ∀ (rest : List Node) (first : Option Item) (members : List Node),
      Inv2 first members → ((∃ m ∈ members, NodeSat m lw) ∨ NodesSat rest lw) →
      NodesSat (round2 rec first members rest) lw := by
  -- the text is described by a node of `members ++ rest`
  suffices scan : ∀ (rest : List Node) (first : Option Item) (members : List Node),
      Inv2 first members → NodesSat (members ++ rest) lw → NodesSat (round2 rec first members rest) lw from
    fun rest first members hinv h =>
      scan rest first members hinv (nodesSat_append.2 h)
  intro rest
  induction rest with
  | nil =>
    intro first members hinv h
    rw [List.append_nil] at h
    simpa [round2] using close2_sound hrec hinv h
  | cons nd rest ih =>
    intro first members hinv h
    simp only [round2]
    by_cases hc : run2Cond first nd = true
    · rw [if_pos hc]
      refine ih _ _ ?_ (by rwa [List.append_assoc])
      intro f hf m hm
      rcases List.mem_append.1 hm with hm | hm
      · exact hinv f hf m hm
      · obtain rfl := List.mem_singleton.1 hm
        subst hf
        simp only [run2Cond, Bool.and_eq_true] at hc
        cases hli : leadingItem m with
        | none => rw [hli] at hc; simp at hc
        | some i => rw [hli] at hc; exact ⟨i, rfl, hc.1⟩
    · rw [if_neg hc]
      refine nodesSat_append.2 ((nodesSat_append.1 h).imp (close2_sound hrec hinv)
        (ih (leadingItem nd) [nd] ?_))
      intro f hf m hm
      obtain rfl := List.mem_singleton.1 hm
      exact ⟨f, hf, itemEq_refl f⟩

/-! ### Rounds 3 and 4, and the merging of single characters -/

/-- What a single-character node says: its text is one character of `nodeChars` (lower-cased). -/
theorem cc_chars {a : Node} {lw : Bytes} (hcc : nodeIsCC a = true) (h : NodeSat a lw) :
    nodeChars a = none ∨ ∃ k, nodeChars a = some k ∧ ∃ n ∈ k, n < 256 ∧ lw = [lowerByte n.toUInt8] := by
  cases a with
  | fact _ _ => simp [nodeIsCC] at hcc
  | cls k =>
    cases k with
    | none => exact .inl rfl
    | some k => exact .inr ⟨k, rfl, h⟩
  | br items =>
    match items, hcc, h with
    | [.lit bs f], hcc, h =>
      have hl : bs.length = 1 := by simpa [nodeIsCC, itemIsCC] using hcc
      match bs, hl with
      | [c], _ =>
        simp only [NodeSat] at h
        obtain ⟨lw', e, hr⟩ := h.lit_inv
        have := hr.nil_inv
        subst this
        cases f with
        | false =>
          refine .inr ⟨[c.toNat], rfl, c.toNat, by simp, c.toNat_lt, ?_⟩
          simp [e, toLower]
        | true =>
          refine .inr ⟨_, rfl, (lowerByte c).toNat, by simp, (lowerByte c).toNat_lt, ?_⟩
          simp [e, toLower, lower_lower]
    | [.other key req], hcc, h =>
      simp only [NodeSat] at h
      obtain ⟨x, lw', e, hp, hr⟩ := h.other_inv
      have := hr.nil_inv
      subst this
      match key with
      | some (0, 0 :: k) =>
        obtain ⟨n, hn, hlt, hx⟩ := hp.2 k rfl
        exact .inr ⟨k, rfl, n, hn, hlt, by simp [e, hx]⟩
      | some (0, []) => exact .inl rfl
      | some (0, (_ + 1) :: _) => exact .inl rfl
      | some (_ + 1, _) => simp [nodeIsCC, itemIsCC] at hcc
      | none => simp [nodeIsCC, itemIsCC] at hcc

theorem union_sat {a b : Node} {lw : Bytes} (ha : nodeIsCC a = true) (hb : nodeIsCC b = true)
    (h : NodeSat a lw ∨ NodeSat b lw) : NodeSat (.cls (unionChars (nodeChars a) (nodeChars b))) lw := by
  cases hka : nodeChars a with
  | none => simp [unionChars, NodeSat]
  | some ka =>
    cases hkb : nodeChars b with
    | none => simp [unionChars, NodeSat]
    | some kb =>
      simp only [unionChars, NodeSat]
      rcases h with h | h
      · rcases cc_chars ha h with e | ⟨k, e, n, hn, hlt, hw⟩
        · rw [hka] at e; cases e
        · rw [hka] at e; cases e
          exact ⟨n, by simp [List.mem_filter, hlt, hn], hlt, hw⟩
      · rcases cc_chars hb h with e | ⟨k, e, n, hn, hlt, hw⟩
        · rw [hkb] at e; cases e
        · rw [hkb] at e; cases e
          exact ⟨n, by simp [List.mem_filter, hlt, hn], hlt, hw⟩

theorem round3_sound {lw : Bytes} : ∀ (nodes : List Node), NodesSat nodes lw → NodesSat (round3 nodes) lw
  | [], h => h
  | a :: rest, h => by
    have ih := round3_sound (lw := lw) rest
    rw [nodesSat_cons] at h
    simp only [round3]
    split
    · rename_i b r' hr
      rw [hr, nodesSat_cons] at ih
      split
      · rename_i hc
        simp only [Bool.and_eq_true] at hc
        rw [nodesSat_cons]
        rcases h with h | h
        · exact .inl (union_sat hc.1 hc.2 (.inl h))
        · exact (ih h).imp (fun hb => union_sat hc.1 hc.2 (.inr hb)) id
      · rw [nodesSat_cons, nodesSat_cons]
        exact h.imp id ih
    · rename_i hr
      rw [hr] at ih
      exact nodesSat_cons.2 (h.imp id ih)

theorem isEmptyBr_eq {a : Node} (h : isEmptyBr a = true) : a = .br [] := by
  match a, h with
  | .br [], _ => rfl

theorem round4_sound {lw : Bytes} : ∀ (nodes : List Node), NodesSat nodes lw → NodesSat (round4 nodes) lw
  | [], h => h
  | a :: rest, h => by
    have ih := round4_sound (lw := lw) rest
    rw [nodesSat_cons] at h
    simp only [round4]
    split
    · rename_i b r' hr
      rw [hr] at ih
      split
      · rename_i hc
        simp only [Bool.and_eq_true] at hc
        -- two empty matches: the first is the second
        rw [isEmptyBr_eq hc.1, ← isEmptyBr_eq hc.2] at h
        exact h.elim (fun hb => nodesSat_cons.2 (.inl hb)) ih
      · exact nodesSat_cons.2 (h.imp id ih)
    · rename_i hr
      rw [hr] at ih
      exact nodesSat_cons.2 (h.imp id ih)

/-! ### `factor`, recursively -/

theorem factorNodesWith_sound {rec} (hrec : RecSound rec) {bs : List (List Item)} {lw : Bytes}
    (h : BranchSat bs lw) : NodesSat (factorNodesWith rec bs) lw := by
  unfold factorNodesWith
  apply round4_sound
  apply round3_sound
  apply round2_sound hrec _ none [] (fun f hf => by cases hf)
  right
  exact round1_sound hrec bs [] false [] (fun m hm => by cases hm) h

theorem nodeReq_sound {nd : Node} {lw : Bytes} (h : NodeSat nd lw) : ∀ l ∈ nodeReq nd, hasSub lw l = true := by
  cases nd with
  | br items => exact h.req
  | fact _ req => exact h
  | cls _ => intro l hl; simp [nodeReq] at hl

theorem factorReq_sound : ∀ fuel, RecSound (factorReq fuel) := by
  intro fuel
  induction fuel with
  | zero => intro bs lw _ l hl; simp [factorReq] at hl
  | succ fuel ih =>
    intro bs lw h l hl
    simp only [factorReq] at hl
    obtain ⟨nd, hnd, hs⟩ := factorNodesWith_sound ih h
    match hn : factorNodesWith (factorReq fuel) bs, hnd, hl with
    | [nd'], hnd, hl =>
      have : nd = nd' := by simpa using hnd
      subst this
      exact nodeReq_sound hs l (by simpa [reqOfNodes] using hl)
    | [], hnd, _ => simp at hnd
    | _ :: _ :: _, _, hl => simp [reqOfNodes] at hl

/-! ### The top level: merging while reading, and the push -/

theorem clsReq_sound {k : List Nat} {lw : Bytes} (h : ∃ n ∈ k, n < 256 ∧ lw = [lowerByte n.toUInt8]) :
    ∀ l ∈ clsReq (some k), hasSub lw l = true := by
  obtain ⟨n, hn, _, hw⟩ := h
  intro l hl
  match k, hn, hl with
  | [c], hn, hl =>
    have : n = c := by simpa using hn
    subst this
    have : l = [lowerByte n.toUInt8] := by simpa [clsReq, toLower] using hl
    rw [this, hw]
    exact hasSub_refl _
  | [a, b], hn, hl =>
    simp only [clsReq] at hl
    split at hl
    · rename_i hcond
      have hl' : l = [lowerByte a.toUInt8] := by simpa [toLower] using hl
      have hn' : n = a ∨ n = b := by simpa using hn
      rw [hl', hw]
      rcases hn' with rfl | rfl
      · exact hasSub_refl _
      · rw [lower_pair hcond]
        exact hasSub_refl _
    · simp at hl
  | [], hn, _ => simp at hn
  | _ :: _ :: _ :: _, _, hl => simp [clsReq] at hl

theorem pushedReq_sound {b : List Item} {lw : Bytes} (h : Sat b lw) :
    ∀ l ∈ pushedReq b, hasSub lw l = true := by
  unfold pushedReq
  split
  · rename_i k req
    obtain ⟨x, lw', e, hp, hr⟩ := h.other_inv
    have := hr.nil_inv
    subst this
    obtain ⟨n, hn, hlt, hx⟩ := hp.2 k rfl
    exact clsReq_sound ⟨n, hn, hlt, by simp [e, hx]⟩
  · exact h.req

theorem topNodesReq_sound {nodes : List Node} {lw : Bytes} (h : NodesSat nodes lw) :
    ∀ l ∈ topNodesReq nodes, hasSub lw l = true := by
  obtain ⟨nd, hnd, hs⟩ := h
  match nodes, hnd with
  | [nd'], hnd =>
    have : nd = nd' := by simpa using hnd
    subst this
    cases nd with
    | br items => simpa [topNodesReq] using pushedReq_sound hs
    | fact lead req => simpa [topNodesReq, nodeReq, NodeSat] using hs
    | cls k =>
      cases k with
      | none =>
        intro l hl
        have : topNodesReq [Node.cls none] = [] := rfl
        rw [this] at hl
        cases hl
      | some k => simpa [topNodesReq] using clsReq_sound hs
  | [], hnd => simp at hnd
  | _ :: _ :: _, _ => intro l hl; simp [topNodesReq] at hl

theorem nodeIsCC_br {a : List Item} (h : branchIsCC a = true) : nodeIsCC (.br a) = true := by
  match a, h with
  | [x], h => simpa [nodeIsCC, branchIsCC] using h

theorem mergeCC_sat {a b : List Item} {lw : Bytes} (ha : branchIsCC a = true) (hb : branchIsCC b = true)
    (h : Sat a lw ∨ Sat b lw) : Sat (mergeCC a b) lw := by
  unfold mergeCC
  by_cases hc : (a == b && isSingleLit a) = true
  · rw [if_pos hc]
    simp only [Bool.and_eq_true, beq_iff_eq] at hc
    rcases h with h | h
    · exact h
    · rw [hc.1]; exact h
  · rw [if_neg hc]
    have hu := union_sat (lw := lw) (nodeIsCC_br ha) (nodeIsCC_br hb) (by simpa [NodeSat] using h)
    cases hk : unionChars (nodeChars (.br a)) (nodeChars (.br b)) with
    | some k =>
      rw [hk] at hu
      obtain ⟨n, hn, hlt, hw⟩ := hu
      simp only [classBranch]
      apply Sat.single_other
      refine ⟨fun _ hl => by simp at hl, ?_⟩
      intro k' hk'
      have : k' = k := by simpa using hk'.symm
      subst this
      exact ⟨n, hn, hlt, hw⟩
    | none =>
      simp only [classBranch]
      apply Sat.single_other
      exact ⟨fun _ hl => by simp at hl, fun k hk => by simp at hk⟩

theorem prepass_sound {lw : Bytes} : ∀ (rest acc : List (List Item)),
    BranchSat (acc ++ rest) lw → BranchSat (prepass acc rest) lw := by
  intro rest
  induction rest with
  | nil =>
    rintro acc ⟨b, hb, hs⟩
    exact ⟨b, by simpa [prepass] using hb, hs⟩
  | cons b rest ih =>
    intro acc h
    cases acc with
    | nil => exact ih [b] h
    | cons a acc =>
      obtain ⟨x, hx, hs⟩ := h
      simp only [List.cons_append, List.mem_cons, List.mem_append] at hx
      simp only [prepass]
      split
      · rename_i hc
        simp only [Bool.and_eq_true] at hc
        apply ih
        rcases hx with rfl | hx | rfl | hx
        · exact ⟨_, List.mem_cons_self, mergeCC_sat hc.1 hc.2 (.inl hs)⟩
        · exact ⟨x, by simp [hx], hs⟩
        · exact ⟨_, List.mem_cons_self, mergeCC_sat hc.1 hc.2 (.inr hs)⟩
        · exact ⟨x, by simp [hx], hs⟩
      · exact ih _ ⟨x, by rcases hx with rfl | hx | rfl | hx <;> simp [*], hs⟩

/-- Whatever `alternate()` requires of an alternation is a factor of every text one of its branches
    describes. -/
theorem altTopReq_sound {bs : List (List Item)} {lw : Bytes} (h : BranchSat bs lw) :
    ∀ l ∈ altTopReq bs, hasSub lw l = true := by
  have hp := prepass_sound bs [] h
  unfold altTopReq
  split
  · intro l hl; simp at hl
  · rename_i b hb
    rw [hb] at hp
    obtain ⟨b', hb', hs⟩ := hp
    have : b' = b := by simpa using hb'
    subst this
    exact pushedReq_sound hs
  · exact topNodesReq_sound (factorNodesWith_sound (factorReq_sound _) hp)

end UF.I2
