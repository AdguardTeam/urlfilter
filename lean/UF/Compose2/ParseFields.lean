import UF.Compose2.ParsePattern
import UF.Spec.DnsRewriteShape
/-
  A generic invariant principle for the option loop of
  `NewNetworkRule` (every `loadOption` case only writes some of the modifier fields), and its use for
  C10 on the complete parser: the `$dnsrewrite` of a parsed rule is a value `H`'s `loadDNSRewrite`
  accepted, hence has the published shape.
-/
namespace UF.I2
open UF Bytes E

/-- A property of rule records preserved by every field update the option loop can make. -/
structure FieldInv (px : ParseExt) (P : NetRule → Prop) : Prop where
  enabled : ∀ r x, P r → P { r with enabled := x }
  disabled : ∀ r x, P r → P { r with disabled := x }
  permTypes : ∀ r x, P r → P { r with permTypes := x }
  restrTypes : ∀ r x, P r → P { r with restrTypes := x }
  dns : ∀ r x y, P r → P { r with permDns := x, restrDns := y }
  domains : ∀ r x y, P r → P { r with permDomains := x, restrDomains := y }
  denyallow : ∀ r x, P r → P { r with denyallow := x }
  tags : ∀ r x y, P r → P { r with permTags := x, restrTags := y }
  clients : ∀ r x y, P r → P { r with permClients := x, restrClients := y }
  rewrite : ∀ r v rw, px.loadDNSRewrite v = some rw → P r → P { r with rewrite := some rw }

variable {px : ParseExt} {P : NetRule → Prop}

/-- A property preserved by arbitrary writes to the modifier fields is in particular preserved by
    the writes the loop makes. -/
theorem FieldInv.loopInv (hP : FieldInv px P) : LoopInv px P where
  enable := fun r _ _ => hP.enabled r _
  disable := fun r _ _ => hP.disabled r _
  noExtension := fun r => hP.enabled r _
  permType := fun r _ _ => hP.permTypes r _
  restrType := fun r _ _ => hP.restrTypes r _
  documentOnly := fun r => hP.permTypes r _
  dns := hP.dns
  domains := fun r _ p rs _ => hP.domains r p rs
  denyallow := hP.denyallow
  tags := fun r p rs _ _ => hP.tags r p rs
  clients := fun r p rs _ _ => hP.clients r p rs
  rewrite := hP.rewrite

/-- The whole of `NewNetworkRule`: a property preserved by the field updates of the option loop and
    by the two final writes (pattern, shortcut) holds of the parsed rule if it holds of the initial
    record. -/
theorem parseNetRule_finv (hP : FieldInv px P)
    (hpat : ∀ r x, P r → P { r with pattern := x }) (hsc : ∀ r x, P r → P { r with shortcut := x })
    {t : Bytes} {id : Int} {r : NetRule}
    (h0 : ∀ pat wl, P { text := t, whitelist := wl, listID := id, pattern := pat })
    (h : parseNetRule px t id = .ok r) : P r :=
  parseNetRule_loopInv hP.loopInv hpat hsc h0 h

/-- The rewrite of the record, if any, is a value the `$dnsrewrite` parser accepted. -/
def RewriteFrom (px : ParseExt) (r : NetRule) : Prop :=
  ∀ rw, r.rewrite = some rw → ∃ v, px.loadDNSRewrite v = some rw

theorem rewriteFrom_fieldInv (px : ParseExt) : FieldInv px (RewriteFrom px) where
  enabled := fun _ _ h => h
  disabled := fun _ _ h => h
  permTypes := fun _ _ h => h
  restrTypes := fun _ _ h => h
  dns := fun _ _ _ h => h
  domains := fun _ _ _ h => h
  denyallow := fun _ _ h => h
  tags := fun _ _ _ h => h
  clients := fun _ _ _ h => h
  rewrite := fun _ v rw hv _ rw' hrw' => ⟨v, by
    have : rw = rw' := by simpa using hrw'
    rw [← this]; exact hv⟩

theorem parseNetRule_rewriteFrom {px : ParseExt} {t : Bytes} {id : Int} {r : NetRule}
    (h : parseNetRule px t id = .ok r) : RewriteFrom px r :=
  parseNetRule_finv (rewriteFrom_fieldInv px) (fun _ _ h => h) (fun _ _ h => h)
    (fun _ _ rw hrw => by simp at hrw) h

end UF.I2
