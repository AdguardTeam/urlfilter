import UF.Compose2.Pat
import UF.Spec.Match
import UF.Proofs.ShortcutBytes
/-
  `NetworkRule.Match` with the pattern oracle instantiated by `modelPat`, and the
  reference of C04 with the pattern conjunct spelled out as the documented mask language.
-/
namespace UF.I2
open UF Bytes

/-- The pattern conjunct of the reference for mask rules: the documented mask language of the
    (stored) pattern accepts the target — the URL, or the bare hostname for hostname requests. -/
def specPatternMask (r : NetRule) (q : Request) : Bool :=
  MaskSpec.maskAccepts (MaskSpec.tokenize r.pattern) (r.isEnabled Facts.OptionMatchCase) (specTarget r q)

/-- The reference of C04 for mask rules, with NO oracle for the pattern: shortcut, every modifier as a
    set-membership statement (`specMatch`'s conjuncts), and the mask language of the pattern. -/
def specMatchFull (ext : Ext) (r : NetRule) (q : Request) : Bool :=
  hasSub q.urlLower r.shortcut &&
  specThirdParty r q &&
  specReqType r q.reqType &&
  specDenyallow ext r q &&
  specSourceDomain ext r q &&
  specDnsType r q &&
  specCTag r q &&
  specClient r q &&
  specPatternMask r q

/-- The same without the shortcut pre-check (C05: it is implied by the pattern). -/
def specMatchNoShortcut (ext : Ext) (r : NetRule) (q : Request) : Bool :=
  specThirdParty r q &&
  specReqType r q.reqType &&
  specDenyallow ext r q &&
  specSourceDomain ext r q &&
  specDnsType r q &&
  specCTag r q &&
  specClient r q &&
  specPatternMask r q

/-- The target `matchPattern` hands to the compiled pattern. -/
def matchTarget (r : NetRule) (q : Request) : Bytes :=
  if shouldMatchHostname r q then q.hostname else q.url

theorem matchPattern_withModelPat (ext : Ext) (r : NetRule) (q : Request) :
    matchPattern (withModelPat ext) r q =
      modelPatD r.pattern (r.isEnabled Facts.OptionMatchCase) (matchTarget r q) := rfl

/-- The reference's target is the implementation's target. -/
theorem specTarget_eq (r : NetRule) (q : Request) : specTarget r q = matchTarget r q := by
  unfold specTarget matchTarget shouldMatchHostname
  cases q.isHostnameRequest <;> simp

/-- Is the whole of `Match` decided by the models on this input?  Either the pattern answer is in the
    models' domain, or it is not needed (another conjunct already fails). -/
def matchDecided (ext : Ext) (r : NetRule) (q : Request) : Bool :=
  (modelPat r.pattern (r.isEnabled Facts.OptionMatchCase) (matchTarget r q)).isSome ||
  !(NetRule.matches { ext with pat := fun _ _ _ => true } r q)

/-- The modifiers' conjuncts of the reference do not look at the pattern oracle. -/
theorem specDenyallow_withModelPat (ext : Ext) (r : NetRule) (q : Request) :
    specDenyallow (withModelPat ext) r q = specDenyallow ext r q := rfl
theorem specSourceDomain_withModelPat (ext : Ext) (r : NetRule) (q : Request) :
    specSourceDomain (withModelPat ext) r q = specSourceDomain ext r q := rfl

theorem specMatch_withModelPat (ext : Ext) (r : NetRule) (q : Request)
    (hd : MaskDomain r.pattern (specTarget r q)) :
    specMatch (withModelPat ext) r q = specMatchFull ext r q := by
  unfold specMatch specMatchFull specPattern specPatternMask
  rw [specDenyallow_withModelPat, specSourceDomain_withModelPat, withModelPat_pat,
    modelPatD_mask _ hd]

theorem specMatchFull_noShortcut (ext : Ext) (r : NetRule) (q : Request) :
    specMatchFull ext ({ r with shortcut := [] } : NetRule) q = specMatchNoShortcut ext r q := by
  show (hasSub q.urlLower [] && specThirdParty r q && specReqType r q.reqType && specDenyallow ext r q &&
    specSourceDomain ext r q && specDnsType r q && specCTag r q && specClient r q && specPatternMask r q) =
    specMatchNoShortcut ext r q
  rw [hasSub_nil, Bool.true_and]
  rfl

end UF.I2
